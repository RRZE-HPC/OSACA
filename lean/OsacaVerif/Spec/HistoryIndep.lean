/-
  Specification side of C18.  Nothing here knows OSACA, `Gen` or the `History` model:
  history independence is stated for an arbitrary state-threading step function, and the
  executable oracle compares observed outputs (reports, state digests) position by position.
-/
namespace OsacaVerif.Spec.HistoryIndep

/-- run a sequence of requests, threading the state -/
def runFrom {σ ρ α : Type} (step : σ → ρ → σ × α) (s : σ) : List ρ → σ × List α
  | [] => (s, [])
  | r :: rs =>
    let a := step s r
    let rest := runFrom step a.1 rs
    (rest.1, a.2 :: rest.2)

/-- **History independence**: in every history, every request is answered as it would be
    answered first thing in the initial state (a fresh process). -/
def HistoryIndependent {σ ρ α : Type} (step : σ → ρ → σ × α) (s0 : σ) : Prop :=
  ∀ rs : List ρ, (runFrom step s0 rs).2 = rs.map (fun r => (step s0 r).2)

/-- the observable state (digest) never changes -/
def StatePreserved {σ ρ α δ : Type} (step : σ → ρ → σ × α) (obs : σ → δ) (s0 : σ) : Prop :=
  ∀ rs : List ρ, obs (runFrom step s0 rs).1 = obs s0

/-- executable oracle: first position at which two observation sequences differ
    (a missing element differs from everything) -/
def firstDiff {α : Type} [DecidableEq α] : List α → List α → Option Nat
  | [], [] => none
  | [], _ :: _ => some 0
  | _ :: _, [] => some 0
  | a :: as, b :: bs => if a = b then (firstDiff as bs).map (· + 1) else some 0

theorem firstDiff_none_iff {α : Type} [DecidableEq α] (a b : List α) : firstDiff a b = none ↔ a = b := by
  fun_induction firstDiff a b <;> simp_all

/-- executable oracle: first call after which some state digest differs from the pristine one.
    `after[i]` is the list of (key, digest) pairs observed after call `i`. -/
def firstPolluted {κ δ : Type} [DecidableEq κ] [DecidableEq δ] (pristine : List (κ × δ)) (after : List (List (κ × δ))) :
    Option Nat :=
  after.findIdx? (fun obs => obs.any (fun kd =>
    match pristine.find? (fun p => p.1 = kd.1) with
    | some p => decide (p.2 ≠ kd.2)
    | none => false))

end OsacaVerif.Spec.HistoryIndep
