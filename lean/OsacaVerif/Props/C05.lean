import OsacaVerif.Lemmas.LcdChar
import OsacaVerif.Lemmas.CycleNorm
import OsacaVerif.Lemmas.SpecCycles
/-
  C05 — Loop-carried dependencies are exactly the cross-iteration dependency cycles.
  (Model: `LCD.lcd`; independent oracle: `Spec.cycles`.)

  Proved here, for kernels of any length (`WFKernel`: strictly increasing line numbers):
  (the last two groups describe the entries through cycles of the stream, from `LCD.mem_lcd`; of the earlier
  groups they use only `offset_ok` and `post_dedup` — the description through simple paths of the doubled graph,
  `pathsFrom_sound` … `lcd_entry_shape`, stands beside them)
  * `offset_ok`, `double_wf`, `emissions_forward` — the doubled kernel is well-formed, its graph a DAG;
  * `pathsFrom_sound` / `pathsFrom_complete`, `fuel_suffices`, `lcd_paths_exact` — the search returns
    exactly the simple paths `i ⇝ i + offset`;
  * `entry_latency`, `post_dedup`, `post_represents` — the post-processing;
  * `path_increasing`, `winding1_sorted`, `lcd_entry_shape` — one boundary crossing, sorted normal form;
  * `dg_local`, `dg_local_copies` — the edge relation is a function of the stream segment;
  * `lcd_sound`, `lcd_complete`, `lcd_sound_normal`, `lcd_key_collision_free`, `lcd_reported_once` —
    the reported entries are exactly the winding-1 dependency cycles of the stream `k^ω`
    (`IsStreamCycle (streamDep …)`), each reported once with its members and latency sum.
  * `spec_cycles_iff_lcd`, `lcd_found_by_spec_cycles`, `spec_cycles_iff_lcd_doubled` — the executable
    oracle `Spec.cycles` (used by the harness on explicit edge lists) enumerates exactly the same
    `IsStreamCycle` objects: `lcd` and `Spec.cycles` agree as sets of (member lines, latency).
-/
namespace OsacaVerif.Props.C05
open OsacaVerif OsacaVerif.DG OsacaVerif.LCD

theorem foldl_max_ge (l : List Nat) (a : Nat) : a ≤ l.foldl max a ∧ ∀ x ∈ l, x ≤ l.foldl max a := by
  induction l generalizing a with
  | nil => exact ⟨Nat.le_refl _, fun _ h => nomatch h⟩
  | cons y ys ih =>
    obtain ⟨h1, h2⟩ := ih (max a y)
    refine ⟨Nat.le_trans (Nat.le_max_left a y) h1, fun x hx => ?_⟩
    rcases List.mem_cons.mp hx with rfl | hx
    · exact Nat.le_trans (Nat.le_max_right a x) h1
    · exact h2 x hx

/-- **offset_ok** (∀ kernels, ∀ floors): the renumbering offset of the second copy is strictly larger
    than every line number of the kernel, so `line + offset` never collides with a kernel line and
    `s ≥ offset ↦ s − offset` maps every node back to its own line. -/
theorem offset_ok (floor : Nat) (k : List Ins) : ∀ i ∈ k, i.line < offsetOf floor k := by
  intro i hi
  have h := (foldl_max_ge (k.map (·.line)) 0).2 i.line (List.mem_map.mpr ⟨i, hi, rfl⟩)
  exact Nat.lt_of_lt_of_le (Nat.lt_succ_of_le h) (Nat.le_max_right _ _)

theorem offset_ge_floor (floor : Nat) (k : List Ins) : floor ≤ offsetOf floor k := Nat.le_max_left _ _

/-- mapping back is exact: a node of the second copy maps to its original line, a node of the first
    copy is left alone -/
theorem map_back (floor : Nat) (k : List Ins) (i : Ins) (hi : i ∈ k) :
    let off := offsetOf floor k
    (if i.line + off ≥ off then i.line + off - off else i.line + off) = i.line ∧
    (if i.line ≥ off then i.line - off else i.line) = i.line := by
  exact ⟨by rw [if_pos (Nat.le_add_left _ _), Nat.add_sub_cancel],
    if_neg (Nat.not_le.mpr (offset_ok floor k i hi))⟩

/-- the two copies have disjoint line numbers -/
theorem double_disjoint (floor : Nat) (k : List Ins) :
    ∀ a ∈ k, ∀ b ∈ k, a.line ≠ b.line + offsetOf floor k := by
  intro a ha b _ h
  exact Nat.not_le.mpr (offset_ok floor k a ha) (h ▸ Nat.le_add_left _ _)

/-! ### the path search returns exactly the simple paths -/

/-- **pathsFrom_sound** (∀ edge lists, fuels, visited sets): every path the depth-first search
    returns is a genuine simple path from `cur` to `tgt` — consecutive elements are edges of `es`
    (`LCD.succs`) carrying the recorded weights, the last edge enters `tgt`, no vertex is repeated,
    `tgt` is not passed through — and it never enters a vertex of `visited`; it has at most `fuel`
    edges.  (`cur ∈ visited` is how the search is always called: `lcd` starts with `[i.line]`.) -/
theorem pathsFrom_sound (es : List Edge) (tgt fuel cur : Nat) (visited : List Nat) (hcur : cur ∈ visited)
    (p : List (Nat × Rat)) (hp : p ∈ pathsFrom es tgt fuel cur visited) :
    IsSimplePath es cur tgt p ∧ Avoids visited p ∧ p.length ≤ fuel := by
  obtain ⟨h1, h2, h3, h4, h5⟩ := (mem_pathsFrom es tgt fuel cur visited p).mp hp
  refine ⟨⟨h1, h2, ?_, fun v hv => (h4 v hv).1⟩, fun v hv => (h4 v hv).2, h5⟩
  obtain ⟨t, hv⟩ := verts_of_head h1
  rw [hv] at h3 h4 ⊢
  exact List.nodup_cons.mpr ⟨fun hm => (h4 cur hm).2 hcur, h3⟩

/-- **pathsFrom_complete**: every simple path `cur ⇝ tgt` with at most `fuel` edges that avoids
    `visited` is returned by the search — nothing is missed. -/
theorem pathsFrom_complete (es : List Edge) (tgt fuel cur : Nat) (visited : List Nat) (p : List (Nat × Rat))
    (hs : IsSimplePath es cur tgt p) (ha : Avoids visited p) (hl : p.length ≤ fuel) :
    p ∈ pathsFrom es tgt fuel cur visited := by
  obtain ⟨h1, h2, h3, h4⟩ := hs
  exact (mem_pathsFrom es tgt fuel cur visited p).mpr
    ⟨h1, h2, h3.sublist (List.tail_sublist _), fun v hv => ⟨h4 v hv, ha v hv⟩, hl⟩

/-- the search result *is* the set of simple paths of length ≤ fuel avoiding `visited` -/
theorem pathsFrom_iff (es : List Edge) (tgt fuel cur : Nat) (visited : List Nat) (hcur : cur ∈ visited)
    (p : List (Nat × Rat)) :
    p ∈ pathsFrom es tgt fuel cur visited ↔ IsSimplePath es cur tgt p ∧ Avoids visited p ∧ p.length ≤ fuel :=
  ⟨pathsFrom_sound es tgt fuel cur visited hcur p, fun ⟨a, b, c⟩ => pathsFrom_complete es tgt fuel cur visited p a b c⟩

-- non-vacuity: in the diamond 1→2→4, 1→3→4 (plus a back edge 3→1 and a load edge) both simple
-- paths 1 ⇝ 4 satisfy the predicate and are returned; the walk through the back edge is not simple
example :
    let e (a b : Nat) (w : Rat) : Edge := { src := ⟨a, false⟩, dst := ⟨b, false⟩, w := w }
    let es := [e 1 2 1, e 1 3 2, e 2 4 3, e 3 4 5, e 3 1 7, { src := ⟨1, true⟩, dst := ⟨1, false⟩, w := 9 }]
    IsSimplePath es 1 4 [(1, 1), (2, 3)] ∧ Avoids [1] [(1, 1), (2, 3)] ∧
    IsSimplePath es 1 4 [(1, 2), (3, 5)] ∧
    ¬ IsSimplePath es 1 4 [(1, 2), (3, 7), (1, 1), (2, 3)] ∧
    pathsFrom es 4 5 1 [1] = [[(1, 1), (2, 3)], [(1, 2), (3, 5)]] := by
  decide +kernel

/-! ### the post-processing: members, latency, de-duplication -/

/-- the sorted (line, latency) list of `post` is a permutation-invariant normal form: inserting keeps
    the multiset -/
theorem insertPair_perm (x : Nat × Rat) (l : List (Nat × Rat)) : (insertPair x l).Perm (x :: l) :=
  insertPair_perm' x l

theorem sortPairs_perm (l : List (Nat × Rat)) : (sortPairs l).Perm l := sortPairs_perm' l

/-- **entry_latency** (∀ offsets, ∀ path lists): every reported entry comes from one of the found
    paths `p`; its `(lines, lats)` are that path's normal form (`normPath`: edges mapped back with
    `s ≥ off ↦ s − off`, sorted); hence its `lines` are exactly the path's source vertices mapped
    back (a permutation of them), listed ascending, its `lats` are the edge weights in that order and
    its `latency` is the sum of the edge weights along the path (summed in ℚ, order irrelevant). -/
theorem entry_latency (off : Nat) (paths : List (List (Nat × Rat))) (e : Entry) (he : e ∈ post off paths) :
    ∃ p ∈ paths, e.lines = (normPath off p).map (·.1) ∧ e.lats = (normPath off p).map (·.2) ∧
      e.latency = (p.map (·.2)).sum ∧ e.latency = e.lats.sum ∧
      e.lines.Perm ((verts p).map (backLine off)) ∧ e.lines.Pairwise (· ≤ ·) ∧
      (e.lines.zip e.lats).Perm (p.map (back off)) := by
  obtain ⟨p, hp, rfl⟩ := (mem_post off paths e).mp he
  have hperm := normPath_perm off p
  refine ⟨p, hp, rfl, rfl, normPath_sum off p, rfl, ?_, le2_lines (sortPairs_sorted _), ?_⟩
  · refine (hperm.map (·.1)).trans (List.Perm.of_eq ?_)
    rw [verts, List.map_map, List.map_map]; rfl
  · exact (List.Perm.of_eq (zip_fst_snd _)).trans hperm

/-- **post_dedup**: no two reported entries have the same (lines, latencies) lists — each normal
    form is reported at most once. -/
theorem post_dedup (off : Nat) (paths : List (List (Nat × Rat))) :
    (post off paths).Pairwise (fun a b => ¬ (a.lines = b.lines ∧ a.lats = b.lats)) := by
  rw [post_eq, List.pairwise_map]
  refine (dedup_nodup [] _).imp ?_
  intro a b hab h
  exact hab (pairs_ext h.1 h.2)

/-- **post_represents**: every found path is represented — there is an entry carrying its normal
    form — and by exactly one entry (`countP … = 1`). -/
theorem post_represents (off : Nat) (paths : List (List (Nat × Rat))) (p : List (Nat × Rat)) (hp : p ∈ paths) :
    (∃ e ∈ post off paths, e.lines = (normPath off p).map (·.1) ∧ e.lats = (normPath off p).map (·.2)) ∧
    (post off paths).countP (fun e => decide (e.lines = (normPath off p).map (·.1) ∧
      e.lats = (normPath off p).map (·.2))) = 1 := by
  have hmem : normPath off p ∈ post.dedup [] (paths.map (normPath off)) :=
    (mem_dedup [] _ _).mpr ⟨List.mem_map_of_mem hp, List.not_mem_nil⟩
  refine ⟨⟨mkEntry (normPath off p), (mem_post off paths _).mpr ⟨p, hp, rfl⟩, rfl, rfl⟩, ?_⟩
  rw [post_eq, List.countP_map]
  have hc := (dedup_nodup [] (paths.map (normPath off))).count (a := normPath off p)
  rw [if_pos hmem, List.count_eq_countP] at hc
  rw [← hc]
  refine List.countP_congr fun x _ => ?_
  rw [Function.comp_apply, decide_eq_true_iff, beq_iff_eq]
  exact ⟨fun h => pairs_ext h.1 h.2, fun h => h ▸ ⟨rfl, rfl⟩⟩

-- non-vacuity: two rotations of the same cycle (found from line 3 and from line 5) and a second
-- cycle: mapped back and sorted the first two coincide and are reported once, latency 1 + 4 = 5
example :
    (post 1000 [[(3, 1), (5, 4)], [(5, 4), (1003, 1)], [(4, 2)]]).map (fun e => (e.lines, e.lats, e.latency)) =
      [([3, 5], [1, 4], 5), ([4], [2], 2)] := by
  decide +kernel

/-! ### forward edges, one boundary crossing, sorted normal form -/

/-- **emissions_forward** (∀ kernels with strictly increasing lines): every edge of the dependency
    graph whose source is an instruction node goes to a strictly larger line (the graph is a DAG in
    line order); from `DG.emissions_shape` through `dedupLast_subset` (`LCD.create_forward`). -/
theorem emissions_forward (isa : Isa) (fd : Bool) (par : Params) (k : List Ins) (hwf : WFKernel k) :
    ForwardEdges (create isa fd par k) := create_forward isa fd par k hwf

theorem create_nodes (isa : Isa) (fd : Bool) (par : Params) (k : List Ins) (hwf : WFKernel k) :
    ∀ e ∈ create isa fd par k, e.dst.load = false ∧ (∃ p ∈ k, p.line = e.src.line) ∧ (∃ c ∈ k, c.line = e.dst.line) := by
  intro e he
  have := emissions_shape isa fd par k hwf e (dedupLast_subset _ e he)
  exact ⟨this.1, this.2.2.2⟩

/-- **double_wf**: the doubled kernel (second copy renumbered by the offset) again has strictly
    increasing lines — because the offset exceeds every line (`offset_ok`). -/
theorem double_wf (floor : Nat) (k : List Ins) (hwf : WFKernel k) : WFKernel (double (offsetOf floor k) k) :=
  wf_double _ k hwf (offset_ok floor k)

/-- **path_increasing**: on a graph with forward edges every path the search returns has strictly
    increasing vertices, all smaller than the target. -/
theorem path_increasing (es : List Edge) (hf : ForwardEdges es) (tgt fuel cur : Nat) (visited : List Nat)
    (p : List (Nat × Rat)) (hp : p ∈ pathsFrom es tgt fuel cur visited) :
    (verts p ++ [tgt]).Pairwise (· < ·) :=
  walk_increasing es hf tgt p ((mem_pathsFrom es tgt fuel cur visited p).mp hp).2.1

/-- **winding1_sorted**: a path `i ⇝ i + off` over forward edges crosses from the first kernel copy
    (`< off`) to the second (`≥ off`) exactly once — it *is* its first-copy part followed by its
    second-copy part; mapped back modulo `off` and sorted it is the second part followed by the first
    (listed from its smallest line it is ascending); the resulting lines are strictly ascending, so
    every instruction occurs at most once, and the path's vertices are recovered from its start and
    its member lines: the key (the line list) determines the member set and, with the start, the path. -/
theorem winding1_sorted (es : List Edge) (hf : ForwardEdges es) (off i fuel : Nat) (visited : List Nat)
    (p : List (Nat × Rat)) (hp : p ∈ pathsFrom es (i + off) fuel i visited) :
    p = firstCopy off p ++ secondCopy off p ∧
    normPath off p = (secondCopy off p).map (back off) ++ firstCopy off p ∧
    ((normPath off p).map (·.1)).Pairwise (· < ·) ∧
    verts p = ((normPath off p).map (·.1)).filter (fun l => i ≤ l) ++
      (((normPath off p).map (·.1)).filter (fun l => l < i)).map (· + off) := by
  obtain ⟨hpw, hb⟩ := winding_bounds off i p (path_increasing es hf (i + off) fuel i visited p hp)
    ((mem_pathsFrom es (i + off) fuel i visited p).mp hp).1
  obtain ⟨h1, h2, h3⟩ := winding_norm off i p hpw hb
  exact ⟨h1, h2, h3, verts_of_lines off i p hpw hb⟩

/-! ### the search on the doubled graph: fuel, the exact path set, the shape of the entries -/

/-- the doubled graph the LCD search runs on -/
def lcdGraph (isa : Isa) (fd : Bool) (par : Params) (floor : Nat) (k : List Ins) : List Edge :=
  create isa fd par (double (offsetOf floor k) k)

/-- **fuel_suffices**: in the doubled graph of a well-formed kernel every simple path has at most
    `2·|k|` edges, so the fuel `2·|k| + 1` of `lcd` never cuts a path off. -/
theorem fuel_suffices (isa : Isa) (fd : Bool) (par : Params) (floor : Nat) (k : List Ins) (hwf : WFKernel k)
    (src tgt : Nat) (p : List (Nat × Rat)) (hp : IsSimplePath (lcdGraph isa fd par floor k) src tgt p) :
    p.length ≤ 2 * k.length := by
  obtain ⟨_, hw, hn, _⟩ := hp
  have hsub : verts p ⊆ (double (offsetOf floor k) k).map (·.line) := fun v hv => by
    obtain ⟨x, hx, rfl⟩ := List.mem_map.mp hv
    obtain ⟨m, w, hmw⟩ := walk_mem_succs _ _ p hw x hx
    obtain ⟨_, ⟨q, hq, hql⟩, _⟩ := create_nodes isa fd par _ (double_wf floor k hwf) _ ((mem_succs _ _ _ _).mp hmw)
    exact List.mem_map.mpr ⟨q, hq, hql⟩
  have := hn.length_le_of_subset hsub
  rwa [length_verts, List.length_map, double_length] at this

/-- **lcd_paths_exact**: for a well-formed kernel the paths `lcd` hands to the post-processing are
    exactly the simple paths `line ⇝ line + offset` of the doubled graph, for the lines of the kernel
    (no fuel bound left in the statement). -/
theorem lcd_paths_exact (isa : Isa) (fd : Bool) (par : Params) (floor : Nat) (k : List Ins) (hwf : WFKernel k)
    (i : Ins) (p : List (Nat × Rat)) :
    p ∈ pathsFrom (lcdGraph isa fd par floor k) (i.line + offsetOf floor k) (2 * k.length + 1) i.line [i.line] ↔
      IsSimplePath (lcdGraph isa fd par floor k) i.line (i.line + offsetOf floor k) p := by
  rw [pathsFrom_iff _ _ _ _ _ List.mem_cons_self]
  exact ⟨fun h => h.1, fun h => ⟨h, avoids_src h, Nat.le_succ_of_le (fuel_suffices isa fd par floor k hwf _ _ p h)⟩⟩

/-- **lcd_entry_shape**: every entry `lcd` reports for a well-formed kernel comes from a simple
    path `i ⇝ i + offset` (for an instruction `i` of the kernel) in the doubled graph; its lines are
    strictly ascending (each member once), they are that path's vertices mapped back, and its
    latency is the sum of the path's edge weights. -/
theorem lcd_entry_shape (isa : Isa) (fd : Bool) (par : Params) (floor : Nat) (k : List Ins) (hwf : WFKernel k)
    (e : Entry) (he : e ∈ lcd isa fd par floor k) :
    ∃ i ∈ k, ∃ p, IsSimplePath (lcdGraph isa fd par floor k) i.line (i.line + offsetOf floor k) p ∧
      e.lines = (normPath (offsetOf floor k) p).map (·.1) ∧ e.lats = (normPath (offsetOf floor k) p).map (·.2) ∧
      e.lines.Pairwise (· < ·) ∧ e.lines.Perm ((verts p).map (backLine (offsetOf floor k))) ∧
      e.latency = (p.map (·.2)).sum := by
  rw [lcd_eq] at he
  obtain ⟨p, hp, h1, h2, h3, _, h5, _, _⟩ := entry_latency _ _ e he
  obtain ⟨i, hi, hp⟩ := List.mem_flatMap.mp hp
  -- `lcdGraph` is by definition the graph `create` of the doubled kernel
  have hf : ForwardEdges (lcdGraph isa fd par floor k) := emissions_forward isa fd par _ (double_wf floor k hwf)
  have hw := winding1_sorted _ hf _ _ _ _ p hp
  refine ⟨i, hi, p, (lcd_paths_exact isa fd par floor k hwf i p).mp hp, h1, h2, ?_, h5, h3⟩
  rw [h1]; exact hw.2.2.1

-- non-vacuity: a concrete well-formed kernel (lines 3 < 4 < 7), its doubled kernel is well-formed,
-- its graph has forward edges; a concrete winding-1 path and its normal form
example :
    let r (n : String) : Op := .reg { name := Text.ofString n }
    let mk (line : Nat) (src dst sd : List Op) (lat : Rat) : Ins :=
      { line := line, src := src, dst := dst, srcDst := sd, lat := lat, latWoLoad := none, hasLd := false,
        isLd := false, changes := [], changesPost := [] }
    let k := [mk 3 [r "rbx"] [r "rax"] [] 4, mk 4 [r "rax"] [r "rcx"] [] 1, mk 7 [r "rcx"] [r "rbx"] [] 2]
    WFKernel k ∧ WFKernel (double (offsetOf 1000 k) k) ∧ ForwardEdges (create .x86 false {} (double (offsetOf 1000 k) k)) ∧
    pathsFrom (lcdGraph .x86 false {} 1000 k) 1004 7 4 [4] = [[(4, 1), (7, 2), (1003, 4)]] ∧
    normPath 1000 [(4, 1), (7, 2), (1003, 4)] = [(3, 4), (4, 1), (7, 2)] ∧
    (lcd .x86 false {} 1000 k).map (fun e => (e.lines, e.latency)) = [([3, 4, 7], 7)] := by
  decide +kernel

/-! ### locality of the edge relation -/

/-- **dg_local** (∀ well-formed kernels, ∀ decompositions `K = pre ++ p :: seg ++ c :: more`): the
    edge `p → c` is in the graph of `K` with weight `w` iff `depW p seg c = some w`, where `depW`
    looks only at the producer, the segment strictly between, and the consumer — never at `pre` or
    `more`, and never at line numbers (`depW_erase`). -/
theorem dg_local (isa : Isa) (fd : Bool) (par : Params) (pre : List Ins) (p : Ins) (seg : List Ins) (c : Ins)
    (more : List Ins) (hwf : WFKernel (pre ++ p :: (seg ++ c :: more))) (w : Rat) :
    (({ src := ⟨p.line, false⟩, dst := ⟨c.line, false⟩, w := w } : Edge) ∈
        create isa fd par (pre ++ p :: (seg ++ c :: more)) ↔ depW isa fd par p seg c = some w) ∧
    depW isa fd par (eraseLine p) (seg.map eraseLine) (eraseLine c) = depW isa fd par p seg c :=
  ⟨edge_local isa fd par pre p seg c more hwf w, depW_erase isa fd par p seg c⟩

/-- **dg_local_copies**: in the doubled kernel the sub-graphs on the first copy and on the second
    copy both coincide with the graph of the kernel itself: the edge `p → c` of `k`, the edge
    `p → c` of the first copy and the edge `p + off → c + off` of the second copy exist together and
    carry the same weight. -/
theorem dg_local_copies (isa : Isa) (fd : Bool) (par : Params) (floor : Nat) (pre : List Ins) (p : Ins)
    (seg : List Ins) (c : Ins) (more : List Ins) (hwf : WFKernel (pre ++ p :: (seg ++ c :: more))) (w : Rat) :
    let k := pre ++ p :: (seg ++ c :: more)
    let off := offsetOf floor k
    ((({ src := ⟨p.line, false⟩, dst := ⟨c.line, false⟩, w := w } : Edge) ∈ create isa fd par k) ↔
      depW isa fd par p seg c = some w) ∧
    ((({ src := ⟨p.line, false⟩, dst := ⟨c.line, false⟩, w := w } : Edge) ∈ create isa fd par (double off k)) ↔
      depW isa fd par p seg c = some w) ∧
    ((({ src := ⟨p.line + off, false⟩, dst := ⟨c.line + off, false⟩, w := w } : Edge) ∈
      create isa fd par (double off k)) ↔ depW isa fd par p seg c = some w) := by
  intro k off
  have hwfK := double_wf floor k hwf
  refine ⟨edge_local isa fd par pre p seg c more hwf w, ?_, ?_⟩
  · have e : double off k = pre ++ p :: (seg ++ c :: (more ++ k.map (fun i => { i with line := i.line + off }))) := by
      simp only [double, k, List.append_assoc, List.cons_append]
    exact e ▸ edge_local isa fd par pre p seg c _ (e ▸ hwfK) w
  · let sh : Ins → Ins := fun i => { i with line := i.line + off }
    have e : double off k = (k ++ pre.map sh) ++ sh p :: (seg.map sh ++ sh c :: more.map sh) := by
      simp only [double, k, sh, List.map_append, List.map_cons, List.append_assoc]
    -- `depW` does not look at line numbers
    have h2 : depW isa fd par (sh p) (seg.map sh) (sh c) = depW isa fd par p seg c := by
      rw [← depW_erase isa fd par (sh p), ← depW_erase isa fd par p, List.map_map]
      rfl
    exact h2 ▸ e ▸ edge_local isa fd par (k ++ pre.map sh) (sh p) (seg.map sh) (sh c) (more.map sh) (e ▸ hwfK) w

/-! ### the reported entries are exactly the winding-1 dependency cycles of the stream -/

/-- members of a stream cycle as (line of the body instruction, edge latency leaving it) -/
def cycleMembers (k : List Ins) (a : List (Nat × Rat)) : List (Nat × Rat) :=
  a.map (fun x => (lineAt k (x.1 % k.length), x.2))

/-- **lcd_sound** (∀ well-formed kernels): every reported entry is a dependency cycle of the
    infinite repetition of the body — an ascending list of stream positions starting inside the
    first iteration, each depending (`streamDep`, the dependency relation of `k^ω`) on the previous
    one and closed by the dependency of the first instruction's next occurrence on the last; the
    entry's (line, latency) pairs are exactly the cycle's members and its latency is the sum of the
    edge latencies along the cycle. -/
theorem lcd_sound (isa : Isa) (fd : Bool) (par : Params) (floor : Nat) (k : List Ins) (hwf : WFKernel k)
    (e : Entry) (he : e ∈ lcd isa fd par floor k) :
    ∃ a, IsStreamCycle (streamDep isa fd par k) k.length a ∧ StartsBelow k.length a ∧
      (e.lines.zip e.lats).Perm (cycleMembers k a) ∧ e.latency = (a.map (·.2)).sum := by
  obtain ⟨a, hc, hst, rfl⟩ := (mem_lcd isa fd par floor k hwf (offset_ok floor k) e).mp he
  exact ⟨a, hc, hst, entry_of_cycle k a (cycle_lt_two hc hst)⟩

/-- **lcd_complete** (∀ well-formed kernels): conversely every dependency cycle of the stream that
    starts inside the first iteration is reported: there is an entry with exactly its members and
    the sum of its edge latencies.  (That no cycle is reported twice is `lcd_reported_once`.) -/
theorem lcd_complete (isa : Isa) (fd : Bool) (par : Params) (floor : Nat) (k : List Ins) (hwf : WFKernel k)
    (a : List (Nat × Rat)) (hcyc : IsStreamCycle (streamDep isa fd par k) k.length a) (hstart : StartsBelow k.length a) :
    ∃ e ∈ lcd isa fd par floor k, (e.lines.zip e.lats).Perm (cycleMembers k a) ∧ e.latency = (a.map (·.2)).sum :=
  ⟨_, (mem_lcd isa fd par floor k hwf (offset_ok floor k) _).mpr ⟨a, hcyc, hstart, rfl⟩,
    entry_of_cycle k a (cycle_lt_two hcyc hstart)⟩

/-! ### each cycle is reported once: the key (the line list) determines the entry -/

/-- **lcd_sound_normal** (∀ well-formed kernels): every reported entry *is*, literally, a dependency
    cycle of the stream in normal form: positions `b₀ < b₁ < … < bₘ₋₁` inside the body, each
    depending on the previous one and `b₀`'s next occurrence depending on `bₘ₋₁`; the entry's lines
    are the lines at these positions (in this order), its latencies the edge latencies leaving them. -/
theorem lcd_sound_normal (isa : Isa) (fd : Bool) (par : Params) (floor : Nat) (k : List Ins) (hwf : WFKernel k)
    (e : Entry) (he : e ∈ lcd isa fd par floor k) :
    ∃ b, IsStreamCycle (streamDep isa fd par k) k.length b ∧ (∀ y ∈ b, y.1 < k.length) ∧
      (verts b).Pairwise (· < ·) ∧ e.lines = b.map (fun y => lineAt k y.1) ∧ e.lats = b.map (·.2) ∧
      e.latency = (b.map (·.2)).sum := by
  obtain ⟨a, hc, hst, rfl⟩ := (mem_lcd isa fd par floor k hwf (offset_ok floor k) e).mp he
  obtain ⟨hbc, hblt, hbinc⟩ := cycle_normal _ k.length (streamDep_periodic isa fd par k) a hc hst
  exact ⟨_, hbc, hblt, hbinc, toLine_lines k _, toLine_lats k _, congrArg List.sum (toLine_lats k _)⟩

/-- **lcd_key_collision_free**: the member lines determine the entry — two reported entries with the
    same line list have the same latencies (they are the same cycle).  So keying the result by the
    joined line numbers, as the code does, loses nothing. -/
theorem lcd_key_collision_free (isa : Isa) (fd : Bool) (par : Params) (floor : Nat) (k : List Ins) (hwf : WFKernel k)
    (e1 e2 : Entry) (h1 : e1 ∈ lcd isa fd par floor k) (h2 : e2 ∈ lcd isa fd par floor k)
    (hlines : e1.lines = e2.lines) : e1.lats = e2.lats ∧ e1.latency = e2.latency := by
  obtain ⟨b1, hc1, hlt1, _, hl1, ht1, hs1⟩ := lcd_sound_normal isa fd par floor k hwf e1 h1
  obtain ⟨b2, hc2, hlt2, _, hl2, ht2, hs2⟩ := lcd_sound_normal isa fd par floor k hwf e2 h2
  have hv : verts b1 = verts b2 := by
    apply map_inj_on (lineAt k)
    · intro x hx y hy hxy
      obtain ⟨x', hx', rfl⟩ := List.mem_map.mp hx
      obtain ⟨y', hy', rfl⟩ := List.mem_map.mp hy
      exact wf_lineAt_inj hwf (hlt1 x' hx') (hlt2 y' hy') hxy
    · rw [verts, verts, List.map_map, List.map_map]
      exact hl1.symm.trans (hlines.trans hl2)
  obtain rfl := cycle_determined hc1 hc2 hv
  exact ⟨ht1.trans ht2.symm, hs1.trans hs2.symm⟩

/-- **lcd_reported_once**: no two reported entries have the same member lines — each dependency
    cycle (as a set of member instructions) is reported exactly once. -/
theorem lcd_reported_once (isa : Isa) (fd : Bool) (par : Params) (floor : Nat) (k : List Ins) (hwf : WFKernel k) :
    (lcd isa fd par floor k).Pairwise (fun a b => a.lines ≠ b.lines) := by
  have hd : (lcd isa fd par floor k).Pairwise (fun a b => ¬ (a.lines = b.lines ∧ a.lats = b.lats)) :=
    post_dedup _ _
  refine hd.imp_of_mem ?_
  intro a b ha hb hab hl
  exact hab ⟨hl, (lcd_key_collision_free isa fd par floor k hwf a b ha hb hl).1⟩

/-- **the reported entries, by member lines and latency, are exactly the normal-form stream cycles**
    (`lcd_sound_normal` and its converse: a normal-form cycle is its own normal form, `normPath_self`) -/
theorem lcd_normal_iff (isa : Isa) (fd : Bool) (par : Params) (floor : Nat) (k : List Ins) (hwf : WFKernel k)
    (lines : List Nat) (lat : Rat) :
    (∃ e ∈ lcd isa fd par floor k, e.lines = lines ∧ e.latency = lat) ↔
      ∃ b, IsStreamCycle (streamDep isa fd par k) k.length b ∧ (∀ y ∈ b, y.1 < k.length) ∧
        lines = b.map (fun y => lineAt k y.1) ∧ lat = (b.map (·.2)).sum := by
  constructor
  · rintro ⟨e, he, rfl, rfl⟩
    obtain ⟨b, h1, h2, _, h4, _, h6⟩ := lcd_sound_normal isa fd par floor k hwf e he
    exact ⟨b, h1, h2, h4, h6⟩
  · rintro ⟨b, hc, hlt, rfl, rfl⟩
    have he := (mem_lcd isa fd par floor k hwf (offset_ok floor k) _).mpr
      ⟨b, hc, startsBelow_of_lt hc hlt, rfl⟩
    rw [normPath_self _ b hlt (cycle_increasing hc)] at he
    exact ⟨_, he, toLine_lines k b, congrArg List.sum (toLine_lats k b)⟩

-- non-vacuity: in the three-instruction ring (3 → 4 → 7 → 3') the stream positions 1 → 2 → 3 (= 0 one
-- iteration later) → 4 (= 1 one iteration later) form a cycle starting inside the body; its members
-- are the lines 4, 7, 3 with the latencies 1, 2, 4 — the entry `lcd` reports has lines [3, 4, 7], latency 7
example :
    let r (n : String) : Op := .reg { name := Text.ofString n }
    let mk (line : Nat) (src dst sd : List Op) (lat : Rat) : Ins :=
      { line := line, src := src, dst := dst, srcDst := sd, lat := lat, latWoLoad := none, hasLd := false,
        isLd := false, changes := [], changesPost := [] }
    let k := [mk 3 [r "rbx"] [r "rax"] [] 4, mk 4 [r "rax"] [r "rcx"] [] 1, mk 7 [r "rcx"] [r "rbx"] [] 2]
    IsStreamCycle (streamDep .x86 false {} k) 3 [(1, 1), (2, 2), (3, 4)] ∧ StartsBelow 3 [(1, (1 : Rat)), (2, 2), (3, 4)] ∧
    cycleMembers k [(1, 1), (2, 2), (3, 4)] = [(4, 1), (7, 2), (3, 4)] ∧
    ¬ IsStreamCycle (streamDep .x86 false {} k) 3 [(1, 1), (3, 4)] := by
  decide +kernel

-- non-vacuity: a two-instruction accumulation loop has exactly one loop-carried cycle
example :
    let r (n : String) : Op := .reg { name := Text.ofString n }
    let mk (line : Nat) (src dst sd : List Op) (lat : Rat) : Ins :=
      { line := line, src := src, dst := dst, srcDst := sd, lat := lat, latWoLoad := none, hasLd := false,
        isLd := false, changes := [], changesPost := [] }
    (lcd .x86 false {} 1000 [mk 3 [r "xmm1"] [] [r "xmm0"] 4, mk 4 [r "rax"] [] [r "rbx"] 1]).map
      (fun e => (e.lines, e.latency)) = [([3], 4), ([4], 1)] := by
  decide +kernel

/-! ### the executable oracle `Spec.cycles` enumerates the same cycles -/

/-- instruction → instruction edges of a dependency graph as explicit weighted edges over lines -/
def instrEdges (es : List Edge) : List Spec.WEdge :=
  es.filterMap fun e => if !e.src.load && !e.dst.load then some ⟨e.src.line, e.dst.line, e.w⟩ else none

theorem mem_instrEdges (es : List Edge) (e : Spec.WEdge) :
    e ∈ instrEdges es ↔ (e.dst, e.w) ∈ succs es e.src := by
  rw [mem_succs]
  simp only [instrEdges, List.mem_filterMap]
  constructor
  · rintro ⟨⟨⟨sl, sb⟩, ⟨dl, db⟩, gw⟩, hg, h⟩
    split at h
    · rename_i hc
      simp only [Bool.and_eq_true, Bool.not_eq_true'] at hc
      obtain ⟨rfl, rfl⟩ := hc
      obtain rfl := Option.some.inj h
      exact hg
    · cases h
  · exact fun h => ⟨_, h, rfl⟩

/-- `intra`: the instruction → instruction edges of the kernel's own graph -/
def intraOf (isa : Isa) (fd : Bool) (par : Params) (k : List Ins) : List Spec.WEdge :=
  instrEdges (create isa fd par k)

/-- `cross`: the edges of the doubled kernel from the first copy into the second, target mapped back -/
def crossOf (isa : Isa) (fd : Bool) (par : Params) (floor : Nat) (k : List Ins) : List Spec.WEdge :=
  (instrEdges (lcdGraph isa fd par floor k)).filterMap fun e =>
    if e.src < offsetOf floor k ∧ offsetOf floor k ≤ e.dst then
      some ⟨e.src, e.dst - offsetOf floor k, e.w⟩ else none

/-- `intra` as the harness extracts it: the edges of the doubled kernel inside the first copy -/
def intraDoubledOf (isa : Isa) (fd : Bool) (par : Params) (floor : Nat) (k : List Ins) : List Spec.WEdge :=
  (instrEdges (lcdGraph isa fd par floor k)).filter fun e =>
    decide (e.src < offsetOf floor k ∧ e.dst < offsetOf floor k)

theorem mem_crossOf (isa : Isa) (fd : Bool) (par : Params) (floor : Nat) (k : List Ins) (e : Spec.WEdge) :
    e ∈ crossOf isa fd par floor k ↔
      e.src < offsetOf floor k ∧ (e.dst + offsetOf floor k, e.w) ∈ succs (lcdGraph isa fd par floor k) e.src := by
  simp only [crossOf, List.mem_filterMap]
  constructor
  · rintro ⟨g, hg, h⟩
    split at h
    · rename_i hc
      obtain rfl := Option.some.inj h
      exact ⟨hc.1, by rw [Nat.sub_add_cancel hc.2]; exact (mem_instrEdges _ g).mp hg⟩
    · cases h
  · rintro ⟨h1, h2⟩
    refine ⟨⟨e.src, e.dst + offsetOf floor k, e.w⟩, (mem_instrEdges _ _).mpr h2, ?_⟩
    rw [if_pos ⟨h1, Nat.le_add_left _ _⟩, Nat.add_sub_cancel]

theorem lines_eq_range (k : List Ins) : k.map (·.line) = (List.range k.length).map (lineAt k) := by
  apply List.ext_getElem
  · simp
  · intro i h1 h2
    have hi : i < k.length := by simpa using h1
    simp [lineAt, hi]

theorem succs_body_iff (isa : Isa) (fd : Bool) (par : Params) (k : List Ins) (hwf : WFKernel k) (x y : Nat)
    (hxy : x < y) (hy : y < k.length) (w : Rat) :
    (lineAt k y, w) ∈ succs (create isa fd par k) (lineAt k x) ↔ streamDep isa fd par k x y = some w :=
  succs_window isa fd par hwf (sAt_lt k) x y hxy hy w

theorem double_pos_split (floor : Nat) (k : List Ins) (t : Nat) (ht : t < 2 * k.length) :
    (t < k.length ∧ lineAt (double (offsetOf floor k) k) t = lineAt k t ∧ lineAt k t < offsetOf floor k) ∨
    (k.length ≤ t ∧ lineAt (double (offsetOf floor k) k) t = lineAt k (t - k.length) + offsetOf floor k) :=
  double_pos (offset_ok floor k) t ht

/-- **the explicit edge lists represent the stream relation**: `intraOf` / `crossOf` of a well-formed
    kernel satisfy `EdgeSpec` for `streamDep k`, the body length and the line map of `k`. -/
theorem edgeSpec_lcd (isa : Isa) (fd : Bool) (par : Params) (floor : Nat) (k : List Ins) (hwf : WFKernel k) :
    EdgeSpec (streamDep isa fd par k) k.length (lineAt k) (intraOf isa fd par k) (crossOf isa fd par floor k) where
  mono := fun _ _ hxy hy => wf_lineAt_lt hwf hxy hy
  intra_pos := by
    intro e he
    -- `intraOf` is by definition `instrEdges` of the body's own graph, and the body shows its own stream
    exact succs_window_pos isa fd par hwf (sAt_lt k) _ _ _ ((mem_instrEdges _ e).mp he)
  intra_mem := by
    intro x y w hxy hy hd
    exact (mem_instrEdges _ _).mpr ((succs_body_iff isa fd par k hwf x y hxy hy w).mpr hd)
  cross_pos := by
    intro e he
    obtain ⟨hsrc, hs⟩ := (mem_crossOf isa fd par floor k e).mp he
    obtain ⟨x, y, hxy, hy, hlx, hly, hd⟩ :=
      succs_window_pos isa fd par (double_wf floor k hwf) (window_double _ k) _ _ _ hs
    rw [double_length] at hy
    rw [← hlx] at hsrc
    obtain ⟨hx, hx1⟩ := double_first_of_lt (offset_ok floor k) x (Nat.lt_trans hxy hy) hsrc
    obtain ⟨hyn, hy1⟩ := double_second_of_le (offset_ok floor k) y hy (hly ▸ Nat.le_add_left _ _)
    refine ⟨x, y - k.length, hx, Nat.sub_lt_left_of_lt_add hyn (Nat.two_mul _ ▸ hy), hx1.symm.trans hlx,
      Nat.add_right_cancel (hy1.symm.trans hly), ?_⟩
    rwa [Nat.sub_add_cancel hyn]
  cross_mem := by
    intro x y w hx hy hd
    have hs := (succs_double_iff isa fd par (offsetOf floor k) k (double_wf floor k hwf) x (y + k.length)
      (Nat.lt_add_left y hx) (Nat.two_mul _ ▸ Nat.add_lt_add_right hy _) w).mpr hd
    rw [lineAt_double_first _ k x hx, lineAt_double_second _ k y hy] at hs
    exact (mem_crossOf isa fd par floor k _).mpr ⟨lineAt_lt_off (offset_ok floor k) x hx, hs⟩

/-- the harness' way of extracting `intra` (first copy of the doubled graph) represents the same relation -/
theorem edgeSpec_lcd_doubled (isa : Isa) (fd : Bool) (par : Params) (floor : Nat) (k : List Ins) (hwf : WFKernel k) :
    EdgeSpec (streamDep isa fd par k) k.length (lineAt k) (intraDoubledOf isa fd par floor k)
      (crossOf isa fd par floor k) where
  mono := (edgeSpec_lcd isa fd par floor k hwf).mono
  cross_pos := (edgeSpec_lcd isa fd par floor k hwf).cross_pos
  cross_mem := (edgeSpec_lcd isa fd par floor k hwf).cross_mem
  intra_pos := by
    intro e he
    obtain ⟨he1, he2⟩ := List.mem_filter.mp he
    obtain ⟨hb1, hb2⟩ := of_decide_eq_true he2
    obtain ⟨x, y, hxy, hy, hlx, hly, hd⟩ :=
      succs_window_pos isa fd par (double_wf floor k hwf) (window_double _ k) _ _ _ ((mem_instrEdges _ e).mp he1)
    rw [double_length] at hy
    rw [← hlx] at hb1
    rw [← hly] at hb2
    obtain ⟨_, hx1⟩ := double_first_of_lt (offset_ok floor k) x (Nat.lt_trans hxy hy) hb1
    obtain ⟨hyn, hy1⟩ := double_first_of_lt (offset_ok floor k) y hy hb2
    exact ⟨x, y, hxy, hyn, hx1.symm.trans hlx, hy1.symm.trans hly, hd⟩
  intra_mem := by
    intro x y w hxy hy hd
    have hx := Nat.lt_trans hxy hy
    have hs := (succs_double_iff isa fd par (offsetOf floor k) k (double_wf floor k hwf) x y hxy
      (Nat.lt_of_lt_of_le hy (Nat.le_mul_of_pos_left _ Nat.two_pos)) w).mpr hd
    rw [lineAt_double_first _ k x hx, lineAt_double_first _ k y hy] at hs
    exact List.mem_filter.mpr ⟨(mem_instrEdges _ _).mpr hs,
      decide_eq_true ⟨lineAt_lt_off (offset_ok floor k) x hx, lineAt_lt_off (offset_ok floor k) y hy⟩⟩

/-- **`spec_cycles_iff_lcd`** (∀ well-formed kernels, any length): the executable oracle `Spec.cycles`,
    run on the line list of `k`, the instruction edges of `k`'s graph and the first-copy → second-copy
    edges of the doubled graph, returns a cycle with member lines `L` and latency `t` iff `lcd` reports
    an entry with member lines `L` and latency `t`: the oracle and the model agree as sets of
    (lines, latency).  Both are exactly the normal-form winding-1 cycles of the stream `k^ω`. -/
theorem spec_cycles_iff_lcd (isa : Isa) (fd : Bool) (par : Params) (floor : Nat) (k : List Ins) (hwf : WFKernel k)
    (c : Spec.Cycle) :
    c ∈ Spec.cycles (k.map (·.line)) (intraOf isa fd par k) (crossOf isa fd par floor k) ↔
      ∃ e ∈ lcd isa fd par floor k, e.lines = c.lines ∧ e.latency = c.latency := by
  rw [lines_eq_range, cycles_iff (edgeSpec_lcd isa fd par floor k hwf), lcd_normal_iff isa fd par floor k hwf]

/-- the same with `intra` extracted from the doubled graph (what the harness sends to the driver) -/
theorem spec_cycles_iff_lcd_doubled (isa : Isa) (fd : Bool) (par : Params) (floor : Nat) (k : List Ins)
    (hwf : WFKernel k) (c : Spec.Cycle) :
    c ∈ Spec.cycles (k.map (·.line)) (intraDoubledOf isa fd par floor k) (crossOf isa fd par floor k) ↔
      ∃ e ∈ lcd isa fd par floor k, e.lines = c.lines ∧ e.latency = c.latency := by
  rw [lines_eq_range, cycles_iff (edgeSpec_lcd_doubled isa fd par floor k hwf),
    lcd_normal_iff isa fd par floor k hwf]

/-- one direction, spelled out: every entry `lcd` reports is found by `Spec.cycles` -/
theorem lcd_found_by_spec_cycles (isa : Isa) (fd : Bool) (par : Params) (floor : Nat) (k : List Ins)
    (hwf : WFKernel k) (e : Entry) (he : e ∈ lcd isa fd par floor k) :
    (⟨e.lines, e.latency⟩ : Spec.Cycle) ∈
      Spec.cycles (k.map (·.line)) (intraOf isa fd par k) (crossOf isa fd par floor k) :=
  (spec_cycles_iff_lcd isa fd par floor k hwf _).mpr ⟨e, he, rfl, rfl⟩

/-- the other direction: every cycle `Spec.cycles` returns is reported by `lcd` -/
theorem spec_cycles_reported (isa : Isa) (fd : Bool) (par : Params) (floor : Nat) (k : List Ins)
    (hwf : WFKernel k) (c : Spec.Cycle)
    (hc : c ∈ Spec.cycles (k.map (·.line)) (intraOf isa fd par k) (crossOf isa fd par floor k)) :
    ∃ e ∈ lcd isa fd par floor k, e.lines = c.lines ∧ e.latency = c.latency :=
  (spec_cycles_iff_lcd isa fd par floor k hwf c).mp hc

-- non-vacuity: on the three-instruction ring both enumerate the single cycle [3, 4, 7] of latency 7;
-- the edge lists are non-trivial (two intra edges, one cross edge)
example :
    let r (n : String) : Op := .reg { name := Text.ofString n }
    let mk (line : Nat) (src dst sd : List Op) (lat : Rat) : Ins :=
      { line := line, src := src, dst := dst, srcDst := sd, lat := lat, latWoLoad := none, hasLd := false,
        isLd := false, changes := [], changesPost := [] }
    let k := [mk 3 [r "rbx"] [r "rax"] [] 4, mk 4 [r "rax"] [r "rcx"] [] 1, mk 7 [r "rcx"] [r "rbx"] [] 2]
    WFKernel k ∧
    (intraOf .x86 false {} k).map (fun e => (e.src, e.dst, e.w)) = [(3, 4, 4), (4, 7, 1)] ∧
    (intraDoubledOf .x86 false {} 1000 k).map (fun e => (e.src, e.dst, e.w)) = [(3, 4, 4), (4, 7, 1)] ∧
    (crossOf .x86 false {} 1000 k).map (fun e => (e.src, e.dst, e.w)) = [(7, 3, 2)] ∧
    (Spec.cycles (k.map (·.line)) (intraOf .x86 false {} k) (crossOf .x86 false {} 1000 k)).map
      (fun c => (c.lines, c.latency)) = [([3, 4, 7], 7)] ∧
    (lcd .x86 false {} 1000 k).map (fun e => (e.lines, e.latency)) = [([3, 4, 7], 7)] := by
  decide +kernel

end OsacaVerif.Props.C05
