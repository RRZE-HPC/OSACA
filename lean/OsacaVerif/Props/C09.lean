import OsacaVerif.Model.ParseX86
import OsacaVerif.Gen.X86Parser
import OsacaVerif.Spec.X86Render
import OsacaVerif.Lemmas.ParseX86File
import OsacaVerif.Lemmas.ParseX86Line
import OsacaVerif.Lemmas.ParseX86Tabs
/-
  C09 — x86 AT&T parser recovers every line and operand exactly as written.

  Model:  `ParseX86.parseLine` / `parseFile` (Model/ParseX86.lean) — a recursive-descent
          re-implementation of the pyparsing grammar of `ParserX86ATT.construct_parser`, of
          `parse_line`'s four stages, `process_operand` and `BaseParser.parse_file`.
  Spec:   `Spec.X86R.renderLine` (Spec/X86Render.lean) — how an instruction AST is written under a
          layout; `Line.valid` — the lines the property quantifies over; `IsSplit` — the lines of a file.
  Tie:    `gen_*` / `grammar_unchanged` below (translator), and the correspondence harness.

  Proofs of the long lemmas live in Lemmas/ParseX86*.lean; this file states the property.
-/
namespace OsacaVerif.Props.C09
open OsacaVerif OsacaVerif.Text OsacaVerif.X86 OsacaVerif.ParseX86
open OsacaVerif.Gen.X86Parser
open OsacaVerif.Spec.X86R

/-! ### The tie to the source: every literal the model hard-wires, as the translator reads it now -/

/-- the `pp.` character-set constants by name -/
def ppClass (name : Txt) (c : Nat) : Bool :=
  if name == [97, 108, 112, 104, 97, 115] then isAlphaC c                                   -- alphas
  else if name == [97, 108, 112, 104, 97, 110, 117, 109, 115] then isAlnumC c               -- alphanums
  else if name == [110, 117, 109, 115] then isDigitC c                                      -- nums
  else if name == [104, 101, 120, 110, 117, 109, 115] then isHexC c                         -- hexnums
  else if name == [112, 114, 105, 110, 116, 97, 98, 108, 101, 115] then isPrintC c          -- printables
  else false

/-- membership in a `Word(...)` class as the source writes it -/
def inClass (w : WordClass) (c : Nat) : Bool :=
  (ppClass w.1 c || w.2.1.contains c) && !w.2.2.1.contains c

/- In the `gen_*` theorems a literal is compared by `rfl`; for a character class `show` first states
   what `inClass` is on the class as the source writes it, and Boolean algebra closes the goal. -/

theorem gen_numbers :
    decimalSign = [45] ∧ hexSign = [45] ∧ hexPrefix = [48, 120] ∧
    (∀ c, isDigitC c = inClass decimalDigits c) ∧ (∀ c, isHexC c = inClass hexDigits c) ∧
    decimalDigits.2.2.2 = 0 ∧ hexDigits.2.2.2 = 0 := by
  refine ⟨rfl, rfl, rfl, fun c => ?_, fun c => ?_, rfl, rfl⟩
  · show _ = ((isDigitC c || [].contains c) && ![].contains c)
    simp only [List.contains_nil, Bool.or_false, Bool.not_false, Bool.and_true]
  · show _ = ((isHexC c || [].contains c) && ![].contains c)
    simp only [List.contains_nil, Bool.or_false, Bool.not_false, Bool.and_true]

theorem gen_comment :
    commentSymbols = [[35], [47, 47]] ∧ (∀ c, isPrintC c = inClass commentWord c) ∧
    commentWord.2.2.2 = 0 := by
  refine ⟨rfl, fun c => ?_, rfl⟩
  show _ = ((isPrintC c || [].contains c) && ![].contains c)
  simp only [List.contains_nil, Bool.or_false, Bool.not_false, Bool.and_true]

theorem gen_identifier :
    (∀ c, isIdFirst c = inClass identFirst c) ∧ identFirst.2.2.2 = 1 ∧
    (∀ c, isIdRest c = inClass identRest c) ∧ identRest.2.2.2 = 0 ∧
    (∀ c, isLabelRest c = inClass labelRest c) ∧ labelRest.2.2.2 = 0 ∧
    nameDelim = [58, 58] ∧ relocationSymbol = [64] ∧ (∀ c, isAlphaC c = inClass relocationWord c) ∧
    idOffsetPlus = [43] ∧ numericSuffixes = [[98], [102]] ∧ numericSuffixCaseless = true ∧
    (∀ c, isSuffixC c = (numericSuffixes.contains [lowerC c] && (c < 128))) := by
  refine ⟨fun c => ?_, rfl, fun c => ?_, rfl, fun c => ?_, rfl, rfl, rfl, fun c => ?_, rfl, rfl, rfl,
    fun c => ?_⟩
  · show _ = ((isAlphaC c || [45, 95, 46].contains c) && ![].contains c)
    simp only [isIdFirst, List.contains_cons, List.contains_nil, Bool.or_false, Bool.not_false,
      Bool.and_true, Bool.or_assoc]
  · show _ = ((isAlnumC c || [36, 95, 46, 43, 45].contains c) && ![].contains c)
    simp only [isIdRest, List.contains_cons, List.contains_nil, Bool.or_false, Bool.not_false,
      Bool.and_true, Bool.or_assoc]
  · show _ = ((isAlnumC c || [36, 95, 46, 43, 45, 40, 41].contains c) && ![].contains c)
    simp only [isLabelRest, isIdRest, List.contains_cons, List.contains_nil, Bool.or_false,
      Bool.not_false, Bool.and_true, Bool.or_assoc]
  · show _ = ((isAlphaC c || [].contains c) && ![].contains c)
    simp only [List.contains_nil, Bool.or_false, Bool.not_false, Bool.and_true]
  · simp [isSuffixC, numericSuffixes, lowerC]; grind

theorem gen_register :
    registerLiterals = [[37], [40], [41], [123], [37], [125], [123], [122], [125]] ∧
    (∀ w ∈ registerWords, w.2.2.2 = 0) ∧
    (∀ c, registerWords.map (fun w => inClass w c) = [isAlnumC c, isDigitC c, isAlnumC c]) := by
  refine ⟨rfl, by decide, fun c => ?_⟩
  show [(isAlnumC c || [].contains c) && ![].contains c, (isDigitC c || [].contains c) && ![].contains c,
    (isAlnumC c || [].contains c) && ![].contains c] = _
  simp only [List.contains_nil, Bool.or_false, Bool.not_false, Bool.and_true]

theorem gen_memory :
    immediateSymbol = [36] ∧ (∀ c, isScaleC c = inClass scaleWord c) ∧ scaleWord.2.2.2 = 1 ∧
    memoryLiterals = [[42], [40], [44], [44], [41], [123], [37], [125]] := by
  refine ⟨rfl, fun c => ?_, rfl, rfl⟩
  show _ = ((false || [49, 50, 52, 56].contains c) && ![].contains c)
  simp only [isScaleC, List.contains_cons, List.contains_nil, Bool.or_false, Bool.false_or,
    Bool.not_false, Bool.and_true, Bool.or_assoc]

theorem gen_directive :
    directiveSymbol = [46] ∧ (∀ c, isDirNameC c = inClass directiveName c) ∧
    (∀ c, isDirParamC c = inClass directiveParam c) ∧ directiveParamSeps = [[44], [44]] ∧
    directiveName.2.2.2 = 0 ∧ directiveParam.2.2.2 = 0 := by
  refine ⟨rfl, fun c => ?_, fun c => ?_, rfl, rfl, rfl⟩
  · show _ = ((isAlnumC c || [95].contains c) && ![].contains c)
    simp only [isDirNameC, List.contains_cons, List.contains_nil, Bool.or_false, Bool.not_false,
      Bool.and_true]
  · show _ = ((isPrintC c || [].contains c) && ![44, 35].contains c)
    simp only [isDirParamC, List.contains_cons, List.contains_nil, Bool.or_false, Bool.not_or, bne,
      Bool.and_assoc]

theorem gen_instruction :
    mnemonicPrefixes = [[100, 97, 116, 97, 49, 54], [100, 97, 116, 97, 51, 50]] ∧
    (∀ c, isMnC c = inClass mnemonicWord c) ∧ mnemonicWord.2.2.2 = 0 ∧ mnemonicSplit = ([44], 0) ∧
    instructionResultNames = [[111, 112, 101, 114, 97, 110, 100, 49], [111, 112, 101, 114, 97, 110, 100, 50], [111, 112, 101, 114, 97, 110, 100, 51], [111, 112, 101, 114, 97, 110, 100, 52]] ∧ operandsAppended = instructionResultNames ∧
    instructionSeparators = [[44], [44], [44]] ∧
    stageOrder = [[99, 111, 109, 109, 101, 110, 116], [108, 97, 98, 101, 108], [100, 105, 114, 101, 99, 116, 105, 118, 101], [105, 110, 115, 116, 114, 117, 99, 116, 105, 111, 110]] := by
  refine ⟨rfl, fun c => ?_, rfl, rfl, rfl, rfl, rfl, rfl⟩
  show _ = ((isAlnumC c || [44].contains c) && ![].contains c)
  simp only [isMnC, List.contains_cons, List.contains_nil, Bool.or_false, Bool.not_false, Bool.and_true]

/-- `int(x, 0)` everywhere, scale 1 when omitted, offset/base/index read from the keys of the same
    name, `MemoryOperand`/`RegisterOperand` built from them -/
theorem gen_postprocess :
    intBases = [0, 0, 0, 0] ∧ scaleDefault = 1 ∧
    memoryKeys = [[111, 102, 102, 115, 101, 116, 61, 111, 102, 102, 115, 101, 116], [98, 97, 115, 101, 61, 98, 97, 115, 101], [105, 110, 100, 101, 120, 61, 105, 110, 100, 101, 120]] ∧ memoryCtor = [[98, 97, 115, 101, 61, 98, 97, 115, 101, 79, 112], [105, 110, 100, 101, 120, 61, 105, 110, 100, 101, 120, 79, 112], [111, 102, 102, 115, 101, 116, 61, 111, 102, 102, 115, 101, 116], [115, 99, 97, 108, 101, 61, 115, 99, 97, 108, 101]] ∧ memoryRegCtor = [[98, 97, 115, 101, 79, 112, 61, 98, 97, 115, 101, 91, 110, 97, 109, 101, 93], [105, 110, 100, 101, 120, 79, 112, 61, 105, 110, 100, 101, 120, 91, 110, 97, 109, 101, 93]] :=
  ⟨rfl, rfl, rfl, rfl, rfl⟩

/-- `parse_file`: `split("\n")`, `enumerate` from 0, line number `i + 1 + start_line`,
    blank test `line.strip() == ""`, the untouched `line` handed to `parse_line` -/
theorem gen_parse_file :
    lineSeparator = [10] ∧ enumerateStart = 0 ∧ lineNumberConst = 1 ∧
    lineNumberTerms = [[105], [115, 116, 97, 114, 116, 95, 108, 105, 110, 101]] ∧ blankTest = [115, 116, 114, 105, 112] ∧ parseLineArg = [108, 105, 110, 101] :=
  ⟨rfl, rfl, rfl, rfl, rfl, rfl⟩

/-- the constructed pyparsing grammar (comment, directive, instruction_parser, label, register,
    white characters / packrat) is the one `Model/ParseX86.lean` was written for and validated
    against; digests of the structural dump `Gen/X86Grammar.txt` -/
def modelledGrammarDigest : List Nat := [885879855628226773, 1112279963143875836, 867575040509712305, 175462622727771971, 319726640196078429, 487930237708278757]

theorem grammar_unchanged : grammarDigest = modelledGrammarDigest := by decide

/-! ### 1. Files: one parsed line per non-blank line, in order, numbered `i+1`, text verbatim -/

/-- **`parseFile_lines`** (∀ files, ∀ start offsets): the result of `parse_file` is, in order,
    exactly the non-blank lines of the file — the `i`-th line (0-based) of `split("\n")` appears
    iff it is not blank, carries the number `i + 1 + start`, its text verbatim, and the parse of
    exactly that text. -/
theorem parseFile_lines (start : Nat) (content : Txt) :
    parseFile start content =
      (((splitLines content).zipIdx 0).filter (fun q => !isBlank q.1)).map
        (fun q => ⟨q.2 + 1 + start, q.1, parseLine q.1⟩) :=
  fileLoop_spec parseLine start (splitLines content) 0

/-- the lines `parse_file` works on are *the* lines of the file: no line feed inside, and joined
    by line feeds they give the content back (`split_determined`: this determines them) -/
theorem split_spec (content : Txt) : IsSplit content (splitLines content) := splitLines_spec content

/-- the lines of a file are determined by `IsSplit`: whatever satisfies it is `splitLines content` -/
theorem split_determined (content : Txt) (ls : List Txt) (h : IsSplit content ls) :
    ls = splitLines content := split_unique content ls h

/-- **`parseFile_wf`**: line numbers are strictly increasing (hence distinct: exactly one parsed
    line per source line) and start above `start`. -/
theorem parseFile_wf (start : Nat) (content : Txt) :
    (parseFile start content).Pairwise (fun a b => a.lineNo < b.lineNo) ∧
    ∀ x ∈ parseFile start content, start < x.lineNo := by
  refine ⟨fileLoop_sorted parseLine start _ 0, fun x hx => ?_⟩
  have := fileLoop_lineNo_ge parseLine start _ 0 x hx
  omega

/-- every non-blank line is there, under its number (completeness, spelled out) -/
theorem parseFile_complete (start : Nat) (content : Txt) (i : Nat) (l : Txt)
    (hl : (splitLines content)[i]? = some l) (hb : isBlank l = false) :
    ⟨i + 1 + start, l, parseLine l⟩ ∈ parseFile start content := by
  rw [parseFile_lines]
  apply List.mem_map.mpr
  refine ⟨(l, i), List.mem_filter.mpr ⟨?_, by simp [hb]⟩, rfl⟩
  rw [List.mem_zipIdx_iff_getElem?]
  simpa using hl

/-- every element of the result is a non-blank line of the file under its number (soundness, spelled out) -/
theorem parseFile_sound (start : Nat) (content : Txt) (x : PLine) (hx : x ∈ parseFile start content) :
    ∃ i, (splitLines content)[i]? = some x.text ∧ x.lineNo = i + 1 + start ∧
      isBlank x.text = false ∧ x.res = parseLine x.text := by
  rw [parseFile_lines] at hx
  obtain ⟨q, hq, rfl⟩ := List.mem_map.mp hx
  obtain ⟨hz, hb⟩ := List.mem_filter.mp hq
  rw [List.mem_zipIdx_iff_getElem?] at hz
  exact ⟨q.2, by simpa using hz, rfl, by simpa using hb, rfl⟩

-- non-vacuity: a file with a blank line, a white-only line, CRLF, and a last line without line feed
example : (parseFile 0 [109, 111, 118, 10, 10, 32, 9, 10, 35, 120, 13, 10, 114, 101, 116]).map
    (fun x => (x.lineNo, x.text)) = [(1, [109, 111, 118]), (4, [35, 120, 13]), (5, [114, 101, 116])] := by
  decide +kernel
example : splitLines [97, 10, 10, 98, 10] = [[97], [], [98], []] := by decide +kernel

/-! ### 2. The four line classes are exclusive -/

/-- **`classify_exclusive`**: every successfully parsed line belongs to exactly one of the classes
    comment / label / directive / instruction, as read off the `InstructionForm` fields the
    parser fills (`mnemonic`, `label`, `directive`, `comment`). -/
theorem classify_exclusive (t : Txt) (f : Form) (h : parseLine t = .ok f) : f.classes.length = 1 := by
  rcases parseExpanded_forms h with ⟨c, rfl⟩ | ⟨n, c, rfl⟩ | ⟨n, ps, c, rfl⟩ | ⟨m, ops, c, rfl⟩ <;> rfl

/-- which class it is follows the order of the stages: the first stage that matches decides -/
theorem classify_by_stage (t : Txt) :
    let e := expandTabs 0 t
    (∀ c, commentLine e = some c → parseLine t = .ok { comment := some c }) ∧
    (∀ n c, commentLine e = none → labelLine e = some (n, c) →
      parseLine t = .ok { label := some n, comment := c }) ∧
    (∀ n ps c, commentLine e = none → labelLine e = none → directiveLine e = some (n, ps, c) →
      parseLine t = .ok { directive := some (n, ps), comment := c }) ∧
    (commentLine e = none → labelLine e = none → directiveLine e = none →
      parseLine t = instructionLine e) := by
  refine ⟨fun c h => ?_, fun n c h1 h2 => ?_, fun n ps c h1 h2 h3 => ?_, fun h1 h2 h3 => ?_⟩ <;>
    simp [parseLine, parseExpanded, *]

/-- an instruction result is only ever produced by the instruction stage: it has no label and
    no directive (the converse directions likewise) -/
theorem instruction_form_pure (t : Txt) (f : Form) (h : parseLine t = .ok f) (hm : f.mnemonic.isSome) :
    f.label = none ∧ f.directive = none := by
  rcases parseExpanded_forms h with ⟨c, rfl⟩ | ⟨n, c, rfl⟩ | ⟨n, ps, c, rfl⟩ | ⟨m, ops, c, rfl⟩
  · cases hm
  · cases hm
  · cases hm
  · exact ⟨rfl, rfl⟩

-- non-vacuity: one line of each class
example : parseLine [35, 32, 104, 105] = .ok { comment := some [104, 105] } := by decide +kernel      -- "# hi"
example : parseLine [46, 76, 49, 58] = .ok { label := some [46, 76, 49] } := by decide +kernel         -- ".L1:"
example : parseLine [46, 116, 101, 120, 116] = .ok { directive := some ([116, 101, 120, 116], []) } := by
  decide +kernel                                                                                       -- ".text"
example : parseLine [114, 101, 116] = .ok { mnemonic := some [114, 101, 116] } := by decide +kernel    -- "ret"

/-! ### 3. Numbers -/

/-- **`pyNat0 (renderNat f n) = some n` for all `n`** and all notations (decimal; `0x` hexadecimal with
    upper- or lower-case digits and any number of leading zeros): the model of Python's `int(·, 0)`
    reads back every rendered natural number. -/
theorem parseNat_renderNat (f : NumFmt) (n : Nat) : pyNat0 (renderNat f n) = some n :=
  pyNat0_renderNat f n

/-- the model of Python's `int(·, 0)` reads back every rendered integer, with sign, in all notations -/
theorem parseInt_renderInt (f : NumFmt) (v : Int) : pyInt0 (renderInt f v) = some v :=
  pyInt0_renderInt f v

example : renderInt { hex := true, upper := true, zeros := 2 } (-2748) = [45, 48, 120, 48, 48, 65, 66, 67] := by
  decide +kernel                                                                                -- "-0x00ABC"
example : renderInt {} 18446744073709551615 =
    [49, 56, 52, 52, 54, 55, 52, 52, 48, 55, 51, 55, 48, 57, 53, 53, 49, 54, 49, 53] := by decide +kernel
example : pyInt0 [48, 49, 48] = none := by decide +kernel        -- int("010", 0) raises: not in the domain

/-! ### 4. Tokens and operands, whatever the blanks -/

/-- **whitespace-insensitivity of the number token**: after any blanks, a rendered integer is read as
    one number token with exactly its text, and the position left is right behind it. -/
theorem number_any_blanks (f : NumFmt) (v : Int) (b k : Txt) (hb : AllWs b) (hk : Tail SepC k) :
    offsetG (b ++ (renderInt f v ++ k)) = some (.num (renderInt f v), k) :=
  offsetG_num SepC_punct f v hb hk

/-- **register names verbatim**, after any blanks -/
theorem register_any_blanks (n b k : Txt) (hn : validReg n = true) (hb : AllWs b) (hk : Tail SepC k) :
    register (b ++ 37 :: (n ++ k)) = some (n, skipWs k) :=
  register_ok SepC_punct (by decide) hn hb hk

/-- **memory operands**: `disp(base,index,scale)` in all six combinations with a base or an index,
    displacement absent / number / label, scale written or omitted, blanks anywhere inside -/
theorem memory_any_blanks (L : OpLayout) (hbl : L.blanks.all blank = true) (off : Option Off)
    (base index : Option Txt) (scale : Nat) (hoff : validOff off = true)
    (hb : base.all validReg = true) (hi : index.all validReg = true) (hs : validScale scale = true)
    (hbi : (base.isSome || index.isSome) = true) (b k : Txt) (hb0 : AllWs b) (hk : nextC k ≠ some 123) :
    memory (b ++ (renderMem L off base index scale ++ k)) =
      some ({ off := rawOff L.num off, base := base, index := index,
              scale := scaleSeen L scale index, empty := false }, skipWs k) :=
  memory_paren L hbl off base index scale hoff hb hi hs
    (by cases base <;> cases index <;> first | rfl | cases hbi) hb0 (fun c hc e => hk (by rw [hc, e]))

/-- **operand round trip** (∀ operands of the domain, ∀ layouts, both operand rules of the grammar):
    parsing the rendering of an operand and post-processing it gives the operand back, and the
    parser stops at the separator. -/
theorem operand_roundtrip (L : OpLayout) (hbl : L.blanks.all blank = true) (o : Operand)
    (hv : validOperand o = true) (b k : Txt) (hb : AllWs b) (hk : Tail SepC k) :
    ∃ raw r, skipWs r = skipWs k ∧ postOp raw = .ok o ∧
      operandFirst (b ++ (renderOperand L o ++ k)) = some (raw, r) ∧
      (L.bare = false → operandRest (b ++ (renderOperand L o ++ k)) = some (raw, r)) := by
  obtain ⟨r, h1, h2, h3⟩ := operand_ok L hbl o hv hb hk
  exact ⟨rawOp L o, r, h1, postOp_rawOp L o hv, h2, h3⟩

/-! ### 5. The round trip -/

/-- **`x86_roundtrip_expanded`** (∀ instruction lines of the domain: 0–4 operands — registers,
    immediates decimal/hex with sign, `$label`s, a bare label first, memory operands in the seven
    non-empty base/index/displacement combinations with scales 1/2/4/8, scale 1 written or omitted —
    ∀ layouts: blanks **and tabs** before and after every token, around commas, inside the
    parentheses, any indentation, optional trailing `#` or `//` comment):
    the four stages of `parse_line`, run on the text, return an instruction form with exactly the
    mnemonic, the operands in order, and the comment's words. -/
theorem x86_roundtrip_expanded (l : Line) (hv : l.valid = true) :
    parseExpanded (renderLine l) = .ok l.expected :=
  roundtrip_expanded l hv

/-- `str.expandtabs` on a rendered line is the rendering of the same AST under another layout of
    the domain (each tab of the layout becomes one to eight blanks; tokens contain no tab) -/
theorem expandTabs_relayout (l : Line) (hv : l.valid = true) (col : Nat) :
    ∃ l' : Line, l'.valid = true ∧ l'.expected = l.expected ∧
      expandTabs col (renderLine l) = renderLine l' :=
  exp_line l hv (exp_expandTabs (renderLine l) col)

/-- **`x86_roundtrip`** — the property's statement about instruction lines, at full strength:
    for every instruction AST of the domain (0–4 operands; register names; decimal / hexadecimal
    immediates of any size with sign; labels as `$label` anywhere or bare in first position; memory
    references in all seven non-empty displacement/base/index combinations, displacement a signed
    number or a label, scales 1/2/4/8 with scale 1 written or omitted) and **every layout** (blanks
    and tabs before the mnemonic, after it, before and after every operand and comma, inside the
    parentheses, decimal or `0x` notation with either digit case and leading zeros, optional trailing
    `#` / `//` comment of any words), `parse_line` on the rendered text returns the form with exactly
    this mnemonic, exactly these operands in order (register names verbatim, immediates and
    displacements as integers, scale 1 when omitted), no label, no directive, and the comment's words. -/
theorem x86_roundtrip (l : Line) (hv : l.valid = true) : parseLine (renderLine l) = .ok l.expected :=
  roundtrip_full l hv

/-- and through `parse_file`: a file consisting of rendered lines and blank lines gives exactly these
    ASTs under the right line numbers (combination of `parseFile_complete` and `x86_roundtrip`) -/
theorem x86_roundtrip_file (start : Nat) (content : Txt) (i : Nat) (l : Line) (hv : l.valid = true)
    (hl : (splitLines content)[i]? = some (renderLine l)) (hb : isBlank (renderLine l) = false) :
    ⟨i + 1 + start, renderLine l, .ok l.expected⟩ ∈ parseFile start content := by
  have := parseFile_complete start content i (renderLine l) hl hb
  rwa [x86_roundtrip l hv] at this

/-- the class of a rendered instruction line is `instruction`, and only that -/
theorem x86_roundtrip_class (l : Line) (hv : l.valid = true) :
    l.expected.classes = [Class.instruction] := rfl

/-! ### non-vacuity of the round trip -/

/-- `"\tvfmadd231pd\t-0x040 ( %rsi\t, %rax,  8 ) , %zmm31,$-18446744073709551615\t, $.LC0 //LLVM-MCA-BEGIN \tx=1 "` -/
def demo : Line :=
  { indent := [9], mn := [118, 102, 109, 97, 100, 100, 50, 51, 49, 112, 100],
    ops := [ ({ pre := [9], post := [32], num := { hex := true, upper := true, zeros := 1 },
                w1 := [32], w2 := [32], w3 := [9], w4 := [32], w5 := [], w6 := [32, 32], w7 := [32] },
               .mem (some (.imm (-64))) (some [114, 115, 105]) (some [114, 97, 120]) 8 false),
             ({ pre := [32], post := [] }, .reg [122, 109, 109, 51, 49]),
             ({ pre := [], post := [9] }, .imm (-18446744073709551615)),
             ({ pre := [32] }, .ident [46, 76, 67, 48]) ],
    trail := [32],
    comment := some { slashes := true, words := [([], [76, 76, 86, 77, 45, 77, 67, 65, 45, 66, 69, 71, 73, 78]), ([32, 9], [120, 61, 49])], last := [32] } }

example : demo.valid = true := by decide +kernel
example : renderLine demo = [9, 118, 102, 109, 97, 100, 100, 50, 51, 49, 112, 100, 9, 45, 48, 120, 48, 52, 48, 32, 40, 32, 37, 114, 115, 105, 9, 44, 32, 37, 114, 97, 120, 44, 32, 32, 56, 32, 41, 32, 44, 32, 37, 122, 109, 109, 51, 49, 44, 36, 45, 49, 56, 52, 52, 54, 55, 52, 52, 48, 55, 51, 55, 48, 57, 53, 53, 49, 54, 49, 53, 9, 44, 32, 36, 46, 76, 67, 48, 32, 47, 47, 76, 76, 86, 77, 45, 77, 67, 65, 45, 66, 69, 71, 73, 78, 32, 9, 120, 61, 49, 32] := by decide +kernel
example : parseExpanded (renderLine demo) = .ok
    { mnemonic := some [118, 102, 109, 97, 100, 100, 50, 51, 49, 112, 100],
      operands := [.mem (some (.imm (-64))) (some [114, 115, 105]) (some [114, 97, 120]) 8 false, .reg [122, 109, 109, 51, 49],
                   .imm (-18446744073709551615), .ident [46, 76, 67, 48]],
      comment := some [76, 76, 86, 77, 45, 77, 67, 65, 45, 66, 69, 71, 73, 78, 32, 120, 61, 49] } :=
  x86_roundtrip_expanded demo (by decide +kernel)
-- through `parse_line` itself (tabs expanded first), by the theorem and by evaluating the model
example : parseLine (renderLine demo) = .ok demo.expected := x86_roundtrip demo (by decide +kernel)
example : parseLine (renderLine demo) = .ok demo.expected := by decide +kernel

/-- `"mov -8 , (, %rcx,1)"`: a displacement standing alone (negative, blank before the comma) and an
    index without base with scale 1 written out -/
def demo2 : Line :=
  { mn := [109, 111, 118],
    ops := [ ({ pre := [32], post := [32] }, .mem (some (.imm (-8))) none none 1 false),
             ({ pre := [32], showScale := true, w4 := [32] }, .mem none none (some [114, 99, 120]) 1 false) ] }
example : renderLine demo2 = [109, 111, 118, 32, 45, 56, 32, 44, 32, 40, 44, 32, 37, 114, 99, 120, 44, 49, 41] := by decide +kernel
example : parseLine (renderLine demo2) = .ok demo2.expected :=
  x86_roundtrip demo2 (by decide +kernel)

/-- `"jmp .L10"` (bare label) and `"ret"` (no operand) -/
def demo3 : Line := { mn := [106, 109, 112], ops := [({ pre := [32], bare := true }, .ident [46, 76, 49, 48])] }
def demo4 : Line := { mn := [114, 101, 116] }
example : parseLine (renderLine demo3) = .ok { mnemonic := some [106, 109, 112], operands := [.ident [46, 76, 49, 48]] } :=
  x86_roundtrip demo3 (by decide +kernel)
example : parseLine (renderLine demo4) = .ok { mnemonic := some [114, 101, 116] } :=
  x86_roundtrip demo4 (by decide +kernel)

/-! ### model knowledge (documented, not part of the property) -/

-- separators are optional in the grammar: `mov %rax %rbx` parses like `mov %rax, %rbx`
example : parseLine [109, 111, 118, 32, 37, 114, 97, 120, 32, 37, 114, 98, 120] = .ok { mnemonic := some [109, 111, 118], operands := [.reg [114, 97, 120], .reg [114, 98, 120]] } := by
  decide +kernel
-- `mov (), %rax`: a memory operand without any part makes `process_memory_address` raise AttributeError
example : parseLine [109, 111, 118, 32, 40, 41, 44, 32, 37, 114, 97, 120] = .err .attr := by decide +kernel
-- `mov $010, %rax`: `int("010", 0)` raises ValueError
example : parseLine [109, 111, 118, 32, 36, 48, 49, 48, 44, 32, 37, 114, 97, 120] = .err .value := by decide +kernel
-- a bare label is an operand only in first position: `mov %rax, foo` is rejected
example : parseLine [109, 111, 118, 32, 37, 114, 97, 120, 44, 32, 102, 111, 111] = .err .value := by decide +kernel
-- register masks are accepted and dropped: `vaddpd %zmm0, %zmm1, %zmm2{%k1}{z}`
example : parseLine [118, 97, 100, 100, 112, 100, 32, 37, 122, 109, 109, 48, 44, 32, 37, 122, 109, 109, 49, 44, 32, 37, 122, 109, 109, 50, 123, 37, 107, 49, 125, 123, 122, 125] =
    .ok { mnemonic := some [118, 97, 100, 100, 112, 100],
          operands := [.reg [122, 109, 109, 48], .reg [122, 109, 109, 49], .reg [122, 109, 109, 50]] } := by decide +kernel

end OsacaVerif.Props.C09
