import OsacaVerif.Model.Cache
import OsacaVerif.Model.CacheName
import OsacaVerif.Spec.CacheSpec
import OsacaVerif.Lemmas.Cache
import OsacaVerif.Lemmas.CacheName
import OsacaVerif.Gen.CacheConsts
/-
  C17 — Model caches are transparent, also after interrupted or racing writes.

  `Cache.step` / `Cache.run` model `MachineModel.__init__`, `_get_cached`, `_write_in_cache` and
  `utils.find_datafile` over an abstract file system (`Model/Cache.lean`); `Cache.race` runs any number
  of loaders interleaved at open / write / rename granularity.  `Spec.CacheSpec` is the machine without
  any cache.  `Cfg` says how cache files are read and written; `shippedCfg` is what the translator reads
  off the current source (`Gen.CacheConsts`).

  Everything below holds for *all* histories (lists of operations of any length), all model-file
  contents, all loaders `parse`, all data-directory layouts `dirs`, all schedules and any number of racing
  processes.  The only assumption is `HashInj`: the content hash separates the contents (SHA-256).
-/
namespace OsacaVerif.Props.C17
open OsacaVerif OsacaVerif.Cache OsacaVerif.Spec OsacaVerif.Text OsacaVerif.CacheName

/-- the invariant of the design: cache files of the current version hold `parse` of the content they are
    keyed by, reads cannot raise, runtime-cache entries come from some content -/
def CacheInv (cfg : Cfg) (w : World) (s : St) : Prop := Good cfg w s ∧ RtInv w s

/-- how the *current source* reads and writes cache files -/
def shippedCfg : Cfg := ⟨Gen.cacheInternalVersion, Gen.cacheTolerantRead, Gen.cacheAtomicWrite⟩

/-! ### the tie to the source: what the model assumes about the code's shape -/

/-- The facts of the source the model is built on, re-extracted on every run: unreadable cache files are
    skipped; cache files are written under a temporary name and renamed; a lazy load touches no cache;
    the runtime-cache probe never decides the result; the version stamp is in the data before it is
    written; the user's data directory is searched before the package's; the install-time cache builder
    uses the same full load; there are two data directories. -/
theorem source_shape :
    Gen.cacheTolerantRead = true ∧ Gen.cacheAtomicWrite = true ∧ Gen.cacheLazyBypasses = true
    ∧ Gen.cacheRtProbeOverwritten = true ∧ Gen.cacheVersionStamped = true
    ∧ Gen.cacheUserDirFirst = true ∧ Gen.cacheBuildUsesLoader = true
    ∧ Gen.cacheDataDirs.length = 2 := by decide +kernel

theorem shipped_tolerant : shippedCfg.tolerantRead = true := source_shape.1
theorem shipped_atomic : shippedCfg.atomicWrite = true := source_shape.2.1

/-! ### invariant -/

/-- a fresh installation satisfies the invariant (as soon as one half of the repair is present) -/
theorem inv_init {cfg : Cfg} {w : World} (files : Dir → Stem → Option Content) (wr : Dir → Bool)
    (hw : Bool) (h : cfg.tolerantRead = true ∨ cfg.atomicWrite = true) :
    CacheInv cfg w (init files wr hw) :=
  ⟨good_init files wr hw h, rtInv_init files wr hw⟩

/-- **`inv_step`**: every operation — load, lazy load, edit, killed writer, cut cache file, removed cache
    file, cache of another format version, install-time cache, permission change, new process, N racing
    loaders under any schedule — preserves the invariant.  (Without tolerant reads the one excluded
    operation is damage to a final cache file from outside OSACA.) -/
theorem inv_step {cfg : Cfg} {w : World} {s : St} (hinj : HashInj w) (h : CacheInv cfg w s) (op : Op)
    (hop : cfg.tolerantRead = true ∨ op.isCorrupt = false) :
    CacheInv cfg w (step cfg w s op).1 := by
  obtain ⟨_, _, hK⟩ := step_spec hinj h.1 op hop
  exact ⟨hK.good, hK.rtInv h.2⟩

/-- the invariant holds in every reachable state -/
theorem inv_reachable {cfg : Cfg} {w : World} (hinj : HashInj w) (files : Dir → Stem → Option Content)
    (wr : Dir → Bool) (hw : Bool) (ops : List Op)
    (h : cfg.tolerantRead = true ∨ (cfg.atomicWrite = true ∧ ∀ op ∈ ops, op.isCorrupt = false)) :
    CacheInv cfg w (run cfg w (init files wr hw) ops).1 :=
  (run_init_spec hinj files wr hw ops h).2.2

/-! ### transparency -/

/-- **`history_transparent`** (refinement of the cache-less machine): the outcomes of all loads of any
    history are those of the machine that has no cache at all.  Either half of the repair suffices for
    its part: tolerant reads for every history; atomic writes for every history in which nothing but
    OSACA touches the cache files. -/
theorem history_transparent {cfg : Cfg} {w : World} (hinj : HashInj w)
    (files : Dir → Stem → Option Content) (wr : Dir → Bool) (hw : Bool) (ops : List Op)
    (h : cfg.tolerantRead = true ∨ (cfg.atomicWrite = true ∧ ∀ op ∈ ops, op.isCorrupt = false)) :
    (run cfg w (init files wr hw) ops).2 = CacheSpec.run w files ops :=
  (run_init_spec hinj files wr hw ops h).1

/-- **`load_transparent`** (∀ reachable states): after any history, a load — full or lazy — returns what
    the loader makes of the *current* content of the file the name resolves to (an error only if no data directory has
    the file): never an error from a cache, never stale data; whether it is served cold, from the companion cache, from the home cache, after an edit,
    after an edit back, after a killed writer, a cut file or a race. -/
theorem load_transparent {cfg : Cfg} {w : World} (hinj : HashInj w)
    (files : Dir → Stem → Option Content) (wr : Dir → Bool) (hw : Bool) (ops : List Op)
    (h : cfg.tolerantRead = true ∨ (cfg.atomicWrite = true ∧ ∀ op ∈ ops, op.isCorrupt = false))
    (stem : Stem) (lazy : Bool) :
    (step cfg w (run cfg w (init files wr hw) ops).1 (.load stem lazy)).2
      = [CacheSpec.expected w (CacheSpec.filesAfter files ops) stem lazy] := by
  obtain ⟨_, hf, hG, _⟩ := run_init_spec hinj files wr hw ops h
  rw [(step_spec hinj hG (.load stem lazy) (Or.inr rfl)).1, hf]
  rfl

/-- **the cache state is irrelevant**: two states that agree on the model files — whatever their cache
    files, leftovers, permissions and runtime caches — give the same outcomes for every history. -/
theorem cache_state_irrelevant {cfg : Cfg} {w : World} (hinj : HashInj w) {s₁ s₂ : St}
    (h₁ : CacheInv cfg w s₁) (h₂ : CacheInv cfg w s₂) (hf : s₁.files = s₂.files) (ops : List Op)
    (h : cfg.tolerantRead = true ∨ ∀ op ∈ ops, op.isCorrupt = false) :
    (run cfg w s₁ ops).2 = (run cfg w s₂ ops).2 := by
  rw [(run_spec hinj ops h₁.1 h).1, (run_spec hinj ops h₂.1 h).1, hf]

/-- **`torn_ignored`**: take any state satisfying the invariant and cut or damage *any set* of cache files
    (`bad`), leave any number of temporary files behind: a load still returns the cache-less result, and
    the invariant still holds afterwards. -/
theorem torn_ignored {cfg : Cfg} {w : World} (hinj : HashInj w) (ht : cfg.tolerantRead = true) {s : St}
    (h : CacheInv cfg w s) (bad : Key → Bool) (leftovers : Nat) (stem : Stem) :
    let s' : St := { s with cache := fun k => if bad k then .torn else s.cache k, temps := leftovers }
    (loadFull cfg w s' stem).2.1 = CacheSpec.expected w s.files stem false
    ∧ CacheInv cfg w (loadFull cfg w s' stem).1 := by
  intro s'
  have hG : Good cfg w s' := by
    refine ⟨?_, Or.inl ht⟩
    intro k v x hk
    simp only [s'] at hk
    split at hk
    · cases hk
    · exact h.1.1 k v x hk
  obtain ⟨r, hF⟩ := loadFull_spec hG stem
  exact ⟨r, hF.inv hinj ⟨hG, h.2⟩⟩

/-- **`race_safe`** (ALL interleavings, any number of processes): `n` processes cold-starting on the same
    model at the same time, interleaved in any way at probe / open / write / close / rename granularity,
    all return the cache-less result, leave the model files alone and end in a state satisfying the
    invariant. -/
theorem race_safe {cfg : Cfg} {w : World} (hinj : HashInj w) {s : St} (h : CacheInv cfg w s)
    (stem : Stem) (n : Nat) (sched : List Nat) :
    (race cfg w s stem n sched).2 = List.replicate n (CacheSpec.expected w s.files stem false)
    ∧ CacheInv cfg w (race cfg w s stem n sched).1
    ∧ (race cfg w s stem n sched).1.files = s.files := by
  obtain ⟨r, hF⟩ := race_spec hinj h.1 stem n sched
  exact ⟨r, hF.inv hinj h, hF.files⟩

/-- … and the racers may be **killed anywhere**: stop any schedule at any point (every loader wherever it
    happens to be — before its probe, with its file open, half written, written but not yet renamed):
    the shared file system satisfies the invariant, the model files are untouched, and the next load of
    any model returns the cache-less result. -/
theorem race_interrupted_safe {cfg : Cfg} {w : World} (hinj : HashInj w) {s : St} (h : CacheInv cfg w s)
    (d : Dir) (stem : Stem) (c : Content) (sched : List Nat) (stem' : Stem) :
    let sh := (runSched cfg w d stem c s (fun _ => Proc.fresh) sched).1
    CacheInv cfg w sh ∧ sh.files = s.files
    ∧ (loadFull cfg w sh stem').2.1 = CacheSpec.expected w s.files stem' false := by
  intro sh
  obtain ⟨hF, _⟩ := runSched_frame hinj d stem c sched h.1 fun _ => pinv_fresh cfg w c
  have hI := hF.inv hinj h
  exact ⟨hI, hF.files, by rw [(loadFull_spec hI.1 stem').1, hF.files]⟩

/-- **`atomic_no_torn`**: with atomic writes, no history of OSACA's own operations — killed writers at any
    offset and races under any schedule included — ever leaves a cut file under a final cache name.
    (So also an OSACA that cannot skip unreadable files, e.g. an older release sharing the cache
    directory, never trips over a file written by this one.) -/
theorem atomic_no_torn {cfg : Cfg} {w : World} (hinj : HashInj w) (ha : cfg.atomicWrite = true)
    (files : Dir → Stem → Option Content) (wr : Dir → Bool) (hw : Bool) (ops : List Op)
    (hops : ∀ op ∈ ops, op.isCorrupt = false) :
    NoTorn (run cfg w (init files wr hw) ops).1 :=
  (run_spec hinj ops (good_init files wr hw (Or.inr ha)) (Or.inr hops)).2.2.noTorn ha hops nofun

/-! ### the shipped code -/

/-- **C17 for the current source**: for every history whatsoever the observations equal those of the
    cache-less machine.  Stops compiling when the translator finds that unreadable cache files are no
    longer skipped. -/
theorem shipped_history_transparent {w : World} (hinj : HashInj w)
    (files : Dir → Stem → Option Content) (wr : Dir → Bool) (hw : Bool) (ops : List Op) :
    (run shippedCfg w (init files wr hw) ops).2 = CacheSpec.run w files ops :=
  history_transparent hinj files wr hw ops (Or.inl shipped_tolerant)

/-- … and its own writers never expose a cut file.  Stops compiling when cache files are written in place
    again. -/
theorem shipped_no_torn {w : World} (hinj : HashInj w) (files : Dir → Stem → Option Content)
    (wr : Dir → Bool) (hw : Bool) (ops : List Op) (hops : ∀ op ∈ ops, op.isCorrupt = false) :
    NoTorn (run shippedCfg w (init files wr hw) ops).1 :=
  atomic_no_torn hinj shipped_atomic files wr hw ops hops

/-! ### the code before the repair: concrete counterexamples (D6) -/

/-- contents, hashes and data are numbers; two data directories (user first) -/
def idWorld : World := ⟨id, fun c => c + 1000, id, fun _ => [0, 1]⟩
theorem idWorld_hashInj : HashInj idWorld := fun _ _ h => h

/-- the package directory holds model 0 with content 7; everything writable -/
def files0 : Dir → Stem → Option Content := fun d st => if d = 1 ∧ st = 0 then some 7 else none
def init0 : St := init files0 (fun _ => true) true

/-- write in place, read without error handling (the code before the repair) -/
def oldCfg : Cfg := ⟨1, false, false⟩

/-- `load_transparent` is false of the old code: a first run killed during the cache write makes the next
    run fail, where the cache-less machine returns the model. -/
theorem old_crash_breaks_load :
    (run oldCfg idWorld init0 [.crashWrite 0 2, .load 0 false]).2 = [.error]
    ∧ CacheSpec.run idWorld files0 [.crashWrite 0 2, .load 0 false] = [.ok 7] := by decide +kernel

/-- `race_safe` is false of the old code: process 0 has opened (truncated) the companion file when
    process 1 probes it. -/
theorem old_race_breaks :
    (race oldCfg idWorld init0 0 2 [0, 0, 0, 1]).2 = [.ok 7, .error] := by decide +kernel

/-- atomic writes alone do not protect against damage from outside: the side condition of
    `history_transparent` is needed. -/
theorem atomic_only_needs_undamaged_files :
    (run ⟨1, false, true⟩ idWorld init0 [.load 0 false, .corrupt (compKey 1 0 7), .load 0 false]).2
      = [.ok 7, .error] := by decide +kernel

/-! ### cache file names -/

/-- For model files whose stem has no dot the companion cache name is the plain concatenation … -/
theorem companionName_plain (stem hex : Txt) (hs : 46 ∉ stem) (hh : 46 ∉ hex) :
    companionName stem hex = [46] ++ stem ++ [95] ++ hex ++ Gen.cacheCompanionSuffix := by
  have : build Gen.cacheCompanionParts stem hex = 46 :: (stem ++ 95 :: hex) := by
    simp [build, Gen.cacheCompanionParts]
  rw [companionName, this, (withSuffix_dotfree (t := stem ++ 95 :: hex) (by simp [hs, hh]) _).2]
  simp

/-- … hence **injective** in (stem, hash): different content (or another model) ⇒ another cache file.
    Hashes are hex digests of one fixed length. -/
theorem companionName_injective (s₁ h₁ s₂ h₂ : Txt) (hs₁ : 46 ∉ s₁) (hh₁ : 46 ∉ h₁) (hs₂ : 46 ∉ s₂)
    (hh₂ : 46 ∉ h₂) (hl : h₁.length = h₂.length) (h : companionName s₁ h₁ = companionName s₂ h₂) :
    s₁ = s₂ ∧ h₁ = h₂ := by
  rw [companionName_plain s₁ h₁ hs₁ hh₁, companionName_plain s₂ h₂ hs₂ hh₂] at h
  exact sep_inj [46] _ hl h

theorem homeName_injective (s₁ h₁ s₂ h₂ : Txt) (hs₁ : 46 ∉ s₁) (hh₁ : 46 ∉ h₁) (hs₂ : 46 ∉ s₂)
    (hh₂ : 46 ∉ h₂) (hl : h₁.length = h₂.length) (h : homeName s₁ h₁ = homeName s₂ h₂) :
    s₁ = s₂ ∧ h₁ = h₂ := by
  rw [homeName_plain s₁ h₁ hs₁ hh₁, homeName_plain s₂ h₂ hs₂ hh₂] at h
  exact sep_inj [] _ hl h

/-- every shipped model file has a dot-free stem, so the above covers all of them -/
theorem shipped_stems_dotfree : ∀ s ∈ Gen.cacheShippedStems, 46 ∉ s := by decide +kernel

/-- Outside the shipped set: for a model file whose stem contains a dot, `with_suffix` *replaces* the
    tail that holds the hash — the cache name no longer depends on the content (`my.model.yml`). -/
theorem dotted_stem_loses_hash :
    companionName [109, 121, 46, 109, 111, 100, 101, 108] [97, 97] = companionName [109, 121, 46, 109, 111, 100, 101, 108] [98, 98]
    ∧ homeName [109, 121, 46, 109, 111, 100, 101, 108] [97, 97] = homeName [109, 121, 46, 109, 111, 100, 101, 108] [98, 98] := by
  decide +kernel

/-! ### non-vacuity -/

-- the hypotheses are satisfiable and the reachable states are not trivial:
example : HashInj idWorld := idWorld_hashInj
example : CacheInv shippedCfg idWorld init0 := inv_init _ _ _ (Or.inl shipped_tolerant)
-- cold, warm from the companion cache (new process), edit picked up, edit back served from the old cache
example : (run shippedCfg idWorld init0
    [.load 0 false, .newProcess, .load 0 false, .edit 1 0 (some 9), .load 0 false,
     .edit 1 0 (some 7), .load 0 false, .load 0 true]).2 = [.ok 7, .ok 7, .ok 9, .ok 7, .ok 1007] := by
  decide +kernel
example : (loadFull shippedCfg idWorld (run shippedCfg idWorld init0 [.load 0 false, .newProcess]).1 0).2.2
    = .companion := by decide +kernel
-- read-only data directory: served from the home cache
example : (loadFull shippedCfg idWorld
    (run shippedCfg idWorld (init files0 (fun _ => false) true) [.load 0 false, .newProcess]).1 0).2
    = (.ok 7, .home) := by decide +kernel
-- the user's data directory shadows the package file; a cache of another format version is not used
example : (run shippedCfg idWorld init0
    [.load 0 false, .edit 0 0 (some 8), .load 0 false, .foreign (compKey 0 0 8) 0 55, .newProcess,
     .load 0 false, .edit 0 0 none, .load 0 false]).2 = [.ok 7, .ok 8, .ok 8, .ok 7] := by decide +kernel
-- killed writer, cut files, race of three: the repaired code is not impressed
example : (run shippedCfg idWorld init0
    [.crashWrite 0 0, .load 0 false, .corrupt (compKey 1 0 7), .corrupt (homeKey 0 7), .newProcess,
     .load 0 false, .drop (compKey 1 0 7), .concurrent 0 3 [0, 1, 2, 2, 1, 0, 0, 1, 0, 2]]).2
    = [.ok 7, .ok 7, .ok 7, .ok 7, .ok 7] := by decide +kernel
-- two racers stopped mid-way (one has its temporary file half written, the other has not probed yet)
example : ((runSched shippedCfg idWorld 1 0 7 init0 (fun _ => Proc.fresh) [0, 0, 0, 0]).2 0).pc = .half
    ∧ ((runSched shippedCfg idWorld 1 0 7 init0 (fun _ => Proc.fresh) [0, 0, 0, 0]).2 1).pc = .probeComp := by
  decide +kernel
-- a killed writer does change the state (a leftover temporary file), and `corrupt` really cuts a file
example : (run shippedCfg idWorld init0 [.crashWrite 0 0]).1.temps = 1 := by decide +kernel
example : (run shippedCfg idWorld init0 [.load 0 false, .corrupt (compKey 1 0 7)]).1.cache (compKey 1 0 7)
    = .torn := by decide +kernel
-- names
example : companionName [122, 101, 110, 49] [97, 98, 49, 50] = ([46, 122, 101, 110, 49, 95, 97, 98, 49, 50, 46, 112, 105, 99, 107, 108, 101] : Txt)
    ∧ homeName [122, 101, 110, 49] [97, 98, 49, 50] = ([122, 101, 110, 49, 95, 97, 98, 49, 50, 46, 112, 105, 99, 107, 108, 101] : Txt) := by decide +kernel
example : ([122, 101, 110, 49] : Txt) ∈ Gen.cacheShippedStems ∧ ([120, 56, 54] : Txt) ∈ Gen.cacheShippedStems := by decide +kernel

end OsacaVerif.Props.C17
