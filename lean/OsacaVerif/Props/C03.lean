import OsacaVerif.Lemmas.DGraph
/-
  C03 — Register dependency graph is exactly the read-after-write relation.

  `DG.scanTarget` is the forward scan of `find_depending` for one destination register / flag;
  `DG.findDepending` / `DG.emissions` / `DG.create` assemble the graph.  The theorems relate the scan
  to the declarative read-after-write relation (reads / writes derived from the semantic operands),
  for kernels of any length: first for one scan (`scan_iff_raw`), then for the emissions of `create_DG`
  by producer position (`Spec.rawAt`, `edges_iff_raw`), then through `add_edge` (`dedupLast`) for the
  final graph: its shape (`edges_forward`) and, for kernels without stores, `create_iff_raw`.
-/
namespace OsacaVerif.Props.C03
open OsacaVerif OsacaVerif.Text OsacaVerif.DG OsacaVerif.Spec

/-- **scan = read-after-write** (∀ suffixes, by induction): the scan for target `t` emits exactly the
    positions `j` whose instruction reads `t` while no instruction strictly before `j` (in the scanned
    suffix) writes `t`; every emission carries the producer's tag. -/
theorem scan_iff_raw (isa : Isa) (t : Target) (tag : Tag) (rest : List Ins) (l : Nat) (tg : Tag) :
    (l, tg) ∈ scanTarget isa t tag rest ↔
      tg = tag ∧ ∃ (j : Nat) (c : Ins), rest[j]? = some c ∧ c.line = l ∧ isRead isa t c = true ∧
        ∀ m < j, ∀ w, rest[m]? = some w → isWritten isa t w = false := by
  induction rest with
  | nil => simp [scanTarget]
  | cons i rest ih =>
    rw [mem_scanTarget_cons, ih]
    constructor
    · rintro (⟨hr, hx⟩ | ⟨hw, rfl, j, c, hj, hl, hr, hall⟩)
      · cases hx
        exact ⟨rfl, 0, i, rfl, rfl, hr, fun m hm => absurd hm (Nat.not_lt_zero m)⟩
      · refine ⟨rfl, j + 1, c, hj, hl, hr, fun m hm w hwm => ?_⟩
        cases m with
        | zero => cases hwm; exact hw
        | succ m => exact hall m (Nat.lt_of_succ_lt_succ hm) w hwm
    · rintro ⟨rfl, j, c, hj, hl, hr, hall⟩
      cases j with
      | zero => cases hj; exact Or.inl ⟨hr, by rw [hl]⟩
      | succ j =>
        exact Or.inr ⟨hall 0 (Nat.succ_pos j) i rfl, rfl, j, c, hj, hl, hr,
          fun m hm w hwm => hall (m + 1) (Nat.succ_lt_succ hm) w hwm⟩

/-- nothing is emitted past an overwrite: behind an instruction `w` that writes the target, the scan emits
    no line other than those of `pre ++ [w]` -/
theorem no_edge_past_kill (isa : Isa) (t : Target) (tag : Tag) (pre : List Ins) (w : Ins) (post : List Ins)
    (hw : isWritten isa t w = true) (c : Ins) (hc : c ∈ post) (hline : ∀ x ∈ pre ++ [w], x.line ≠ c.line)
    (tg : Tag) : (c.line, tg) ∉ scanTarget isa t tag (pre ++ w :: post) := by
  intro h
  obtain ⟨_, j, c', hj, hl, _, hall⟩ := (scan_iff_raw isa t tag _ c.line tg).mp h
  by_cases hjle : j ≤ pre.length
  · -- the emitting instruction would be in `pre ++ [w]`, whose lines differ from `c.line`
    have hmem : c' ∈ pre ++ [w] := by
      have : (pre ++ w :: post)[j]? = (pre ++ [w])[j]? := by
        rw [show pre ++ w :: post = (pre ++ [w]) ++ post by simp]
        rw [List.getElem?_append_left (by rw [List.length_append]; exact Nat.lt_succ_of_le hjle)]
      rw [this] at hj
      exact List.mem_of_getElem? hj
    exact hline c' hmem hl
  · have := hall pre.length (Nat.lt_of_not_le hjle) w (by simp)
    rw [hw] at this; cases this

/-- flags are followed only when flag dependencies are requested -/
theorem flags_ignored_without_option (isa : Isa) (p : Ins) (rest : List Ins) (n : Txt)
    (hdst : p.dst = [.flag n]) (hsd : p.srcDst = []) :
    findDepending isa false p rest = [] := by
  simp [findDepending, hdst, hsd]

/-- every emission of a scan names an instruction of the scanned suffix -/
theorem scanTarget_lines (isa : Isa) (t : Target) (tag : Tag) (rest : List Ins) (l : Nat) (tg : Tag)
    (h : (l, tg) ∈ scanTarget isa t tag rest) : ∃ c ∈ rest, c.line = l :=
  DG.scanTarget_lines isa t tag rest _ h

theorem scanMem_lines (isa : Isa) (m : Mem) (s : RegState) (rest : List Ins) (l : Nat) (tg : Tag)
    (h : (l, tg) ∈ scanMem isa m s rest) : ∃ c ∈ rest, c.line = l :=
  DG.scanMem_lines isa m s rest _ h

/-- **edges point forward**: in a kernel with strictly increasing line numbers every dependency
    emission of a producer targets a strictly later line -/
theorem findDepending_forward (isa : Isa) (fd : Bool) (p : Ins) (rest : List Ins)
    (hlines : ∀ c ∈ rest, p.line < c.line) (l : Nat) (tg : Tag)
    (h : (l, tg) ∈ findDepending isa fd p rest) : p.line < l := by
  obtain ⟨c, hc, hl⟩ := findDepending_lines isa fd p rest _ h
  exact Nat.lt_of_lt_of_eq (hlines c hc) hl

/-- edge weight (decision logic stated outright): the producer's latency *without* its separately
    modelled load stage; plus the forwarding latency for store→load; the model's index-write-back
    latency for write-back edges — never the load stage -/
theorem edge_weight_spec (par : Params) (p : Ins) (l : Rat) (h : p.latWoLoad = some l) :
    edgeWeight par p .plain = l ∧ edgeWeight par p .storeLoad = l + par.stlf ∧
    edgeWeight par p .pIndexed = par.pIdx := by
  simp [edgeWeight, h]

/-! ### graph level: `emissions` / `create` against the declarative read-after-write relation -/

/-- `Spec.rawAt` spelled out for two existing positions -/
theorem rawAt_iff (isa : Isa) (fd : Bool) (k : List Ins) (i j : Nat) (p c : Ins)
    (hi : k[i]? = some p) (hj : k[j]? = some c) :
    rawAt isa fd k i j = true ↔
      i < j ∧ ∃ t ∈ targetsOf fd p, isRead isa t c = true ∧
        ∀ d < j - i - 1, ∀ m, k[i + 1 + d]? = some m → isWritten isa t m = false := by
  unfold rawAt
  rw [hi, hj]
  simp only [Bool.and_eq_true, decide_eq_true_eq, List.any_eq_true, List.all_eq_true, List.mem_range]
  refine and_congr_right fun _ => exists_congr fun t => and_congr_right fun _ => and_congr_right fun _ =>
    forall_congr' fun d => imp_congr_right fun _ => ?_
  cases k[i + 1 + d]? <;> simp

/-- **C03 at graph level**: in a kernel with strictly increasing line numbers, for
    the instructions `p`, `c` at positions `i`, `j`: `create_DG` emits a dependency edge
    `p.line → c.line` on behalf of a register / flag destination of `p` **iff** `c` comes later, reads
    a register (flag) that `p` writes, and no instruction strictly between them overwrites it
    (`Spec.rawAt`, defined from the operand roles only).  `regEmissions` are exactly the emissions of
    `create_DG` that arise from a register / flag destination (`mem_emissions`); the remaining ones are
    load-node edges (`loadEmissions`) and the emissions of the store→load scans (`memEmissions`; the
    scans themselves are the subject of C06). -/
theorem edges_iff_raw (isa : Isa) (fd : Bool) (par : Params) (k : List Ins) (hk : WFKernel k)
    (i j : Nat) (p c : Ins) (hi : k[i]? = some p) (hj : k[j]? = some c) :
    (∃ e ∈ regEmissions isa fd par k, e.src = ⟨p.line, false⟩ ∧ e.dst = ⟨c.line, false⟩) ↔
      rawAt isa fd k i j = true := by
  rw [rawAt_iff isa fd k i j p c hi hj]
  constructor
  · rintro ⟨e, he, hsrc, hdst⟩
    obtain ⟨i', p', hi', x, hx, rfl⟩ := (mem_regEmissions isa fd par k e).mp he
    simp only [depEdge, Node.mk.injEq, and_true] at hsrc hdst
    have hii : i' = i := hk.pos_unique hi' hi hsrc
    subst hii
    have hpp : p' = p := by rw [hi] at hi'; exact (Option.some.inj hi').symm
    subst hpp
    obtain ⟨t, ht, hscan⟩ := (mem_findDependingReg isa fd p' _ x).mp hx
    obtain ⟨_, j', c', hj', hl, hr, hall⟩ := (scan_iff_raw isa t _ _ x.1 x.2).mp hscan
    rw [List.getElem?_drop] at hj'
    have hjj : i' + 1 + j' = j := hk.pos_unique hj' hj (hl.trans hdst)
    subst hjj
    have hcc : c' = c := Option.some.inj (hj'.symm.trans hj)
    subst hcc
    rw [Nat.add_assoc, Nat.add_sub_cancel_left, Nat.add_sub_cancel_left]
    refine ⟨Nat.lt_add_of_pos_right (Nat.lt_add_right j' Nat.one_pos), t, ht, hr, ?_⟩
    intro d hd m hm
    exact hall d hd m (by rw [List.getElem?_drop]; exact hm)
  · rintro ⟨hij, t, ht, hr, hall⟩
    have hscan : (c.line, targetTag t) ∈ scanTarget isa t (targetTag t) (k.drop (i + 1)) := by
      refine (scan_iff_raw isa t _ _ _ _).mpr ⟨rfl, j - i - 1, c, ?_, rfl, hr, ?_⟩
      · rw [List.getElem?_drop, Nat.sub_sub, Nat.add_sub_cancel' hij]; exact hj
      · intro m hm w hw
        rw [List.getElem?_drop] at hw
        exact hall m hm w hw
    refine ⟨depEdge par p (c.line, targetTag t), ?_, rfl, rfl⟩
    exact (mem_regEmissions isa fd par k _).mpr
      ⟨i, p, hi, _, (mem_findDependingReg isa fd p _ _).mpr ⟨t, ht, hscan⟩, rfl⟩

/-- completeness on the final graph: every read-after-write pair is an edge of `create` -/
theorem raw_edge_in_create (isa : Isa) (fd : Bool) (par : Params) (k : List Ins) (hk : WFKernel k)
    (i j : Nat) (p c : Ins) (hi : k[i]? = some p) (hj : k[j]? = some c)
    (h : rawAt isa fd k i j = true) :
    ∃ e ∈ create isa fd par k, e.src = ⟨p.line, false⟩ ∧ e.dst = ⟨c.line, false⟩ := by
  obtain ⟨e, he, hs, hd⟩ := (edges_iff_raw isa fd par k hk i j p c hi hj).mpr h
  have hem : e ∈ emissions isa fd par k := (mem_emissions isa fd par k e).mpr (Or.inr (Or.inl he))
  have : pairOf e ∈ (create isa fd par k).map pairOf :=
    (dedupLast_pairs_iff _ _).mpr (List.mem_map.mpr ⟨e, hem, rfl⟩)
  obtain ⟨e', he', hp⟩ := List.mem_map.mp this
  simp only [pairOf, Prod.mk.injEq] at hp
  exact ⟨e', he', hp.1.trans hs, hp.2.trans hd⟩

/-- `add_edge` semantics (∀ emission lists): the result has exactly the
    (source, target) pairs of the emissions, each pair once, and an edge is in the result iff it is
    the LAST emission for its pair — so its weight is the weight of that last emission. -/
theorem dedupLast_pairs (es : List Edge) :
    ((dedupLast es).map pairOf).Nodup ∧
    (∀ pr, pr ∈ (dedupLast es).map pairOf ↔ pr ∈ es.map pairOf) ∧
    (∀ e, e ∈ dedupLast es ↔ ∃ pre post, es = pre ++ e :: post ∧ ∀ f ∈ post, pairOf f ≠ pairOf e) :=
  ⟨dedupLast_nodup es, dedupLast_pairs_iff es, mem_dedupLast es⟩

/-- the graph `create` consists of emissions only; it has exactly the
    (source, target) pairs of the emissions, each once; the weight of a pair is that of the last
    emission for it (as networkx' `add_edge` overwrites). -/
theorem create_edges_subset (isa : Isa) (fd : Bool) (par : Params) (k : List Ins) :
    (∀ e ∈ create isa fd par k, e ∈ emissions isa fd par k) ∧
    ((create isa fd par k).map pairOf).Nodup ∧
    (∀ pr, pr ∈ (create isa fd par k).map pairOf ↔ pr ∈ (emissions isa fd par k).map pairOf) ∧
    (∀ e, e ∈ create isa fd par k ↔ ∃ pre post, emissions isa fd par k = pre ++ e :: post ∧
        ∀ f ∈ post, pairOf f ≠ pairOf e) :=
  ⟨dedupLast_subset _, dedupLast_nodup _, dedupLast_pairs_iff _, mem_dedupLast _⟩

/-- shape of every emission: a load-node edge `(line, load) → (line)` or a dependency edge from the
    producer to a strictly later line, both endpoints being lines of the kernel -/
theorem emissions_shape (isa : Isa) (fd : Bool) (par : Params) (k : List Ins) (hk : WFKernel k)
    (e : Edge) (he : e ∈ emissions isa fd par k) :
    e.dst.load = false ∧ (∃ a ∈ k, a.line = e.src.line) ∧ (∃ b ∈ k, b.line = e.dst.line) ∧
    ((e.src.load = false ∧ e.src.line < e.dst.line) ∨ (e.src.load = true ∧ e.src.line = e.dst.line)) := by
  obtain ⟨h1, h2, h3, ha, hb⟩ := DG.emissions_shape isa fd par k hk e he
  refine ⟨h1, ha, hb, ?_⟩
  cases hl : e.src.load with
  | false => exact Or.inl ⟨rfl, h2 hl⟩
  | true => exact Or.inr ⟨rfl, h3 hl⟩

/-- in a kernel with strictly increasing line numbers every edge of the
    dependency graph goes from a smaller to a larger line; the only exception are the load-node
    edges, which stay on their line.  (Hence the graph is acyclic and line order is a topological
    order — what `get_critical_path` and the LCD search rely on.) -/
theorem edges_forward (isa : Isa) (fd : Bool) (par : Params) (k : List Ins) (hk : WFKernel k)
    (e : Edge) (he : e ∈ create isa fd par k) :
    e.dst.load = false ∧
    ((e.src.load = false ∧ e.src.line < e.dst.line) ∨ (e.src.load = true ∧ e.src.line = e.dst.line)) := by
  obtain ⟨hdst, -, -, hfwd⟩ := emissions_shape isa fd par k hk e (dedupLast_subset _ e he)
  exact ⟨hdst, hfwd⟩

/-- both endpoints of every edge of `create` are lines of the kernel -/
theorem edges_in_kernel (isa : Isa) (fd : Bool) (par : Params) (k : List Ins) (hk : WFKernel k)
    (e : Edge) (he : e ∈ create isa fd par k) :
    (∃ a ∈ k, a.line = e.src.line) ∧ (∃ b ∈ k, b.line = e.dst.line) := by
  obtain ⟨-, hsrc, hdst, -⟩ := emissions_shape isa fd par k hk e (dedupLast_subset _ e he)
  exact ⟨hsrc, hdst⟩

/-- no instruction of the kernel has a memory destination (no store) -/
def NoMemDst (k : List Ins) : Prop :=
  k.all (fun p => (p.dst ++ p.srcDst).all fun d => match d with | .mem _ => false | _ => true) = true

instance (k : List Ins) : Decidable (NoMemDst k) := by unfold NoMemDst; infer_instance

theorem memEmissions_nil (isa : Isa) (par : Params) (k : List Ins) (h : NoMemDst k) :
    memEmissions isa par k = [] := by
  induction k with
  | nil => rfl
  | cons p rest ih =>
    obtain ⟨hp, hrest⟩ := Bool.and_eq_true_iff.mp (List.all_cons.symm.trans h)
    have hnil : findDependingMem isa p rest = [] := by
      refine List.flatMap_eq_nil_iff.mpr fun d hd => ?_
      have := List.all_eq_true.mp hp d hd
      cases d with
      | mem m => cases this
      | _ => rfl
    rw [memEmissions, hnil, ih hrest]
    rfl

theorem loadEmissions_src (k : List Ins) (e : Edge) (he : e ∈ loadEmissions k) : e.src.load = true := by
  induction k with
  | nil => simp [loadEmissions] at he
  | cons p rest ih =>
    simp only [loadEmissions, List.mem_append] at he
    rcases he with he | he
    · rw [(mem_loadEdge he).1]
    · exact ih he

/-- **C03 on the final graph** for kernels without stores: `create` has an edge between the
    instruction nodes of positions `i`, `j` iff `(i, j)` is a read-after-write pair. -/
theorem create_iff_raw (isa : Isa) (fd : Bool) (par : Params) (k : List Ins) (hk : WFKernel k)
    (hm : NoMemDst k) (i j : Nat) (p c : Ins) (hi : k[i]? = some p) (hj : k[j]? = some c) :
    (∃ e ∈ create isa fd par k, e.src = ⟨p.line, false⟩ ∧ e.dst = ⟨c.line, false⟩) ↔
      rawAt isa fd k i j = true := by
  constructor
  · rintro ⟨e, he, hs, hd⟩
    refine (edges_iff_raw isa fd par k hk i j p c hi hj).mp ⟨e, ?_, hs, hd⟩
    have hem := dedupLast_subset _ e he
    rcases (mem_emissions isa fd par k e).mp hem with h | h | h
    · have := loadEmissions_src k e h
      rw [hs] at this; cases this
    · exact h
    · rw [memEmissions_nil isa par k hm] at h; cases h
  · exact raw_edge_in_create isa fd par k hk i j p c hi hj

/-- a concrete kernel for the non-vacuity checks: `eax` written at line 3 kills the dependency of
    line 4 on line 1 (aliasing widths) -/
def demoKernel : List Ins :=
  let r (n : String) : Op := .reg { name := Text.ofString n }
  let mk (line : Nat) (src dst : List Op) : Ins :=
    { line := line, src := src, dst := dst, srcDst := [], lat := 1, latWoLoad := none, hasLd := false,
      isLd := false, changes := [], changesPost := [] }
  [mk 1 [] [r "rax"], mk 2 [r "rax"] [r "rbx"], mk 3 [] [r "eax"], mk 4 [r "rax"] [r "rcx"]]

-- the graph of the same four instructions, written out: the edge 1 → 4 is killed at line 3
example :
    let r (n : String) : Op := .reg { name := Text.ofString n }
    let mk (line : Nat) (src dst : List Op) : Ins :=
      { line := line, src := src, dst := dst, srcDst := [], lat := 1, latWoLoad := none, hasLd := false,
        isLd := false, changes := [], changesPost := [] }
    (create .x86 false {} [mk 1 [] [r "rax"], mk 2 [r "rax"] [r "rbx"], mk 3 [] [r "eax"],
      mk 4 [r "rax"] [r "rcx"]]).map (fun e => (e.src.line, e.dst.line)) = [(1, 2), (3, 4)] := by
  decide +kernel

-- non-vacuity: the hypothesis `WFKernel` holds of the demo kernel; both sides of `edges_iff_raw` are
-- inhabited (positions 0 → 1 are RAW, positions 0 → 3 are not: killed at position 2)
example : WFKernel demoKernel := by decide +kernel
example : NoMemDst demoKernel := by decide +kernel
example : rawAt .x86 false demoKernel 0 1 = true ∧ rawAt .x86 false demoKernel 0 3 = false ∧
    rawAt .x86 false demoKernel 2 3 = true := by decide +kernel
example : (regEmissions .x86 false {} demoKernel).map (fun e => (e.src.line, e.dst.line)) = [(1, 2), (3, 4)] := by
  decide +kernel
-- non-vacuity of `dedupLast_pairs`: the later emission for the pair (1, 2) overwrites the weight in place
example : (dedupLast [⟨⟨1, false⟩, ⟨2, false⟩, 5⟩, ⟨⟨1, false⟩, ⟨3, false⟩, 1⟩, ⟨⟨1, false⟩, ⟨2, false⟩, 7⟩]).map
    (fun e => (e.src.line, e.dst.line, e.w)) = [(1, 2, 7), (1, 3, 1)] := by decide +kernel

end OsacaVerif.Props.C03
