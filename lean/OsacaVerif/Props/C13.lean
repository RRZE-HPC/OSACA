import OsacaVerif.Lemmas.ReportTable
import OsacaVerif.Lemmas.ReportLcd
/-
  C13 — Text report, machine-readable output and totals agree.

  Model: `Report.combinedView` & co. (Model/Report.lean) mirror osaca/frontend.py; titles, warning texts,
  widths and symbols are regenerated from the source (`Gen.Report`).  Reader / specification: `Spec.Report.parseTable`,
  `shownOk` (Spec/ReportView.lean, no generated constants).  `Report.view a` is the machine-readable
  content of analysis `a` at the precision the report shows.

  The theorems hold for any number of ports and lines, any magnitudes (≥ 10, ≥ 100, …) and any flags
  (induction over the cell / line lists); those about a whole table assume `WF a` (top of
  Lemmas/Report.lean: lengths fit the ports, port names and `repr` texts fit their fields, no text contains
  a line feed), `lcdlist_roundtrip` assumes roots without line feed.
-/
namespace OsacaVerif.Props.C13
open OsacaVerif OsacaVerif.Text OsacaVerif.Fmt OsacaVerif.Report OsacaVerif.Spec.Report
open OsacaVerif.Gen.Report

/-! ### the cell formatter -/

/-- **cell formatter round trip** (∀ sign, digits, decimals, and whatever follows that is not part
    of a number): a printed number is read back with exactly its digits and its number of decimals. -/
theorem fmt2_roundtrip (s : Shown) (rest : Txt) (hr : NumEnd rest) :
    parseNum (renderShown s ++ rest) = some (s, rest) := parseNum_renderShown s rest hr

/-- `"{:.pf}".format(x)` read back gives `x` rounded half-even to `p` decimals (∀ x, p). -/
theorem fmtFixed_roundtrip (x : Rat) (p : Nat) (rest : Txt) (hr : NumEnd rest) :
    parseNum (fmtFixed x p ++ rest) = some (shown x p, rest) := parseNum_renderShown _ rest hr

/-- **shown precision**: what is printed for `x` with `p` decimals is a nearest `p`-decimal number to
    `x` (`|x·10^p − m| ≤ 1/2`) and carries the sign of `x` (∀ x, p). -/
theorem shown_nearest (x : Rat) (p : Nat) : shownOk (shown x p) x = true := by
  have hd : 0 < x.den := x.den_pos
  have := roundHE_near (x.num.natAbs * 10 ^ p) x.den hd
  unfold shownOk
  rw [Bool.and_eq_true]
  exact ⟨decide_eq_true this, by simp [shown, isNeg]⟩

/-- at an exact tie the even neighbour is shown (Python's `format`/`round` on the exact value) -/
theorem shown_tie_even (x : Rat) (p : Nat) (h : 2 * ((x.num.natAbs * 10 ^ p) % x.den) = x.den) :
    (shown x p).mant % 2 = 0 := roundHE_tie_even _ _ h

/-- the value of a shown literal determines it among literals with the same number of decimals:
    two different `p`-decimal literals are never both shown for… the same digits (no merging) -/
theorem shown_injective (s t : Shown) (h : renderShown s = renderShown t) : s = t := by
  have h1 := parseNumFull_renderShown s
  rw [h, parseNumFull_renderShown t] at h1
  exact (Option.some.inj h1).symm

/-! ### cells and lines -/

/-- **row renderer / row parser round trip** (∀ number of ports, by induction over the cell list):
    cells never merge or truncate - every cell is read back blank or with its value at the
    column's precision, whatever its magnitude. -/
theorem cells_roundtrip (xs : List Rat) (us : List Bool) (ls ss : List Nat) (names : List Txt) (rest : Txt)
    (hu : us.length = xs.length) (hl : ls.length = xs.length) (hs : ss.length = xs.length)
    (hn : names.length = xs.length) (hok : CellsOk xs us ls) :
    parseCells (colsOf names ls ss) ((cellBodies xs us ls ss).flatMap (fun b => 32 :: b) ++ rest) =
      some (cellViews xs us ls, rest) := parseCells_render xs us ls ss names rest hu hl hs hn hok

/-- the column widths computed by `_get_max_port_len` leave every cell of every kernel line at
    least one decimal (so the fall-back format is never used in a kernel line), ∀ kernels -/
theorem widths_sufficient (ports : List Txt) (rows : List Row) (r : Row) (hr : r ∈ rows)
    (hlen : r.press.length = ports.length) : CellsOk r.press r.used (maxPortLen ports rows) :=
  cellsOk_maxPortLen ports rows r hr hlen

theorem row_roundtrip (a : Analysis) (hwf : WF a) (r : Row) (hr : r ∈ a.rows) :
    parseRow (colsOf a.ports (maxPortLen a.ports a.rows) (sepList colSep groupSep a.ports))
      (renderRow a (maxPortLen a.ports a.rows) (sepList colSep groupSep a.ports) r) =
      some (rowView a (maxPortLen a.ports a.rows) r) :=
  parseRow_render a _ r hwf.ports_ne (maxPortLen_length _ _) (rowOk_of_wf a hwf r hr)

/-- the totals line: the non-blank totals in port order, then the CP and LCD totals
    (∀ magnitudes: also when a total needs the fall-back format or overflows its column) -/
theorem totals_roundtrip (a : Analysis) (hwf : WF a) (plens : List Nat) :
    parseSummary (summaryRow a plens) =
      some (.summary ((sumViews (sumsOf a) plens).filterMap id) a.cpSum (lcdSumRepr a)) :=
  parseSummary_render a plens (sumsOf_ne_nil a hwf) hwf.cpSum.1 (lcdSumRepr_ok a hwf).1

/-! ### the whole table -/

/-- **report_roundtrip**: reading the text of `combined_view` back yields exactly the
    machine-readable content at the shown precision: port columns, every line with its pressure
    cells, CP and LCD cells, flag symbols and text, and the totals line or the missing-data warning
    with its number (∀ well-formed analyses). -/
theorem report_roundtrip (a : Analysis) (hwf : WF a) : parseTable (combinedView a) = some (view a) := by
  rw [parseTable, combinedView, combinedTitle_lines, List.append_assoc,
    afterTitle_section _ _ _ _ (by decide) (by unfold NoNL; decide) (noNL_tableLines a hwf)]
  exact parseTableLines_render a hwf _

/-- the cells of `view` against the values: blank only for an unused zero, otherwise nearest at the
    shown precision -/
def CellsAgree : List (Option Shown) → List Rat → List Bool → Prop
  | c :: cs, x :: xs, u :: us =>
    (match c with
      | none => x.num = 0 ∧ u = false
      | some s => shownOk s x = true) ∧ CellsAgree cs xs us
  | [], _, _ => True
  | _ :: _, _, _ => False

theorem cells_agree (xs : List Rat) (us : List Bool) (ls : List Nat) :
    CellsAgree (cellViews xs us ls) xs us := by
  fun_induction cellViews xs us ls with
  | case1 x xs u us l ls ih =>
    refine ⟨?_, ih⟩
    unfold cellView
    by_cases hz : (decide (x.num = 0) && !u) = true
    · simp only [hz, if_true]; simpa using hz
    · simp only [hz, Bool.false_eq_true, if_false]; exact shown_nearest _ _
  | case2 => simp [CellsAgree]

/-- every line of the view shows the line's own pressures (`PortPressure` of the dict) -/
theorem view_cells_agree (a : Analysis) (r : Row) (_hr : r ∈ a.rows) :
    CellsAgree (rowView a (maxPortLen a.ports a.rows) r).cells r.press r.used := cells_agree _ _ _

/-- totals against the values: the shown totals are the non-zero totals, each nearest at its precision -/
def SumsAgree : List Shown → List Rat → Prop
  | ss, x :: xs => if x.num = 0 then SumsAgree ss xs else
      match ss with
      | s :: ss' => shownOk s x = true ∧ SumsAgree ss' xs
      | [] => False
  | ss, [] => ss = []

theorem sums_agree (xs : List Rat) (ls : List Nat) (h : xs.length ≤ ls.length) :
    SumsAgree ((sumViews xs ls).filterMap id) xs := by
  induction xs generalizing ls with
  | nil => simp [sumViews, SumsAgree]
  | cons x xs ih =>
    cases ls with
    | nil => simp at h
    | cons l ls =>
      have ih := ih ls (Nat.le_of_succ_le_succ h)
      simp only [sumViews, SumsAgree]
      unfold sumView
      by_cases hz : x.num = 0
      · simp only [hz, if_true, List.filterMap_cons]
        exact ih
      · simp only [hz, if_false]
        by_cases hp : cellPrec x l = 0 <;> simp only [hp, if_true, if_false, List.filterMap_cons, id] <;>
          exact ⟨shown_nearest _ _, ih⟩

/-! ### unknown instructions -/

theorem unknown_symbol : (88, unknownFlag) ∈ flagSymbols := by decide

/-- **unknown_logic**: without `--ignore-unknown`, if any line lacks data the report ends with the
    missing-data warning stating the number of such lines and shows no totals; every such line
    (that is an instruction) is marked `X`.  Otherwise the totals line is shown. -/
theorem unknown_logic (a : Analysis) (hwf : WF a) :
    (a.ignoreUnknown = false ∧ a.rows.any isUnknown = true →
      (∃ v, parseTable (combinedView a) = some v ∧ v.tail = .missing (numMissing a.rows)) ∧
      numMissing a.rows = (a.rows.filter isUnknown).length ∧
      ∀ r ∈ a.rows, isUnknown r = true → r.hasMnemonic = true →
        88 ∈ (rowView a (maxPortLen a.ports a.rows) r).flags) ∧
    (a.ignoreUnknown = true ∨ a.rows.any isUnknown = false →
      ∃ v sums cp lcd, parseTable (combinedView a) = some v ∧ v.tail = .summary sums cp lcd) := by
  constructor
  · rintro ⟨h1, h2⟩
    refine ⟨⟨view a, report_roundtrip a hwf, ?_⟩, rfl, ?_⟩
    · simp [view, tailView, showsTotals, h1, h2]
    · intro r _ hu hm
      simp only [rowView, hm, if_true, List.mem_filterMap]
      refine ⟨(88, unknownFlag), unknown_symbol, ?_⟩
      have : r.flags.contains unknownFlag = true := hu
      simpa using this
  · intro h
    have : showsTotals a = true := by
      unfold showsTotals
      rcases h with h | h <;> simp [h]
    refine ⟨view a, (sumViews (sumsOf a) (maxPortLen a.ports a.rows)).filterMap id, a.cpSum, lcdSumRepr a,
      report_roundtrip a hwf, ?_⟩
    simp only [view, tailView, this, if_true]

/-! ### selection of the loop-carried dependency -/

theorem foldl_max_ge_all (ds : List Dep) (d : Dep) :
    let m := ds.foldl (fun best e => if best.lat < e.lat then e else best) d
    d.lat ≤ m.lat ∧ ∀ e ∈ ds, e.lat ≤ m.lat :=
  ⟨(foldl_firstMax_spec ds d).2 d List.mem_cons_self,
    fun e he => (foldl_firstMax_spec ds d).2 e (List.mem_cons_of_mem _ he)⟩

/-- **lcd_selection**: the LCD column and the LCD total come from one and the same entry of the
    dependency dictionary, which has the maximal latency (so the total is the maximum loop-carried
    latency); with no dependency the column is empty and the total is `0.0`. -/
theorem lcd_selection (a : Analysis) :
    (a.deps = [] → lcdMembers a = [] ∧ lcdSumRepr a = [48, 46, 48]) ∧
    (a.deps ≠ [] → ∃ d ∈ a.deps, lcdMembers a = d.members ∧ lcdSumRepr a = d.latRepr ∧
      ∀ e ∈ a.deps, e.lat ≤ d.lat) := by
  constructor
  · intro h; simp [lcdMembers, lcdSumRepr, h, firstMax]
  · intro h
    obtain ⟨e, es, hd⟩ := List.exists_cons_of_ne_nil h
    have hf : firstMax a.deps = some (es.foldl (fun best e => if best.lat < e.lat then e else best) e) := by
      rw [hd]; rfl
    obtain ⟨hm, hg⟩ := firstMax_spec _ _ hf
    exact ⟨_, hm, by simp [lcdMembers, hf], by simp [lcdSumRepr, hf], hg⟩

/-- the first of several maximal entries is taken (Python's `max`): nothing before it is as large -/
theorem lcd_selection_first (e : Dep) (es : List Dep) :
    ∀ (pre post : List Dep) (d : Dep), e :: es = pre ++ d :: post →
      (∀ x ∈ pre, x.lat < d.lat) → (∀ x ∈ post, x.lat ≤ d.lat) → firstMax (e :: es) = some d := by
  intro pre post d hsplit hpre hpost
  -- once the running best is `d`, nothing after it is larger
  have key : ∀ l : List Dep, (∀ x ∈ l, x.lat ≤ d.lat) →
      l.foldl (fun best e => if best.lat < e.lat then e else best) d = d := by
    intro l hl
    induction l with
    | nil => rfl
    | cons x xs ih =>
      rw [List.foldl_cons, if_neg (Rat.not_lt.mpr (hl x List.mem_cons_self))]
      exact ih fun y hy => hl y (List.mem_cons_of_mem _ hy)
  -- a running best below `d` stays below `d` through `pre` and is replaced by `d`
  have key2 : ∀ (l : List Dep) (b : Dep), b.lat < d.lat → (∀ x ∈ l, x.lat < d.lat) →
      (l ++ d :: post).foldl (fun best e => if best.lat < e.lat then e else best) b = d := by
    intro l
    induction l with
    | nil =>
      intro b hb _
      rw [List.nil_append, List.foldl_cons, if_pos hb]
      exact key post hpost
    | cons x xs ih =>
      intro b hb hx
      rw [List.cons_append, List.foldl_cons]
      refine ih _ ?_ fun y hy => hx y (List.mem_cons_of_mem _ hy)
      split
      · exact hx x List.mem_cons_self
      · exact hb
  rw [firstMax, Option.some.injEq]
  cases pre with
  | nil =>
    obtain ⟨rfl, rfl⟩ := List.cons.inj hsplit
    exact key es hpost
  | cons p ps =>
    obtain ⟨rfl, rfl⟩ := List.cons.inj hsplit
    exact key2 ps e (hpre e List.mem_cons_self) fun y hy => hpre y (List.mem_cons_of_mem _ hy)

/-! ### the list of loop-carried dependencies -/

/-- **lcdlist_roundtrip**: reading the LCD list back yields one entry per dictionary entry (in key
    order) with the first line number of its key, its latency at the shown precision (one decimal)
    and all its member lines (∀ numbers of entries and members, any instruction text without newline). -/
theorem lcdlist_roundtrip (a : Analysis) (hroot : ∀ d ∈ a.deps, NoNL d.root) :
    parseLcdList (lcdList a) = some ((sortDeps a.deps).map lcdView) := by
  have hls : ∀ l ∈ (sortDeps a.deps).map lcdLine, NoNL l := by
    intro l hl
    obtain ⟨d, hd, rfl⟩ := List.mem_map.mp hl
    exact noNL_lcdLine d (hroot d ((sortDeps_perm a.deps).mem_iff.mp hd))
  have := afterTitle_section titleLcd titleLcd.length _ [] (by decide) (by unfold NoNL; decide) hls
  rw [List.append_nil] at this
  rw [parseLcdList, lcdList, lcdTitle2_lines, this]
  simp only []  -- reduces the `match` on `some (_ :: _)`
  rw [show splitOn 10 [] = [[]] from rfl, takeWhile_append_stop _ _ _ (by
    intro l hl
    obtain ⟨d, _, rfl⟩ := List.mem_map.mp hl
    simpa using lcdLine_ne_nil d) (headNot_cons rfl)]
  exact mapM'_map _ _ _ _ fun d _ => parseLcdLine_render d

/-- the list shows every loop-carried dependency exactly once (sorting is a permutation) -/
theorem lcdlist_complete (a : Analysis) : (sortDeps a.deps).Perm a.deps := sortDeps_perm a.deps

/-- each shown entry agrees with its dictionary entry: latency nearest at one decimal, same member lines -/
theorem lcdlist_entry (d : Dep) :
    shownOk (lcdView d).lat d.lat = true ∧ (lcdView d).members = d.members.map (·.1) :=
  ⟨shown_nearest _ _, rfl⟩

/-! ### warnings and default model -/

/-- **warning_logic** (option logic of `osaca.inspect`): the no-micro-architecture warning is requested
    exactly when no `--arch` was given; the large-kernel warning exactly when no `--lines` was given,
    the kernel is the whole parsed file and it has more than `lengthThreshold` (= 100) lines. -/
theorem warning_logic (archGiven linesGiven : Bool) (kernelLen parsedLen : Nat) :
    (archWarningFlag archGiven = true ↔ archGiven = false) ∧
    (lengthWarningFlag linesGiven kernelLen parsedLen = true ↔
      linesGiven = false ∧ kernelLen = parsedLen ∧ 100 < kernelLen) := by
  have : lengthThreshold = 100 := by decide
  cases archGiven <;> cases linesGiven <;> simp [archWarningFlag, lengthWarningFlag, this]

/-- the warning texts are printed exactly when requested (header and footer blocks of the report),
    and the three texts cannot be mistaken for one another -/
theorem warning_texts (aw lw lcdw : Bool) :
    detectWarnings (warningsHeader aw lw ++ warningsFooter lcdw) = (aw, lw, lcdw) := by
  -- every block shows its own warning only
  have hA : detectWarnings archWarning = (true, false, false) := by decide +kernel
  have hL : detectWarnings lengthWarning = (false, true, false) := by decide +kernel
  have hC : detectWarnings lcdWarning = (false, false, true) := by decide +kernel
  simp only [detectWarnings, Prod.mk.injEq] at hA hL hC ⊢
  rw [isInfix_warnings (by decide) (by decide), isInfix_warnings (by decide) (by decide),
    isInfix_warnings (by decide) (by decide)]
  simp [hA, hL, hC]

/-- the machine-readable `Warnings` list carries the same three flags (plus the unknown-instruction
    entry exactly when some line lacks data) -/
theorem dict_warnings (aw lw lcdw : Bool) (rows : List Row) :
    dictWarningList aw lw lcdw rows =
      (if aw then [dictWarnings.getD 0 []] else []) ++ (if lw then [dictWarnings.getD 1 []] else []) ++
      (if lcdw then [dictWarnings.getD 2 []] else []) ++
      (if rows.any isUnknown then [dictWarnings.getD 3 []] else []) := by
  rfl

/-- both ISAs have a default model (used when no `--arch` is given) -/
theorem default_arch_defined :
    (defaultArch [120, 56, 54]).isSome = true ∧ (defaultArch [97, 97, 114, 99, 104, 54, 52]).isSome = true := by
  decide +kernel

/-! ### non-vacuity -/

private def exRow (n : Nat) (p : List Rat) : Row :=
  { line := n, press := p, used := p.map (fun x => x.num != 0), hasMnemonic := true, flags := [], text := [97, 100, 100] }

private def exA : Analysis :=
  { ports := [[48], [48, 68, 86], [49]]
    rows := [exRow 7 [1/2, 0, 25/2], exRow 8 [0, 100, 1/3], { exRow 12 [0, 0, 0] with flags := [unknownFlag] }]
    cp := [(8, [52, 46, 48])]
    deps := [{ key := [56], lat := 1, latRepr := [49, 46, 48], root := [97], members := [(8, [49, 46, 48])] }]
    ignoreUnknown := true
    tpSum := [1/2, 100, 77/6]
    cpSum := [52, 46, 48] }

-- a concrete analysis with a two-digit and a three-digit pressure, a grouped port pair and an
-- unknown instruction meets the hypotheses of `report_roundtrip`, so it is rendered and read back
example : parseTable (combinedView exA) = some (view exA) :=
  report_roundtrip exA
    { ports_ne := List.cons_ne_nil _ _
      names := by simp only [NameOk, NoNL]; decide +kernel
      rows_ne := List.cons_ne_nil _ _
      rows := by simp only [NoNL]; decide +kernel
      cp := by simp only [TokOk, NoNL]; decide +kernel
      deps := by simp only [TokOk, WordOk, NoNL]; decide +kernel
      cpSum := by simp only [WordOk, NoNL]; decide +kernel
      tpSum := .inr rfl }
example : (view exA).rows.length = 3 ∧ (view exA).cols.length = 3 ∧
    ((view exA).rows.map (·.cells)) =
      [[some ⟨false, 50, 2⟩, none, some ⟨false, 1250, 2⟩],
       [none, some ⟨false, 10000, 2⟩, some ⟨false, 333, 3⟩],
       [none, none, none]] := by decide +kernel
example : (view { exA with ignoreUnknown := false }).tail = .missing 1 := by decide +kernel
example : parseNum (fmtFixed (2675 / 1000) 2 ++ [32]) = some (⟨false, 268, 2⟩, [32]) := by decide +kernel
example : shown (5 / 1000) 2 = ⟨false, 0, 2⟩ ∧ shown (15 / 1000) 2 = ⟨false, 2, 2⟩ ∧
    shown (-1 / 1000) 2 = ⟨true, 0, 2⟩ := by decide +kernel
example : shownOk ⟨false, 33, 2⟩ (1 / 3) = true ∧ shownOk ⟨false, 34, 2⟩ (1 / 3) = false := by decide +kernel
example : lengthWarningFlag false 101 101 = true ∧ lengthWarningFlag false 100 100 = false ∧
    lengthWarningFlag true 101 101 = false ∧ lengthWarningFlag false 101 150 = false := by decide +kernel
example : lcdMembers exA = [(8, [49, 46, 48])] := by decide +kernel
example : parseLcdList (lcdList exA) = some [⟨8, ⟨false, 10, 1⟩, [8]⟩] := by decide +kernel

end OsacaVerif.Props.C13
