import OsacaVerif.Props.EndToEnd
import OsacaVerif.Gen.IsaDb_aarch64
/-
  End to end (AArch64): the statements of `Props/EndToEnd.lean` for `EndToEnd.analyseA64 = analyse .a64` — the
  function from the TEXT of an AArch64 assembly file to the analysis and its report, composed from
  `ParseA64.parseFile` (C10), `Glue.formA64`, `Isa.assignSrcDst .a64` (default roles first-operand-destination,
  write-back of pre- or post-indexed bases; C03Roles), `Compose.assignTpLt` on an AArch64 machine model (`.`-suffix
  fall-back, register form + load/store tables; C07, C08), `Isa.regChanges .a64`, `Pipeline.run` with
  `DG.Isa.a64` and `p_index_latency` (C11Pipeline) and the report model (C13).

  Every theorem here is the `.a64` instance of an ISA-generic theorem of `Props/EndToEnd.lean`; the statements are
  written out with the AArch64 stage functions so that they can be read on their own.  Each one has a non-vacuity
  `example` evaluated by the kernel on the file

      1  ldr d1, [x2], #8      post-indexed load, composed from its register form `LDR d, x` + the load default
      2  // note               comment-only line
      3  foo x3, x2            unknown mnemonic (default roles: first operand destination)
      4  add x2, x2, #8        own entry

  Dependency edges: load node of 1 → 1 (load latency 4), 1 → 3 and 1 → 4 through the WRITTEN-BACK base `x2` with the
  weight `p_index_latency = 2` (not the latency 1 of the `ldr`); critical path 7; LCD 1-4 (2 + 1).
-/
namespace OsacaVerif.Props.EndToEndA64
open OsacaVerif OsacaVerif.Text OsacaVerif.EndToEnd OsacaVerif.ParseX86 OsacaVerif.Pipeline
open OsacaVerif.Spec.X86R (joinLines)
open OsacaVerif.Props.C11Pipeline (eraseNum SameOnInstr)
open OsacaVerif.Props.EndToEnd

/-! ### the AArch64 front end behind `analyse .a64` -/

/-- `parse_line`: `ParserAArch64.parse_line` through the glue; `ValueError` and every other exception are errors -/
theorem parseLineOf_a64 (t : Txt) : parseLineOf .a64 t = resA64 (ParseA64.parseLine t) := rfl

/-- `parse_file`: the AArch64 parser model's own transcription of `BaseParser.parse_file` -/
theorem parseFileOf_a64 (c : Txt) :
    parseFileOf .a64 c = (ParseA64.parseFile c 0).map fun x => ⟨x.lineNo, x.text, resA64 x.out⟩ := rfl

/-- an instruction line behind the glue: mnemonic, comment, operands as selection / the matcher see them -/
theorem formA64_instr (mn : Txt) (ops : List ParseA64.Operand) (c : Option Txt) :
    Glue.formA64 (.instr mn ops c) =
      { mnemonic := some mn, comment := c, selOps := ops.map Glue.opdA64, operands := Glue.opndsA64 ops } := rfl

/-- the key `Glue.keyA64` identifies an AArch64 operand under `==`: equal keys ⇒ equal on every field
    `RegisterOperand.__eq__` (name, prefix, lanes, shape, index), `ImmediateOperand.__eq__` and `MemoryOperand.__eq__`
    (offset, base, index register, scale, pre_indexed, post_indexed) compare (`Glue.eqViewA64` erases the fields they
    do not read: the predication of a register, shift operator / amount of an index register); operands of the
    classes without `__eq__` (identifier, condition code, prefetch operation) equal only the one at their own position -/
theorem glue_a64_key_identifies (i j : Nat) (a b : ParseA64.Operand) (h : Glue.keyA64 i a = Glue.keyA64 j b) :
    Glue.eqViewA64 a = Glue.eqViewA64 b ∨
    (i = j ∧ ((∃ x y, a = .ident x ∧ b = .ident y) ∨ (∃ x y, a = .cond x ∧ b = .cond y) ∨
              (∃ t g p t' g' p', a = .prf t g p ∧ b = .prf t' g' p'))) := Glue.keyA64_eq i j a b h

/-- the matcher's view of the operands of an AArch64 instruction line is the operand-by-operand conversion -/
theorem glue_a64_operands (mn : Txt) (ops : List ParseA64.Operand) (c : Option Txt) :
    (Glue.formA64 (.instr mn ops c)).operands.map (·.p) = ops.map Glue.poperandA64 := glue_operands_a64 mn ops c

/-! ### 1. `analyseA64` is the composition of the stage models -/

theorem e2e_a64_factors (m : Model) (o : Opts) (file : Txt) :
    analyseA64 m o file =
      match collect ((ParseA64.parseFile file 0).map fun x => (⟨x.lineNo, x.text, resA64 x.out⟩ : FLine)) with
      | .error (n, e) => .parseError n e
      | .ok fs => assemble .a64 m o (fs.map fun x => lineOf .a64 m x.1 x.2.1 x.2.2) := rfl

/-- **e2e_a64_factors** (line level): an instruction line `mn ops` gets `Isa.assignSrcDst .a64` (roles incl. the
    write-back registers), `Compose.assignTpLt` on the instruction with those roles, and `Isa.regChanges .a64`
    (both variants: the register changes and the post-index change) — through `Glue.opndsA64`, nothing else. -/
theorem e2e_a64_factors_line (m : Model) (num : Nat) (text mn : Txt) (ops : List ParseA64.Operand) (c : Option Txt) :
    lineOf .a64 m num text (Glue.formA64 (.instr mn ops c)) =
      (let opnds := Glue.opndsA64 ops
       let roles := Isa.assignSrcDst .a64 m.isaDb (some mn) opnds
       let sel : Marker.Line := { num := num, mnem := some mn, comment := c, dir := none, ops := ops.map Glue.opdA64 }
       match Compose.assignTpLt m.mm (Glue.composeIns (some mn) opnds roles.sem),
             Isa.regChanges .a64 m.isaDb (some mn) opnds roles.sem false,
             Isa.regChanges .a64 m.isaDb (some mn) opnds roles.sem true with
       | .ok t, .ok ch, .ok chp =>
         { pl := { sel := sel
                   sem := { src := roles.sem.src.map Isa.toDG, dst := roles.sem.dst.map Isa.toDG,
                            srcDst := roles.sem.srcDst.map Isa.toDG, lat := t.lat, latWoLoad := some t.latWoLoad,
                            hasLd := roles.hasLd, isLd := t.flags.contains Gen.flagLD,
                            changes := ch.map fun e => (e.1, Isa.toChange e.2),
                            changesPost := chp.map fun e => (e.1, Isa.toChange e.2),
                            tp := t.tp, pressure := t.pressure, used := Glue.usedMask m.mm.ports t.uops,
                            flags := Glue.flagsOf roles t }
                   text := text } }
       | .error e, _, _ => { pl := { sel := sel, text := text }, err := some (.tplt e) }
       | .ok _, .error e, _ => { pl := { sel := sel, text := text }, err := some (.changes e) }
       | .ok _, .ok _, .error e => { pl := { sel := sel, text := text }, err := some (.changes e) }) :=
  e2e_factors_line .a64 m num text (Glue.formA64 (.instr mn ops c))

theorem e2e_a64_factors_ok (m : Model) (o : Opts) (file : Txt) (r : Result) (h : analyseA64 m o file = .ok r) :
    ∃ fs k, collect (parseFileOf .a64 file) = .ok fs ∧
      r.parsed = (linesOf .a64 m fs).map (·.pl) ∧
      select o.mode r.parsed = .ok k ∧ k ≠ [] ∧ r.kernel = k ∧
      Pipeline.run (cfgOf .a64 m o) o.mode r.parsed = .ok r.analysis ∧
      r.analysis = analyze (cfgOf .a64 m o) k ∧
      r.report = toReport o.repr m.mm.ports o.ignoreUnknown m.mm.ports.length k r.analysis ∧
      r.text = Report.fullAnalysis o.version o.file o.arch o.stamp (Report.archWarningFlag o.archGiven)
        (Report.lengthWarningFlag (linesGiven o.mode) k.length r.parsed.length) false r.report :=
  e2e_factors_ok .a64 m o file r h

/-- the analysis runs with the AArch64 register-dependence relation and the model's `p_index_latency` -/
theorem e2e_a64_cfg (m : Model) (o : Opts) :
    cfgOf .a64 m o = { isa := .a64, flagDeps := o.flagDeps, par := m.par, floor := o.floor, nports := m.mm.ports.length } := rfl

/-! ### 2. per-line locality -/

theorem e2e_a64_per_line_local (m : Model) (file : Txt) (fs : List (Nat × Txt × Glue.Form))
    (h : collect (parseFileOf .a64 file) = .ok fs) :
    linesOf .a64 m fs = (numbered 0 0 (splitLines file)).map (fun p => lineOfText .a64 m p.1 p.2) ∧
    ∀ n n' t, lineOfText .a64 m n t = setLineNum n (lineOfText .a64 m n' t) :=
  e2e_per_line_local .a64 m file fs h

theorem e2e_a64_per_line_local_files (m : Model) (o1 o2 : Opts) (file1 file2 : Txt) (r1 r2 : Result)
    (h1 : analyseA64 m o1 file1 = .ok r1) (h2 : analyseA64 m o2 file2 = .ok r2)
    (p1 p2 : PLine) (hp1 : p1 ∈ r1.parsed) (hp2 : p2 ∈ r2.parsed) (ht : p1.text = p2.text) :
    eraseNum p1 = eraseNum p2 :=
  e2e_per_line_local_files .a64 m o1 o2 file1 file2 r1 r2 h1 h2 p1 p2 hp1 hp2 ht

theorem e2e_a64_rows_local (m : Model) (o : Opts) (file : Txt) (r : Result) (h : analyseA64 m o file = .ok r) :
    r.analysis.rows = r.kernel.map (rowOf m.mm.ports.length) ∧ r.kernel.Sublist r.parsed ∧
    ∀ row ∈ r.analysis.rows, ∃ t, (row.line, t) ∈ numbered 0 0 (splitLines file) ∧
      row = { rowOfText .a64 m t with line := row.line } :=
  e2e_rows_local .a64 m o file r h

/-! ### 3. an unknown instruction stays isolated -/

/-- **e2e_a64_unknown_isolated**: replace the line `l` of an AArch64 file by a line `l'` whose mnemonic has no entry
    in the model — neither directly nor cut at the first `.`, for whatever operands (so neither as a register
    form).  Every other line of the file carries the same data, the replaced line is an instruction with zeros
    and both unknown flags, every other row of the analysis is unchanged. -/
theorem e2e_a64_unknown_isolated (m : Model) (o : Opts) (xs ys : List Txt) (l l' : Txt)
    (hnl : ∀ t ∈ xs ++ l :: ys, 10 ∉ t) (hnl' : 10 ∉ l')
    (hb : isBlank l = false) (hb' : isBlank l' = false)
    (f' : Glue.Form) (mn' : Txt) (hp' : resA64 (ParseA64.parseLine l') = .ok f') (hmn : f'.mnemonic = some mn')
    (hno : ∀ ops, Match.lookupWithFallbacks m.mm.isa m.mm.db mn' ops = none)
    (r1 r2 : Result) (h1 : analyseA64 m o (joinLines (xs ++ l :: ys)) = .ok r1)
    (h2 : analyseA64 m o (joinLines (xs ++ l' :: ys)) = .ok r2) :
    (∀ p, p.num ≠ xs.length + 1 → (p ∈ r1.parsed ↔ p ∈ r2.parsed)) ∧
    (∀ row ∈ r2.analysis.rows, row.line = xs.length + 1 →
      row.instr = true ∧ row.tp = 0 ∧ row.lat = 0 ∧ row.latWoLoad = some 0 ∧
      row.pressure = Ports.zeros m.mm.ports.length) ∧
    (∀ rr ∈ r2.report.rows, rr.line = xs.length + 1 →
      rr.hasMnemonic = true ∧ rr.press = Ports.zeros m.mm.ports.length ∧
      Gen.flagTpUnknown ∈ rr.flags ∧ Gen.flagLtUnknown ∈ rr.flags) ∧
    (∀ row1 ∈ r1.analysis.rows, ∀ row2 ∈ r2.analysis.rows, row1.line = row2.line →
      row1.line ≠ xs.length + 1 → row1 = row2) :=
  e2e_unknown_isolated .a64 m o xs ys l l' hnl hnl' hb hb' f' mn' hp' hmn hno r1 r2 h1 h2

theorem e2e_a64_unknown_isolated_lines (m : Model) (o : Opts) (spec : Txt) (ho : o.mode = .lines spec)
    (xs ys : List Txt) (l l' : Txt) (hnl : ∀ t ∈ xs ++ l :: ys, 10 ∉ t) (hnl' : 10 ∉ l')
    (hb : isBlank l = false) (hb' : isBlank l' = false)
    (r1 r2 : Result) (h1 : analyseA64 m o (joinLines (xs ++ l :: ys)) = .ok r1)
    (h2 : analyseA64 m o (joinLines (xs ++ l' :: ys)) = .ok r2) :
    r1.analysis.rows.map (·.line) = r2.analysis.rows.map (·.line) :=
  e2e_unknown_isolated_lines .a64 m o spec ho xs ys l l' hnl hnl' hb hb' r1 r2 h1 h2

/-! ### 4. comment, label and directive lines are transparent — at the level of the file TEXT -/

/-- **e2e_a64_noise_transparent_text**: insert a `// …` comment line, a label line or a directive line behind the
    first `|xs|` lines of an AArch64 file; if the new selection selects the old lines the old one selects, the two
    analyses agree on the instructions up to the renaming of line numbers. -/
theorem e2e_a64_noise_transparent_text (m : Model) (o1 o2 : Opts) (hfd : o1.flagDeps = o2.flagDeps)
    (hfl : o1.floor = o2.floor) (xs ys : List Txt) (n : Txt) (hne : xs ++ ys ≠ [])
    (hnl : ∀ t ∈ xs ++ n :: ys, 10 ∉ t) (hn : IsNoise .a64 n) (r1 r2 : Result)
    (h1 : analyseA64 m o1 (joinLines (xs ++ ys)) = .ok r1)
    (h2 : analyseA64 m o2 (joinLines (xs ++ n :: ys)) = .ok r2)
    (S1 S2 : Nat → Bool)
    (hk1 : r1.kernel = r1.parsed.filter fun p => S1 p.num)
    (hk2 : r2.kernel = r2.parsed.filter fun p => S2 p.num)
    (hS : ∀ x, S2 (shiftAt xs.length x) = S1 x) :
    ∃ (a₀ : Analysis) (g1 g2 : Nat → Nat), Incr g1 ∧ Incr g2 ∧
      (∀ j (h : j < (r1.kernel.filter (·.isInstr)).length), g1 j = ((r1.kernel.filter (·.isInstr))[j]).num) ∧
      (∀ j (h : j < (r2.kernel.filter (·.isInstr)).length), g2 j = ((r2.kernel.filter (·.isInstr))[j]).num) ∧
      a₀ = analyze (EndToEnd.cfgOf .a64 m o1) (Props.C11Pipeline.canon (r1.kernel.filter (·.isInstr))) ∧
      SameOnInstr m.mm.ports.length r1.analysis (a₀.rename g1) ∧
      SameOnInstr m.mm.ports.length r2.analysis (a₀.rename g2) :=
  e2e_noise_transparent_text .a64 m o1 o2 hfd hfl xs ys n hne hnl hn r1 r2 h1 h2 S1 S2 hk1 hk2 hS

theorem e2e_a64_noise_transparent_values (m : Model) (o1 o2 : Opts) (hfd : o1.flagDeps = o2.flagDeps)
    (hfl : o1.floor = o2.floor) (xs ys : List Txt) (n : Txt) (hne : xs ++ ys ≠ [])
    (hnl : ∀ t ∈ xs ++ n :: ys, 10 ∉ t) (hn : IsNoise .a64 n) (r1 r2 : Result)
    (h1 : analyseA64 m o1 (joinLines (xs ++ ys)) = .ok r1)
    (h2 : analyseA64 m o2 (joinLines (xs ++ n :: ys)) = .ok r2)
    (S1 S2 : Nat → Bool)
    (hk1 : r1.kernel = r1.parsed.filter fun p => S1 p.num)
    (hk2 : r2.kernel = r2.parsed.filter fun p => S2 p.num)
    (hS : ∀ x, S2 (shiftAt xs.length x) = S1 x) :
    r1.analysis.lcdFigure = r2.analysis.lcdFigure ∧ r1.analysis.colSums = r2.analysis.colSums ∧
    r1.analysis.edges.map (·.w) = r2.analysis.edges.map (·.w) ∧
    r1.analysis.lcd.map (fun e => (e.lats, e.latency)) = r2.analysis.lcd.map (fun e => (e.lats, e.latency)) :=
  e2e_noise_transparent_values .a64 m o1 o2 hfd hfl xs ys n hne hnl hn r1 r2 h1 h2 S1 S2 hk1 hk2 hS

theorem e2e_a64_noise_transparent_whole_file (m : Model) (o : Opts) (xs ys : List Txt) (n : Txt) (hne : xs ++ ys ≠ [])
    (hnl : ∀ t ∈ xs ++ n :: ys, 10 ∉ t) (hn : IsNoise .a64 n) (r1 r2 : Result)
    (h1 : analyseA64 m o (joinLines (xs ++ ys)) = .ok r1)
    (h2 : analyseA64 m o (joinLines (xs ++ n :: ys)) = .ok r2)
    (hk1 : r1.kernel = r1.parsed) (hk2 : r2.kernel = r2.parsed) :
    ∃ (a₀ : Analysis) (g1 g2 : Nat → Nat), Incr g1 ∧ Incr g2 ∧
      SameOnInstr m.mm.ports.length r1.analysis (a₀.rename g1) ∧
      SameOnInstr m.mm.ports.length r2.analysis (a₀.rename g2) :=
  e2e_noise_transparent_whole_file .a64 m o xs ys n hne hnl hn r1 r2 h1 h2 hk1 hk2

theorem e2e_a64_noise_transparent_lines (m : Model) (o1 o2 : Opts) (s1 s2 : Txt) (R1 R2 : List Int)
    (hm1 : o1.mode = .lines s1) (hm2 : o2.mode = .lines s2)
    (hR1 : Marker.getLineRange s1 = some R1) (hR2 : Marker.getLineRange s2 = some R2)
    (hfd : o1.flagDeps = o2.flagDeps) (hfl : o1.floor = o2.floor)
    (xs ys : List Txt) (n : Txt) (hne : xs ++ ys ≠ [])
    (hnl : ∀ t ∈ xs ++ n :: ys, 10 ∉ t) (hn : IsNoise .a64 n)
    (hS : ∀ x : Nat, R2.contains ((shiftAt xs.length x : Nat) : Int) = R1.contains (x : Int))
    (r1 r2 : Result)
    (h1 : analyseA64 m o1 (joinLines (xs ++ ys)) = .ok r1)
    (h2 : analyseA64 m o2 (joinLines (xs ++ n :: ys)) = .ok r2) :
    ∃ (a₀ : Analysis) (g1 g2 : Nat → Nat), Incr g1 ∧ Incr g2 ∧
      SameOnInstr m.mm.ports.length r1.analysis (a₀.rename g1) ∧
      SameOnInstr m.mm.ports.length r2.analysis (a₀.rename g2) :=
  e2e_noise_transparent_lines .a64 m o1 o2 s1 s2 R1 R2 hm1 hm2 hR1 hR2 hfd hfl xs ys n hne hnl hn hS r1 r2 h1 h2

/-! ### 5. the report reads back -/

theorem e2e_a64_report_wf (m : Model) (o : Opts) (file : Txt) (r : Result) (h : analyseA64 m o file = .ok r)
    (hports : m.mm.ports ≠ []) (hnames : ∀ n ∈ m.mm.ports, Report.NameOk n ∧ Report.NoNL n)
    (hrepr : ∀ q, Report.TokOk (o.repr q) ∧ Report.WordOk (o.repr q) ∧ Report.NoNL (o.repr q)) :
    Report.WF r.report :=
  e2e_report_wf .a64 m o file r h hports hnames hrepr

theorem e2e_a64_report_roundtrip (m : Model) (o : Opts) (file : Txt) (r : Result) (h : analyseA64 m o file = .ok r)
    (hports : m.mm.ports ≠ []) (hnames : ∀ n ∈ m.mm.ports, Report.NameOk n ∧ Report.NoNL n)
    (hrepr : ∀ q, Report.TokOk (o.repr q) ∧ Report.WordOk (o.repr q) ∧ Report.NoNL (o.repr q)) :
    Spec.Report.parseTable (Report.combinedView r.report) = some (Report.view r.report) ∧
    (∃ pre post, r.text = pre ++ Report.combinedView r.report ++ post) ∧
    r.report.rows.map (·.line) = r.kernel.map (·.num) ∧
    r.report.tpSum = r.analysis.colSums ∧
    r.report.cp.map (·.1) = r.analysis.cpMarks.map (·.1) :=
  e2e_report_roundtrip .a64 m o file r h hports hnames hrepr

/-! ### non-vacuity: a concrete AArch64 model and file, evaluated by the kernel

  Model: two ports `0`, `1`; entries `LDR d, x` (the REGISTER form of the load: throughput 1, latency 1, one micro-op
  on `01`) and `ADD x, x, imd`; load default `[[1, '0']]`; load latency 4 for the register type of the entry operand
  at the substituted position (`x`); `p_index_latency = 2`; the shipped AArch64 ISA database `Gen.isaDbA64`. -/
namespace ExA64

def pd : Txt := [100]
def px : Txt := [120]
def regE (p : Txt) : Operand.EOperand := .reg none (some p) none
def mm : Compose.MModel :=
  { isa := .a64, ports := [[48], [49]]
    db := [{ name := [76, 68, 82], operands := [regE pd, regE px], tp := .num 1, lat := .num 1,
             pp := .list [.list [.num 1, .str [48, 49]]] },
           { name := [65, 68, 68], operands := [regE px, regE px, .imm (.str [105, 110, 116])], tp := .num 1, lat := .num 1,
             pp := .list [.list [.num 1, .str [48, 49]]] }]
    loadRows := [], loadDefault := .list [.list [.num 1, .str [48]]], storeRows := [], storeDefault := .list []
    loadLatency := [(.str px, .num 4)], loadMult := none, storeMult := none }
def model : Model := { mm := mm, isaDb := Gen.isaDbA64, par := { pIdx := 2 } }

def opts : Opts :=
  { mode := .markers [97, 97, 114, 99, 104, 54, 52], repr := Props.EndToEnd.Ex.reprEx, version := [48], file := [107, 46, 115],
    arch := [83, 89, 78], stamp := [110, 111, 119] }
def optsL (spec : Txt) : Opts := { opts with mode := .lines spec }

def l1 : Txt := [108, 100, 114, 32, 100, 49, 44, 32, 91, 120, 50, 93, 44, 32, 35, 56]           -- ldr d1, [x2], #8
def ln : Txt := [47, 47, 32, 110, 111, 116, 101]                                               -- // note
def lu : Txt := [102, 111, 111, 32, 120, 51, 44, 32, 120, 50]                                  -- foo x3, x2
def lk : Txt := [97, 100, 100, 32, 120, 51, 44, 32, 120, 50, 44, 32, 35, 56]                   -- add x3, x2, #8
def l4 : Txt := [97, 100, 100, 32, 120, 50, 44, 32, 120, 50, 44, 32, 35, 56]                   -- add x2, x2, #8
def foo : Txt := [102, 111, 111]

end ExA64
open ExA64
abbrev checkOk := Props.EndToEnd.Ex.checkOk

/-- the analysis of the four-line AArch64 file, from its text: the post-indexed load composed from its register form
    (latency 1 + 4, pressure `[1/2 + 1, 1/2]`, `performs_load`), the comment (zeros, not an instruction), the unknown
    line (zeros, both unknown flags), the edges through the written-back base `x2` with the weight `p_index_latency`,
    the load node, critical path, LCD, column sums, and the missing-data branch of the report -/
example : checkOk (analyseA64 model opts (joinLines [l1, ln, lu, l4])) (fun r =>
    r.analysis.rows.map (fun x => (x.line, x.instr, x.lat, x.latWoLoad, x.tp, x.pressure)) ==
      [(1, true, 5, some 1, 1, [3/2, 1/2]), (2, false, 0, some 0, 0, [0, 0]), (3, true, 0, some 0, 0, [0, 0]),
       (4, true, 1, some 1, 1, [1/2, 1/2])] &&
    r.analysis.edges.map (fun e => (e.src.line, e.src.load, e.dst.line, e.w)) ==
      [(1, true, 1, 4), (1, false, 3, 2), (1, false, 4, 2)] &&
    r.analysis.cpTotal == 7 && r.analysis.cpMarks == [(1, 6), (4, 1)] &&
    r.analysis.lcdDict.map (fun d => (d.1, d.2.1)) == [([1, 4], 3)] &&
    r.analysis.lcdFigure == 3 && r.analysis.colSums == [2, 1] &&
    r.report.rows.map (fun x => (x.line, x.flags, x.used)) ==
      [(1, [Gen.flagHasLd], [true, true]), (2, [], [false, false]),
       (3, [Gen.flagTpUnknown, Gen.flagLtUnknown], [false, false]), (4, [], [true, true])] &&
    !Report.showsTotals r.report && r.kernel.length == 4 && r.parsed.length == 4) = true := by
  decide +kernel

/-- the four-line file is analysed and, there being no marker, the whole file is the kernel -/
theorem ex_file : checkOk (analyseA64 model opts (joinLines [l1, ln, lu, l4])) (fun r => r.kernel.length == r.parsed.length) = true := by
  decide +kernel

/-- the roles of the post-indexed load: the memory operand is a source, the base register `x2` is appended to
    `src_dst` with the post-index flag (the write-back), the register change is `x2 ↦ x2 + 8` -/
example : (match parseLineOf .a64 l1 with
    | .ok f =>
      let s := stagesOf .a64 model f
      (match s.roles.sem.srcDst with
       | [.wb 1 b false true (.int 8)] => b.name == [50] && b.pfx == some px
       | _ => false) &&
      s.roles.hasLd && !s.roles.hasSt &&
      (match s.changesPost with | .ok [(n, some d)] => n == [120, 50] && d.value == some 8 | _ => false)
    | .err _ => false) = true := by
  decide +kernel

/-- **post-index by a register, from the TEXT** `ld1 {v0.4s}, [x2], x1`: the parser leaves its own dictionary as
    `post_indexed` (`PostIdx.other`), the glue hands `Isa.Val.absent` on, the base `x2` is appended to `src_dst` with the
    post-index flag, and the post-indexed register-change query answers `{x2: None}`, not the `KeyError: 'value'` of a
    plain subscript (`get_reg_changes` tests for the key), so a file with such a line is analysed -/
def lr : Txt := [108, 100, 49, 32, 123, 118, 48, 46, 52, 115, 125, 44, 32, 91, 120, 50, 93, 44, 32, 120, 49]   -- ld1 {v0.4s}, [x2], x1
def ls : Txt := [115, 116, 114, 32, 100, 49, 44, 32, 91, 120, 50, 93]                                          -- str d1, [x2]
def ll : Txt := [108, 100, 114, 32, 100, 51, 44, 32, 91, 120, 50, 93]                                          -- ldr d3, [x2]
example : (match parseLineOf .a64 lr with
    | .ok f =>
      let s := stagesOf .a64 model f
      (match s.roles.sem.srcDst with
       | [.wb 1 b false true .absent] => b.name == [50] && b.pfx == some px
       | _ => false) &&
      s.roles.hasLd && !s.roles.hasSt &&
      (match s.changesPost with | .ok [(n, none)] => n == [120, 50] | _ => false) &&
      (match s.changes with | .ok [(n, none)] => n == [118, 48] | _ => false)
    | .err _ => false) = true := by
  decide +kernel

/-- … and the whole analysis of `str d1, [x2]` / `ld1 {v0.4s}, [x2], x1` / `ldr d3, [x2]` / `add x2, x2, #8`: the `ld1` itself
    still loads what the store wrote (store→load edge 1 → 2: the base is unchanged up to there), its written-back base
    reaches the later readers of `x2` with `p_index_latency` (2 → 3, 2 → 4, weight 2), and the `ldr` behind it has NO
    store→load edge from line 1 (only its own load node): the base is unknown after the register post-index -/
example : checkOk (analyseA64 model opts (joinLines [ls, lr, ll, l4])) (fun r =>
    r.analysis.edges.map (fun e => (e.src.line, e.src.load, e.dst.line, e.w)) ==
      [(1, false, 2, 0), (2, true, 2, 0), (2, false, 3, 2), (2, false, 4, 2), (3, true, 3, 4)] &&
    r.kernel.length == 4) = true := by
  decide +kernel

/-- outcomes other than an analysis: a line the AArch64 parser rejects, `--lines` that selects nothing -/
example : (match analyseA64 model opts (joinLines [l1, [91, 91], l4]) with | .parseError 2 _ => true | _ => false) = true := by
  decide +kernel
example : (match analyseA64 model (optsL [57]) (joinLines [l1, l4]) with | .emptyKernel => true | _ => false) = true := by
  decide +kernel

/-- AArch64 byte markers: `mov x1, #111` + `.byte 213,3,32,31` … `mov x1, #222` + `.byte 213,3,32,31` select the
    two lines in between -/
example : checkOk (analyseA64 model opts (joinLines
    [[109, 111, 118, 32, 120, 49, 44, 32, 35, 49, 49, 49], [46, 98, 121, 116, 101, 32, 50, 49, 51, 44, 51, 44, 51, 50, 44, 51, 49],
     l1, l4,
     [109, 111, 118, 32, 120, 49, 44, 32, 35, 50, 50, 50], [46, 98, 121, 116, 101, 32, 50, 49, 51, 44, 51, 44, 51, 50, 44, 51, 49]]))
    (fun r => r.kernel.map (·.num) == [3, 4] && r.parsed.length == 6) = true := by
  decide +kernel

/-- the model has no entry for `foo`, whatever the operands, with or without the cut at the first `.` -/
theorem ex_no_foo : ∀ ops, Match.lookupWithFallbacks model.mm.isa model.mm.db foo ops = none :=
  lookupWithFallbacks_none _ _ _ (by decide) (by decide)

/-- `e2e_a64_unknown_isolated` on the file: line 3 `add x3, x2, #8` replaced by `foo x3, x2` -/
example : checkOk (analyseA64 model opts (joinLines ([l1, ln] ++ lk :: [l4]))) (fun _ => true) = true ∧
    checkOk (analyseA64 model opts (joinLines ([l1, ln] ++ lu :: [l4]))) (fun _ => true) = true ∧
    ∀ r1 r2, analyseA64 model opts (joinLines ([l1, ln] ++ lk :: [l4])) = .ok r1 →
      analyseA64 model opts (joinLines ([l1, ln] ++ lu :: [l4])) = .ok r2 →
      (∀ row ∈ r2.analysis.rows, row.line = 3 → row.tp = 0 ∧ row.lat = 0 ∧ row.pressure = [0, 0]) ∧
      (∀ row1 ∈ r1.analysis.rows, ∀ row2 ∈ r2.analysis.rows, row1.line = row2.line → row1.line ≠ 3 → row1 = row2) := by
  refine ⟨by decide +kernel, ex_checkOk_mono ex_file fun _ _ => rfl, fun r1 r2 h1 h2 => ?_⟩
  have h := e2e_a64_unknown_isolated model opts [l1, ln] [l4] lk lu
    (by decide +kernel) (by decide +kernel) (by decide +kernel) (by decide +kernel)
    (Glue.formA64 (.instr foo [.reg { pre := px, name := [51] }, .reg { pre := px, name := [50] }] none)) foo
    (by decide +kernel) rfl ex_no_foo r1 r2 h1 h2
  exact ⟨fun row hr hl => let x := h.2.1 row hr hl; ⟨x.2.1, x.2.2.1, x.2.2.2.2⟩, h.2.2.2⟩

/-- the `//` comment line is a noise line of the AArch64 parser -/
theorem ex_ln_noise : IsNoise .a64 ln :=
  ⟨by decide +kernel, Glue.formA64 (.comment [110, 111, 116, 101]), by decide +kernel, rfl⟩

/-- `e2e_a64_noise_transparent_text`, whole file: `[l1, lu, l4]` and `[l1, // note, lu, l4]` -/
example : checkOk (analyseA64 model opts (joinLines ([l1] ++ [lu, l4]))) (fun r => r.kernel.length == r.parsed.length) = true ∧
    checkOk (analyseA64 model opts (joinLines ([l1] ++ ln :: [lu, l4]))) (fun r => r.kernel.length == r.parsed.length) = true ∧
    ∀ r1 r2, analyseA64 model opts (joinLines ([l1] ++ [lu, l4])) = .ok r1 →
      analyseA64 model opts (joinLines ([l1] ++ ln :: [lu, l4])) = .ok r2 →
      ∃ (a₀ : Analysis) (g1 g2 : Nat → Nat), Incr g1 ∧ Incr g2 ∧
        SameOnInstr 2 r1.analysis (a₀.rename g1) ∧ SameOnInstr 2 r2.analysis (a₀.rename g2) := by
  have c1 : checkOk (analyseA64 model opts (joinLines ([l1] ++ [lu, l4]))) (fun r => r.kernel.length == r.parsed.length) = true := by
    decide +kernel
  have c2 : checkOk (analyseA64 model opts (joinLines ([l1] ++ ln :: [lu, l4]))) (fun r => r.kernel.length == r.parsed.length) = true :=
    ex_file
  refine ⟨c1, c2, fun r1 r2 h1 h2 => ?_⟩
  obtain ⟨r1', e1, q1⟩ := ex_checkOk_elim c1
  obtain ⟨r2', e2, q2⟩ := ex_checkOk_elim c2
  rw [h1] at e1; cases e1
  rw [h2] at e2; cases e2
  have k1 := ((e2e_a64_rows_local model opts _ r1 h1).2.1).eq_of_length (by simpa using q1)
  have k2 := ((e2e_a64_rows_local model opts _ r2 h2).2.1).eq_of_length (by simpa using q2)
  exact e2e_a64_noise_transparent_whole_file model opts [l1] [lu, l4] ln (by simp)
    (by decide +kernel) ex_ln_noise r1 r2 h1 h2 k1 k2

/-- `e2e_a64_noise_transparent_lines`: `--lines 1,2-3` on the file without the comment and `--lines 1,3-4` with it -/
example : checkOk (analyseA64 model (optsL [49, 44, 50, 45, 51]) (joinLines ([l1] ++ [lu, l4]))) (fun _ => true) = true ∧
    checkOk (analyseA64 model (optsL [49, 44, 51, 45, 52]) (joinLines ([l1] ++ ln :: [lu, l4]))) (fun r => r.kernel.length == 3) = true ∧
    ∀ r1 r2, analyseA64 model (optsL [49, 44, 50, 45, 51]) (joinLines ([l1] ++ [lu, l4])) = .ok r1 →
      analyseA64 model (optsL [49, 44, 51, 45, 52]) (joinLines ([l1] ++ ln :: [lu, l4])) = .ok r2 →
      ∃ (a₀ : Analysis) (g1 g2 : Nat → Nat), Incr g1 ∧ Incr g2 ∧
        SameOnInstr 2 r1.analysis (a₀.rename g1) ∧ SameOnInstr 2 r2.analysis (a₀.rename g2) := by
  refine ⟨by decide +kernel, by decide +kernel, fun r1 r2 h1 h2 => ?_⟩
  exact e2e_a64_noise_transparent_lines model (optsL [49, 44, 50, 45, 51]) (optsL [49, 44, 51, 45, 52])
    [49, 44, 50, 45, 51] [49, 44, 51, 45, 52] [1, 2, 3] [1, 3, 4] rfl rfl
    (by decide +kernel) (by decide +kernel) rfl rfl [l1] [lu, l4] ln (by simp)
    (by decide +kernel) ex_ln_noise ex_shift_ok r1 r2 h1 h2

theorem ex_names_ok : ∀ n ∈ model.mm.ports, Report.NameOk n ∧ Report.NoNL n := by
  intro n hn
  have : n = [48] ∨ n = [49] := by simpa [model, mm] using hn
  rcases this with rfl | rfl <;> exact ⟨⟨by decide, by decide⟩, by unfold Report.NoNL; decide⟩

/-- `e2e_a64_report_roundtrip` on the file -/
example : checkOk (analyseA64 model opts (joinLines [l1, ln, lu, l4])) (fun _ => true) = true ∧
    ∀ r, analyseA64 model opts (joinLines [l1, ln, lu, l4]) = .ok r →
      Spec.Report.parseTable (Report.combinedView r.report) = some (Report.view r.report) := by
  refine ⟨ex_checkOk_mono ex_file fun _ _ => rfl, fun r h => ?_⟩
  exact (e2e_a64_report_roundtrip model opts _ r h (by decide) ex_names_ok ex_reprEx_ok).1

/-- `e2e_a64_per_line_local_files`: line 4 of the long file and line 3 of the short one have the same text -/
example : ∀ r1 r2, analyseA64 model opts (joinLines [l1, ln, lu, l4]) = .ok r1 →
    analyseA64 model (optsL [49, 44, 50, 45, 51]) (joinLines [l1, lu, l4]) = .ok r2 →
    ∀ p1 ∈ r1.parsed, ∀ p2 ∈ r2.parsed, p1.text = p2.text → eraseNum p1 = eraseNum p2 :=
  fun r1 r2 h1 h2 p1 hp1 p2 hp2 ht => e2e_a64_per_line_local_files model _ _ _ _ r1 r2 h1 h2 p1 p2 hp1 hp2 ht

end OsacaVerif.Props.EndToEndA64
