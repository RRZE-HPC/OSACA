import OsacaVerif.Lemmas.Tracking
/-
  C06 — Store-to-load dependencies through provably equal addresses on both ISAs.

  `DG.isMemload st ld-instruction state` is the model of `is_memload` (register names are compared with their
  AArch64 prefix); `DG.updateState` of `_update_reg_changes` (a copy of a copy takes over the origin; a copy of
  another register into a register whose state is unknown makes it known again).  A symbolic displacement
  (`Mem.sym`) is comparable only with the very same symbol (`DG.dispDelta`); the scan starts from `DG.startState p` =
  the producer's changes AND its own post-index write-back.  The code these model is OSACA with repo-fix.diff
  (notes/C06.md).
-/
namespace OsacaVerif.Props.C06
open OsacaVerif OsacaVerif.Text OsacaVerif.DG

def memOp (base : Option Reg) (index : Option Reg) (scale : Int) (off : Option Int) : Mem :=
  { base := base, index := index, scale := scale, offset := off, pre := false, post := false, eqKey := [] }

def loadIns (m : Mem) : Ins :=
  { line := 2, src := [.mem m], dst := [], srcDst := [], lat := 0, latWoLoad := none, hasLd := true,
    isLd := false, changes := [], changesPost := [] }

/-! ### the decision of `is_memload` for one memory operand -/

/-- **equal address ⇒ dependency** (∀ registers, displacements, tracked increments): base-only
    addressing, the load's base is tracked as "store base + v", and the displacements compensate. -/
theorem same_location_edge (pre name : Txt) (ds dl v : Int) (s : RegState)
    (hs : lookup s (pre ++ name) = some (some { name := pre ++ name, value := v }))
    (h : dl - ds + v = 0) :
    isMemload (memOp (some { pre := pre, name := name }) none 1 (some ds))
      (loadIns (memOp (some { pre := pre, name := name }) none 1 (some dl))) s = true := by
  rw [isMemload_single _ _ _ _ rfl]
  simp [sameAddr, dispDelta, baseDelta, indexDelta, regDelta, memOp, fullName, hs, h]

/-- untouched base register (no entry in the state): dependency iff the displacements are equal -/
theorem untouched_iff_disp_eq (pre name : Txt) (ds dl : Int) (s : RegState)
    (hs : lookup s (pre ++ name) = none) :
    isMemload (memOp (some { pre := pre, name := name }) none 1 (some ds))
      (loadIns (memOp (some { pre := pre, name := name }) none 1 (some dl))) s = decide (dl = ds) := by
  rw [isMemload_single _ _ _ _ rfl]
  simp [sameAddr, dispDelta, baseDelta, indexDelta, regDelta, memOp, fullName, hs]
  rw [Bool.eq_iff_iff, beq_iff_eq, decide_eq_true_iff, Int.sub_eq_zero]

/-- **no dependency when the adjusted displacement differs** -/
theorem no_edge_when_disp_differs (pre name : Txt) (ds dl v : Int) (s : RegState)
    (hs : lookup s (pre ++ name) = some (some { name := pre ++ name, value := v }))
    (h : dl - ds + v ≠ 0) :
    isMemload (memOp (some { pre := pre, name := name }) none 1 (some ds))
      (loadIns (memOp (some { pre := pre, name := name }) none 1 (some dl))) s = false := by
  rw [isMemload_single _ _ _ _ rfl]
  simp [sameAddr, dispDelta, baseDelta, indexDelta, regDelta, memOp, fullName, hs, h]

/-- **no dependency when the base registers differ** (the load's base is tracked as a copy of a
    register other than the store's base) -/
theorem no_edge_when_regs_differ (sb lb : Reg) (origin : Txt) (ds dl v : Int) (s : RegState)
    (hs : lookup s (fullName lb) = some (some { name := origin, value := v }))
    (hne : fullName sb ≠ origin) :
    isMemload (memOp (some sb) none 1 (some ds)) (loadIns (memOp (some lb) none 1 (some dl))) s = false := by
  rw [isMemload_single _ _ _ _ rfl]
  simp [sameAddr, baseDelta, regDelta, memOp, hs, hne]

/-- a register changed beyond reconstruction never yields a dependency -/
theorem no_edge_when_unknown (sb lb : Reg) (ds dl : Int) (s : RegState)
    (hs : lookup s (fullName lb) = some none) :
    isMemload (memOp (some sb) none 1 (some ds)) (loadIns (memOp (some lb) none 1 (some dl))) s = false := by
  rw [isMemload_single _ _ _ _ rfl]
  simp [sameAddr, baseDelta, regDelta, memOp, hs]

/-- one has a base register and the other has not: never the same location -/
theorem no_edge_base_vs_nobase (lb : Reg) (ds dl : Int) (s : RegState) :
    isMemload (memOp none none 1 (some ds)) (loadIns (memOp (some lb) none 1 (some dl))) s = false := by
  rw [isMemload_single _ _ _ _ rfl]
  simp [sameAddr, baseDelta, memOp]

/-- different scale factors never match -/
theorem no_edge_when_scale_differs (b i : Reg) (sc1 sc2 : Int) (ds dl : Int) (s : RegState) (h : sc1 ≠ sc2) :
    isMemload (memOp (some b) (some i) sc1 (some ds)) (loadIns (memOp (some b) (some i) sc2 (some dl))) s = false := by
  rw [isMemload_single _ _ _ _ rfl]
  simp [sameAddr, indexDelta, memOp, h]

-- non-vacuity / regression witnesses (both ISAs: AArch64 names carry a prefix)
example : isMemload (memOp (some { pre := ofString "x", name := ofString "2" }) none 1 (some 8))
    (loadIns (memOp (some { pre := ofString "x", name := ofString "2" }) none 1 (some 8))) [] = true := by
  decide +kernel
example : isMemload (memOp (some { name := ofString "rbx" }) none 1 (some 8))
    (loadIns (memOp (some { name := ofString "rbx" }) none 1 (some 0)))
    (updateState [] [(ofString "rbx", some ⟨ofString "rbx", 8⟩)]) = true := by decide +kernel

/-! ### the storing instruction's own post-index write-back -/

/-- `str …, [b], #n`: memory destination `[b]` (post-indexed), no pre-access change, write-back `b := b + n` -/
def postStore (b : Reg) (n : Int) : Ins :=
  { line := 1, src := [], dst := [.mem { memOp (some b) none 1 none with post := true }], srcDst := [],
    lat := 0, latWoLoad := none, hasLd := false, isLd := false, changes := [],
    changesPost := [(fullName b, some { name := fullName b, value := n })] }

theorem startState_postStore (b : Reg) (n : Int) :
    lookup (startState (postStore b n)) (fullName b) = some (some { name := fullName b, value := n }) := by
  simp [startState, postStore, updateState, updateOne_some, shifted, lookup_setReg, lookup_nil]

/-- (∀ base registers, ∀ immediates `n ≠ 0`) after `store [b], #n` a load from
    `[b, #-n]` is the address-exact store→load dependency, and a load from `[b]` (which reads `b_old + n`) is not. -/
theorem post_indexed_store_edge (b : Reg) (n : Int) (hn : n ≠ 0) :
    isMemload (memOp (some b) none 1 none) (loadIns (memOp (some b) none 1 (some (-n))))
        (startState (postStore b n)) = true ∧
    isMemload (memOp (some b) none 1 none) (loadIns (memOp (some b) none 1 none))
        (startState (postStore b n)) = false := by
  have hs := startState_postStore b n
  constructor
  · rw [isMemload_single _ _ _ _ rfl]
    simp [sameAddr, dispDelta, baseDelta, indexDelta, regDelta, memOp, hs]
    exact Int.add_left_neg n
  · rw [isMemload_single _ _ _ _ rfl]
    simp [sameAddr, dispDelta, baseDelta, indexDelta, regDelta, memOp, hs, hn]

-- non-vacuity, through the whole scan: `str x1, [x2], #8 ; ldr x3, [x2, #-8]` is emitted, `… ; ldr x3, [x2]` is not
example :
    let x2 : Reg := { pre := ofString "x", name := ofString "2" }
    findDependingMem .a64 (postStore x2 8) [loadIns (memOp (some x2) none 1 (some (-8)))] = [(2, Tag.storeLoad)] ∧
    findDependingMem .a64 (postStore x2 8) [loadIns (memOp (some x2) none 1 none)] = [] := by
  decide +kernel

/-! ### symbolic displacements -/

/-- a symbolic displacement against a numeric or absent one (either way round) is
    never a dependency — whatever registers, scales and tracked state -/
theorem no_edge_symbol_vs_number (st ld : Mem) (s : RegState)
    (h : (st.sym.isSome ∧ ld.sym = none) ∨ (st.sym = none ∧ ld.sym.isSome)) :
    isMemload st (loadIns ld) s = false := by
  have hd : dispDelta st ld = none := by
    unfold dispDelta
    rcases h with ⟨h1, h2⟩ | ⟨h1, h2⟩
    · obtain ⟨a, ha⟩ := Option.isSome_iff_exists.mp h1
      rw [ha, h2]
    · obtain ⟨a, ha⟩ := Option.isSome_iff_exists.mp h2
      rw [ha, h1]
  rw [isMemload_single _ _ _ _ rfl, sameAddr, hd]

/-- two different symbols are never a dependency -/
theorem no_edge_different_symbols (st ld : Mem) (a b : Txt) (s : RegState)
    (ha : st.sym = some a) (hb : ld.sym = some b) (hne : a ≠ b) :
    isMemload st (loadIns ld) s = false := by
  have hd : dispDelta st ld = none := by simp [dispDelta, ha, hb, hne]
  rw [isMemload_single _ _ _ _ rfl, sameAddr, hd]

/-- the same symbol with the same (untouched) base register IS a dependency, and its address is exact for every
    meaning of the symbol (`store_load_edge_sound`) -/
theorem same_symbol_edge (b : Reg) (a : Txt) (s : RegState) (hs : lookup s (fullName b) = none) :
    isMemload { memOp (some b) none 1 none with sym := some a }
      (loadIns { memOp (some b) none 1 none with sym := some a }) s = true := by
  rw [isMemload_single _ _ _ _ rfl]
  simp [sameAddr, dispDelta, baseDelta, indexDelta, regDelta, memOp, hs]

-- non-vacuity: `movq %rax, foo(%rcx) ; movq foo(%rcx), %rbx` / `… bar(%rcx)` / `… 8(%rcx)`
example :
    let rcx : Reg := { name := ofString "rcx" }
    let foo : Mem := { memOp (some rcx) none 1 none with sym := some (ofString "foo") }
    let bar : Mem := { memOp (some rcx) none 1 none with sym := some (ofString "bar") }
    isMemload foo (loadIns foo) [] = true ∧ isMemload foo (loadIns bar) [] = false ∧
    isMemload foo (loadIns (memOp (some rcx) none 1 (some 8))) [] = false ∧
    isMemload (memOp (some rcx) none 1 none) (loadIns bar) [] = false := by
  decide +kernel

/-! ### register-change tracking: increments add up, copies take over the origin, unknown stays unknown -/

/-- every tracked update writes exactly one entry: the register's own -/
theorem updateOne_setReg (s : RegState) (reg : Txt) (change : Option Change) :
    ∃ v, updateOne s reg change = setReg s reg v := by
  cases change with
  | none => exact ⟨none, rfl⟩
  | some ch => exact ⟨_, updateOne_some s reg ch⟩

/-- an increment of a register whose state is unknown stays unknown -/
theorem increment_of_unknown_stays_unknown (s : RegState) (r : Txt) (v : Int)
    (h : lookup s r = some none) : lookup (updateOne s r (some ⟨r, v⟩)) r = some none := by
  rw [lookup_updateOne, if_pos rfl, Option.bind_some, shifted, h]

/-- **a copy from a known register makes the register known** — whatever the register's own state was (tracked,
    untouched or unknown: `mul x4, x4, x7 ; mov x4, x2`): it is the source's origin plus the
    source's up-to-now change plus the copy's constant -/
theorem copy_from_known_makes_known (s : RegState) (r src : Txt) (v : Int) (c : Change) (hne : src ≠ r)
    (hsrc : lookup s src = some (some c)) :
    lookup (updateOne s r (some ⟨src, v⟩)) r = some (some ⟨c.name, c.value + v⟩) := by
  rw [lookup_updateOne, if_pos rfl, Option.bind_some, shifted, hsrc]

/-- … a copy from an untouched register likewise (the source still holds its value at the store) -/
theorem copy_from_untouched_makes_known (s : RegState) (r src : Txt) (v : Int) (hne : src ≠ r)
    (hsrc : lookup s src = none) :
    lookup (updateOne s r (some ⟨src, v⟩)) r = some (some ⟨src, v⟩) := by
  simp [lookup_updateOne, shifted, hsrc]

/-- … and a copy from an unknown register is unknown -/
theorem copy_from_unknown_is_unknown (s : RegState) (r src : Txt) (v : Int) (hne : src ≠ r)
    (hsrc : lookup s src = some none) :
    lookup (updateOne s r (some ⟨src, v⟩)) r = some none := by
  rw [lookup_updateOne, if_pos rfl, Option.bind_some, shifted, hsrc]

/-- no change in the list overwrites `r` with a copy of another register (unknown changes and increments of `r`
    itself are allowed, and so is anything that happens to other registers) -/
def NoCopyInto (r : Txt) (ch : List (Txt × Option Change)) : Prop :=
  ∀ e ∈ ch, e.1 = r → ∀ c, e.2 = some c → c.name = r

/-- an unknown register stays unknown as long as it is not overwritten by a copy of another register -/
theorem unknown_stays_without_copy (s : RegState) (r : Txt) (ch : List (Txt × Option Change))
    (hc : NoCopyInto r ch) (h : lookup s r = some none) : lookup (updateState s ch) r = some none := by
  induction ch generalizing s with
  | nil => exact h
  | cons e es ih =>
    refine ih _ (fun e' he' => hc e' (List.mem_cons_of_mem _ he')) ?_
    rw [lookup_updateOne]
    split
    next hq =>
      subst hq
      cases hc2 : e.2 with
      | none => rfl
      | some c => rw [Option.bind_some, shifted, hc e List.mem_cons_self rfl c hc2, h]
    next => exact h

theorem update_add_add (r : Txt) (a b : Int) :
    lookup (updateState [] [(r, some ⟨r, a⟩), (r, some ⟨r, b⟩)]) r = some (some ⟨r, a + b⟩) := by
  simp [updateState, updateOne_some, shifted, lookup_setReg, lookup_nil]

-- copy of a copy takes over the origin: b := a + 8 ; c := b − 3 ⇒ c = a + 5
example : lookup (updateState [] [(ofString "rbx", some ⟨ofString "rax", 8⟩),
    (ofString "rcx", some ⟨ofString "rbx", -3⟩)]) (ofString "rcx") = some (some ⟨ofString "rax", 5⟩) := by
  decide +kernel

/-- **after an access post-indexed by a register** (`ld1 {v0.2d}, [x1], x2`, `st1 {v3.4s}, [x4], x5`): the
    post-indexed query reports `(base, None)` (Props/C03Roles `reg_changes_post_register`), the tracker records the
    base as changed beyond reconstruction, and from then on — whatever known or unknown changes `later` follow that
    do not overwrite the base with a copy of another register, for all displacements — no store→load dependency
    through that base is found. -/
theorem no_edge_after_register_post_index (sb lb : Reg) (ds dl : Int) (s : RegState)
    (later : List (Txt × Option Change)) (hc : NoCopyInto (fullName lb) later) :
    isMemload (memOp (some sb) none 1 (some ds)) (loadIns (memOp (some lb) none 1 (some dl)))
      (updateState (updateState s [(fullName lb, none)]) later) = false := by
  apply no_edge_when_unknown
  apply unknown_stays_without_copy _ _ _ hc
  simp [updateState, updateOne, lookup_setReg]

-- no_edge_after_register_post_index: `str d1, [x2, #8]` ; `ld1 {v5.2d}, [x2], x9` ; `add x2, x2, #8` ; `ldr d2, [x2]`
example : isMemload (memOp (some { pre := ofString "x", name := ofString "2" }) none 1 (some 8))
    (loadIns (memOp (some { pre := ofString "x", name := ofString "2" }) none 1 (some 0)))
    (updateState (updateState [] [(ofString "x2", none)]) [(ofString "x2", some ⟨ofString "x2", 8⟩)]) = false := by
  decide +kernel
-- … while a post-index by a NUMBER keeps the base known: `ldr d5, [x2], #8` ; `ldr d2, [x2]` hits `str d1, [x2, #8]`
example : isMemload (memOp (some { pre := ofString "x", name := ofString "2" }) none 1 (some 8))
    (loadIns (memOp (some { pre := ofString "x", name := ofString "2" }) none 1 (some 0)))
    (updateState [] [(ofString "x2", some ⟨ofString "x2", 8⟩)]) = true := by decide +kernel

-- no sticky unknown: `str d1, [x2, #8]` ; `mov x4, x2` ; `mul x4, x4, x7` ; `mov x4, x2` ; `ldr d2, [x4, #8]`
-- — the fresh copy makes `x4` known again and the load hits the store …
example : isMemload (memOp (some { pre := ofString "x", name := ofString "2" }) none 1 (some 8))
    (loadIns (memOp (some { pre := ofString "x", name := ofString "4" }) none 1 (some 8)))
    (updateState [] [(ofString "x4", some ⟨ofString "x2", 0⟩), (ofString "x4", none),
      (ofString "x4", some ⟨ofString "x2", 0⟩)]) = true := by decide +kernel
-- … while without the second copy (or with an increment of the unknown `x4` instead) it does not
example : isMemload (memOp (some { pre := ofString "x", name := ofString "2" }) none 1 (some 8))
    (loadIns (memOp (some { pre := ofString "x", name := ofString "4" }) none 1 (some 8)))
    (updateState [] [(ofString "x4", some ⟨ofString "x2", 0⟩), (ofString "x4", none),
      (ofString "x4", some ⟨ofString "x4", 8⟩)]) = false := by decide +kernel
-- the same on x86: `movq %rax, 8(%rbx)` ; `movq %rbx, %rcx` ; `imulq %rdx, %rcx` ; `movq %rbx, %rcx` ; `movq 8(%rcx), %rsi`
example : isMemload (memOp (some { name := ofString "rbx" }) none 1 (some 8))
    (loadIns (memOp (some { name := ofString "rcx" }) none 1 (some 8)))
    (updateState [] [(ofString "rcx", some ⟨ofString "rbx", 0⟩), (ofString "rcx", none),
      (ofString "rcx", some ⟨ofString "rbx", 0⟩)]) = true := by decide +kernel

/-! ### the scan for a memory destination -/

/-- a later store to the very same operand ends the search (∀ suffixes) -/
theorem store_ends_search (isa : Isa) (m : Mem) (s : RegState) (st : Ins) (rest : List Ins)
    (hstop : memStop isa m st = false) (hstore : isMemstore m st = true) (l : Nat) (tg : Tag)
    (h : (l, tg) ∈ scanMem isa m s (st :: rest)) : l = st.line := by
  rcases (mem_scanMem_cons isa m s st rest _).mp h with ⟨_, ⟨_, hx⟩ | ⟨hno, _⟩⟩
  · exact congrArg Prod.fst hx
  · rw [hstore] at hno; cases hno

/-! ### semantic soundness of the tracker (concrete register valuations, `Lemmas/Tracking.lean`)

  No side condition of the kind "the register an entry names is never itself overwritten" is needed:
  entries refer to the valuation `ρ0` at the store, not to the current one, and the store's address
  is evaluated at `ρ0` as well — see the example `copy_then_clobber` below.  What the semantics does
  not cover is partial-register aliasing (`eax` vs `rax` are different keys of the tracker and of
  `Val`), see `alias_write_invisible`. -/

/-- `updateState` preserves the tracker's invariant along any execution of
    the reported changes (all states, all change lists, all non-deterministic outcomes) -/
theorem tracks_preserved (ρ0 ρ ρ' : Val) (s : RegState) (ch : List (Txt × Option Change))
    (h : Tracks ρ0 ρ s) (hx : Exec ρ ch ρ') : Tracks ρ0 ρ' (updateState s ch) :=
  tracks_updateState ρ0 ρ ρ' s ch h hx

/-- whenever the tracked state describes the current valuation `ρ` relative to
    the valuation `ρ0` at the store and `is_memload` reports a dependency, a memory source operand of
    the instruction has *exactly* the store's address, `base (+ index·scale) + displacement`
    evaluated at the store (`ρ0`) resp. at the load (`ρ`).  No side condition. -/
theorem tracking_sound (σ : Txt → Int) (ρ0 ρ : Val) (st : Mem) (i : Ins) (s : RegState) (h : Tracks ρ0 ρ s)
    (hm : isMemload st i s = true) :
    ∃ ld, Op.mem ld ∈ i.src ++ i.srcDst ∧ addr σ st ρ0 = addr σ ld ρ :=
  isMemload_sound σ ρ0 ρ st i s h hm

/-- the property end to end (∀ kernels): every store→load emission of
    `find_depending` for producer `p` names a memory destination `m` of `p` and an instruction `c` of
    the following code such that, starting from ANY valuation `ρ0`, for EVERY execution of `p`'s
    changes AND of `p`'s own post-index write-back (`changesPost`: `str x1, [x2], #8` leaves `x2 + 8`),
    of the instructions before `c`, and of `c`'s own pre-access changes, some memory source
    operand of `c` has the same concrete address as `m` had at the store — for EVERY meaning `σ` of the
    symbols that occur as displacements (a symbol is an unknown but fixed address constant). -/
theorem store_load_edge_sound (σ : Txt → Int) (isa : Isa) (p : Ins) (rest : List Ins) (l : Nat) (tg : Tag)
    (h : (l, tg) ∈ findDependingMem isa p rest) :
    ∃ m, Op.mem m ∈ p.dst ++ p.srcDst ∧ ∃ j c, rest[j]? = some c ∧ c.line = l ∧ tg = Tag.storeLoad ∧
      ∀ ρ0 ρa ρ1 ρj ρ', Exec ρ0 p.changes ρa → Exec ρa p.changesPost ρ1 →
        ExecSeq ρ1 (rest.take j) ρj → Exec ρj c.changes ρ' →
        ∃ ld, Op.mem ld ∈ c.src ++ c.srcDst ∧ addr σ m ρ0 = addr σ ld ρ' := by
  obtain ⟨m, hd, hmem⟩ := (mem_findDependingMem isa p rest _).mp h
  obtain ⟨j, c, hj, hl, htg, hall⟩ := scanMem_sound σ isa m rest l tg _ hmem
  refine ⟨m, hd, j, c, hj, hl, htg, ?_⟩
  intro ρ0 ρa ρ1 ρj ρ' h0 h1 hseq hc
  exact hall ρ0 ρ1 ρj ρ'
    (tracks_updateState ρ0 ρa ρ1 _ _ (tracks_updateState ρ0 ρ0 ρa [] _ (tracks_init ρ0) h0) h1) hseq hc

-- non-vacuity: a concrete execution exists (`rbx := rbx + 8` from a valuation with rbx = 100) and the
-- invariant holds of the tracked state; the conclusion of `tracking_sound` is then 100 + 8 = 108 + 0
example :
    let ρ0 : Val := fun r => if r = ofString "rbx" then 100 else 0
    Exec ρ0 [(ofString "rbx", some ⟨ofString "rbx", 8⟩)] (ρ0.set (ofString "rbx") 108) ∧
    Tracks ρ0 (ρ0.set (ofString "rbx") 108) (updateState [] [(ofString "rbx", some ⟨ofString "rbx", 8⟩)]) := by
  intro ρ0
  have hx : Exec ρ0 [(ofString "rbx", some ⟨ofString "rbx", 8⟩)] (ρ0.set (ofString "rbx") 108) :=
    Exec.cons (by simp [Step1, ρ0]) (Exec.nil _)
  exact ⟨hx, tracks_preserved ρ0 ρ0 _ [] _ (tracks_init ρ0) hx⟩

example :
    let ρ0 : Val := fun r => if r = ofString "rbx" then 100 else 0
    addr (fun _ => 0) (memOp (some { name := ofString "rbx" }) none 1 (some 8)) ρ0 = 108 ∧
    addr (fun _ => 0) (memOp (some { name := ofString "rbx" }) none 1 (some 0)) (ρ0.set (ofString "rbx") 108) = 108 := by
  decide +kernel

/-- no side condition on rename sources: `rcx := rbx`, then `rbx` is changed
    beyond reconstruction; a load through `rcx` still hits the store through `rbx` — the tracker says
    so, and by `tracking_sound` it is right (`rcx` holds the value `rbx` had at the store). -/
theorem copy_then_clobber :
    isMemload (memOp (some { name := ofString "rbx" }) none 1 (some 8))
      (loadIns (memOp (some { name := ofString "rcx" }) none 1 (some 8)))
      (updateState [] [(ofString "rcx", some ⟨ofString "rbx", 0⟩), (ofString "rbx", none)]) = true := by
  decide +kernel

/-- limitation of the name-keyed tracker, outside the property's wording:
    an unknown write to `eax` leaves the entry of `rax` untouched, so the dependency through `rax` is
    still reported.  The semantics above has the same granularity (`eax`, `rax` are different keys). -/
theorem alias_write_invisible :
    isMemload (memOp (some { name := ofString "rax" }) none 1 (some 0))
      (loadIns (memOp (some { name := ofString "rax" }) none 1 (some 0)))
      (updateState [] [(ofString "eax", none)]) = true := by
  decide +kernel

end OsacaVerif.Props.C06
