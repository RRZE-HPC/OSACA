import OsacaVerif.Lemmas.A64DomainSound
import OsacaVerif.Lemmas.A64File
import OsacaVerif.Lemmas.TextLit
/-
  C10 — AArch64 parser recovers every line and operand exactly as written.

  Model: `Model/ParseA64.lean` (transcription of the pyparsing grammar of `ParserAArch64` and of its
  post-processing; every literal regenerated from the source into `Gen/A64Grammar.lean`).
  Specification: `Spec/RenderA64.lean` (instruction ASTs as written, their rendering under an arbitrary
  layout, the expected result) and `Spec/FileLinesA64.lean` (lines of a file, blank lines).
  All theorems hold for all inputs (unbounded numbers, operand lists, gaps, files).
-/
namespace OsacaVerif.Props.C10
open OsacaVerif OsacaVerif.Text OsacaVerif.ParseA64 OsacaVerif.Gen OsacaVerif.Spec.A64

/-! ### grammar constants the model's structure relies on -/
/-- the instruction grammar has the five operand slots -/
theorem operand_slots : A64.operandSlots = 5 := by decide
/-- line numbers are 1-based -/
theorem line_base : A64.lineBase = 1 := by decide

/-! ### files: one entry per non-blank line, numbered and verbatim -/
/-- the lines of a file are uniquely determined, and the model's `splitLines` computes them -/
theorem lines_unique (content : Txt) (ls : List Txt) :
    IsLinesOf content ls ↔ ls = splitLines content :=
  ⟨isLinesOf_unique content ls, fun h => h ▸ isLinesOf_splitLines content⟩

/-- **parseFile_lines** (∀ files, ∀ start offsets): the result has exactly one entry per non-blank line,
    in file order, carrying the 1-based number of the line in the file (plus `start`) and its verbatim
    text. -/
theorem parseFile_lines (content : Txt) (start : Nat) (ls : List Txt) (hls : IsLinesOf content ls) :
    FileSpec ls start ((parseFile content start).map entry) := by
  cases isLinesOf_unique content ls hls
  have := parseLinesFrom_spec start (splitLines content) 0
  rwa [Nat.zero_add] at this

/-- line numbers are strictly increasing (the kernel well-formedness the later analyses rely on) -/
theorem parseFile_wf (content : Txt) (start : Nat) :
    ((parseFile content start).map (·.lineNo)).Pairwise (· < ·) := by
  have := (parseLinesFrom_spec start (splitLines content) 0).sorted
  rw [List.pairwise_map] at this ⊢
  exact this

/-- every entry is the parse of its own line -/
theorem parseFile_each (content : Txt) (start : Nat) :
    ∀ f ∈ parseFile content start, f.out = parseLine f.text :=
  parseLinesFrom_out start (splitLines content) 0

example : (parseFile (ofString "mov x0, x1\n\n \t\n// c\n.L1:") 7).map (fun f => (f.lineNo, toStr f.text)) =
    [(8, "mov x0, x1"), (11, "// c"), (12, ".L1:")] := by
  repeat rw [ofString_ofList]
  decide +kernel

/-! ### classification -/
/-- which fields of `InstructionForm` `parse_line` fills for a line of each class -/
structure Fields where
  comment : Bool
  label : Bool
  directive : Bool
  mnemonic : Bool
  deriving DecidableEq, Repr

def fieldsOf : Line → Fields
  | .comment _ => ⟨true, false, false, false⟩
  | .label _ c => ⟨c.isSome, true, false, false⟩
  | .directive _ _ c => ⟨c.isSome, false, true, false⟩
  | .instr _ _ c => ⟨c.isSome, false, false, true⟩

def isCommentClass (f : Fields) : Prop := f.comment = true ∧ f.label = false ∧ f.directive = false ∧ f.mnemonic = false
def isLabelClass (f : Fields) : Prop := f.label = true ∧ f.directive = false ∧ f.mnemonic = false
def isDirectiveClass (f : Fields) : Prop := f.label = false ∧ f.directive = true ∧ f.mnemonic = false
def isInstrClass (f : Fields) : Prop := f.label = false ∧ f.directive = false ∧ f.mnemonic = true

/-- **classify_exclusive** (∀ lines): a successfully parsed line is exactly one of comment, label,
    directive, instruction. -/
theorem classify_exclusive (s : Txt) (l : Line) (_h : parseLine s = .ok l) :
    let f := fieldsOf l
    (isCommentClass f ∧ ¬ isLabelClass f ∧ ¬ isDirectiveClass f ∧ ¬ isInstrClass f) ∨
    (¬ isCommentClass f ∧ isLabelClass f ∧ ¬ isDirectiveClass f ∧ ¬ isInstrClass f) ∨
    (¬ isCommentClass f ∧ ¬ isLabelClass f ∧ isDirectiveClass f ∧ ¬ isInstrClass f) ∨
    (¬ isCommentClass f ∧ ¬ isLabelClass f ∧ ¬ isDirectiveClass f ∧ isInstrClass f) := by
  cases l <;> simp [fieldsOf, isCommentClass, isLabelClass, isDirectiveClass, isInstrClass]

/-- the order of the attempts: comment, marker, label, directive, instruction — a line is given the
    first class whose grammar accepts it (∀ lines) -/
theorem classify_order (s : Txt) :
    (∀ c, commentLine s = some c → parseLine s = .ok (.comment c)) ∧
    (∀ c, commentLine s = none → llvmMarker s = some c → parseLine s = .ok (.comment c)) ∧
    (∀ n c, commentLine s = none → llvmMarker s = none → labelLine s = some (n, c) →
      parseLine s = .ok (.label n c)) ∧
    (∀ n ps c, commentLine s = none → llvmMarker s = none → labelLine s = none →
      directiveLine s = some (n, ps, c) → parseLine s = .ok (.directive n ps c)) ∧
    (commentLine s = none → llvmMarker s = none → labelLine s = none → directiveLine s = none →
      parseLine s = instrLine s) := by
  refine ⟨?_, ?_, ?_, ?_, ?_⟩
  · intro c h; simp [parseLine, h]
  · intro c h1 h2; simp [parseLine, h1, h2]
  · intro n c h1 h2 h3; simp [parseLine, h1, h2, h3]
  · intro n ps c h1 h2 h3 h4; simp [parseLine, h1, h2, h3, h4]
  · intro h1 h2 h3 h4; simp [parseLine, h1, h2, h3, h4]

/-- an instruction never comes out of `instrLine` as another class -/
theorem instrLine_class (s : Txt) (l : Line) (h : instrLine s = .ok l) : isInstrClass (fieldsOf l) := by
  unfold instrLine at h
  split at h
  · cases h
  · split at h
    · cases h; simp [fieldsOf, isInstrClass]
    · cases h
    · cases h

example : parseLine (ofString "// a  b") = .ok (.comment (ofString "a b")) ∧
    parseLine (ofString ".L1: // x") = .ok (.label (ofString ".L1") (some (ofString "x"))) ∧
    parseLine (ofString ".align 4") = .ok (.directive (ofString "align") [ofString "4"] none) ∧
    parseLine (ofString "ret") = .ok (.instr (ofString "ret") [] none) := by
  repeat rw [ofString_ofList]
  decide +kernel

/-- **comment lines** (∀ words, ∀ gaps): `//` and any words in any layout are a comment whose text is the
    words joined by single blanks -/
theorem comment_line_roundtrip (g : Txt) (xs : List (Txt × Txt)) (gEnd : Txt) (hg : Blank g)
    (hx : BodyOk xs) (hgE : Blank gEnd) :
    parseLine (g ++ 47 :: 47 :: commentBody xs gEnd) = .ok (.comment (joinSp (xs.map (·.2)))) := by
  obtain ⟨r, hc, hr⟩ := commentP_body g xs gEnd hg hx hgE
  simp [parseLine, commentLine, hc, atEnd, hr]

example : BodyOk [([32], ofString "ab"), ([9, 32], ofString "c")] := by
  simp [BodyOk, FirstGapNe, Blank, IsWord, ofString]; decide

/-! ### numbers -/
/-- decimal numerals (∀ n): the digits of `n` read back give `n` -/
theorem decimal_roundtrip (n : Nat) : natOfDigits 10 (showNat n) = n := natOfDigits_showNat n
/-- **immediates round-trip, decimal** (∀ n): `int(str(n), 0) = n` and `int("-"+str(n), 0) = -n` -/
theorem imm_dec_roundtrip (n : Nat) :
    pyInt0 (showNat n) = some (n : Int) ∧ pyInt0 (45 :: showNat n) = some (- (n : Int)) :=
  ⟨pyInt0_showNat n, pyInt0_neg_showNat n⟩
/-- **immediates round-trip, hexadecimal** (∀ n, lower- and upper-case digits) -/
theorem imm_hex_roundtrip (up : Bool) (n : Nat) :
    pyInt0 (48 :: 120 :: showHex up n) = some (n : Int) ∧
    pyInt0 (45 :: 48 :: 120 :: showHex up n) = some (- (n : Int)) :=
  ⟨pyInt0_showHex up n, pyInt0_neg_showHex up n⟩
/-- the grammar reads a written integer immediate (∀ value, sign, `#` or not, decimal or hexadecimal,
    ∀ gap in front, anything `Follow` behind) as the number text, and post-processing gives its value -/
theorem imm_parse_roundtrip (g : Txt) (i : IntA) (rest : Txt) (hg : Blank g) (hf : Follow rest) :
    immediate (g ++ (intText i ++ rest)) = some (.num (optNeg i.neg ++ intDigits i), rest) ∧
    processImmediate (.num (optNeg i.neg ++ intDigits i)) = .ok (.imm (.int (intVal i))) :=
  ⟨immediate_int g i rest hg hf, processImmediate_int i⟩

example : pyInt0 (ofString "-0x1F") = some (-31) ∧ pyInt0 (ofString "010") = none ∧
    showNat 4096 = ofString "4096" ∧ showHex true 48879 = ofString "BEEF" := by
  repeat rw [ofString_ofList]
  decide +kernel

/-! ### register ranges -/
/-- **range_expand** (∀ A ≤ B, ∀ first register, ∀ list index): `{rA - rB}` expands to exactly the
    registers `A, A+1, …, B` (B − A + 1 of them), each a copy of the first with its number replaced -/
theorem range_expand (ix : Option Txt) (first : Elem) (p : Txt) (hp : first.pre = some p) (a b : Nat)
    (_hab : a ≤ b) :
    expandRange ix first a b = .ok ((List.range (b + 1 - a)).map (fun i => rangeMember ix first p (a + i))) := by
  have hinc : A64.rangeInclusive = 1 := by decide
  unfold expandRange
  rw [hinc, rangeNames_eq, mapE_ok _ (rangeMember ix first p)]
  · simp [List.map_map, Function.comp_def]
  · intro n _
    cases ix <;> simp [processElem, processRegister, RegTok.ofElem, hp, rangeMember]

theorem range_expand_length (ix : Option Txt) (first : Elem) (p : Txt) (hp : first.pre = some p) (a b : Nat)
    (hab : a ≤ b) : ∃ rs, expandRange ix first a b = .ok rs ∧ rs.length = b - a + 1 := by
  refine ⟨_, range_expand ix first p hp a b hab, ?_⟩
  simp; omega

example : (match expandRange none { pre := some [118], name := some [48], shape := some [83] } 0 2 with
    | .ok rs => rs | .error _ => []) =
    [{ pre := [118], name := [48], shape := some [115] }, { pre := [118], name := [49], shape := some [115] },
     { pre := [118], name := [50], shape := some [115] }] := by decide +kernel

/-! ### memory operands: scale -/
/-- **scale = 2^n** (∀ n, ∀ of the scaling operators `lsl`, `uxtw`, `sxtw`, `sxtx` in any case): an index
    register shifted by `n` gives scale `2^n` -/
theorem scale_pow2 (ix : RegTok) (op : Txt) (n : Nat)
    (hop : ix.shiftOp = some op) (hsh : ix.shift = some (.num (showNat n)))
    (hvalid : lower op ∈ [ofString "lsl", ofString "uxtw", ofString "sxtw", ofString "sxtx"]) :
    memScaleOf (some ix) = .ok (2 ^ n) := by
  have hv' : lower op ∈ A64.validShiftOps := List.contains_iff_mem.mp (scaleOps_valid _ hvalid)
  have hbase : A64.scaleBase = 2 := by decide
  simp [memScaleOf, hop, hsh, hv', pyInt10_showNat, hbase]

/-- without a shift amount the scale is 1 -/
theorem scale_default (ix : RegTok) (hsh : ix.shift = none) : memScaleOf (some ix) = .ok 1 := by
  have hd : A64.defaultScale = 1 := by decide
  simp [memScaleOf, hsh, hd]

/-- the scale of a processed memory operand is the one computed from its index (∀ memory operands) -/
theorem processMemory_scale (m : MemTok) (r : Mem) (h : processMemory m = .ok r) :
    memScaleOf m.index = .ok r.scale := by
  unfold processMemory at h
  split at h <;> try cases h
  rename_i off sc po h1 h2 h3
  split at h <;> try cases h
  split at h <;> try cases h
  rw [h2]

example : (match parseLine (ofString "ldr x0, [x1, w2, SXTW #3]") with
    | .ok (.instr _ [_, .mem m] _) => m.scale
    | _ => 0) = 8 := by
  -- the literal stands under the `match`: name the text and open the literal in the equation
  generalize hs : ofString "ldr x0, [x1, w2, SXTW #3]" = s
  rw [ofString_ofList] at hs
  subst hs
  decide +kernel

/-! ### round trip of rendered instruction lines -/
/-- the 17 condition codes of the architecture are what the grammar knows (ties `Gen` to the ISA) -/
theorem conditions_complete : condLits = [ofString "eq", ofString "ne", ofString "cs", ofString "hs",
    ofString "cc", ofString "lo", ofString "mi", ofString "pl", ofString "vs", ofString "vc", ofString "hi",
    ofString "ls", ofString "ge", ofString "lt", ofString "gt", ofString "le", ofString "al"] := by
  repeat rw [ofString_ofList]
  decide +kernel

/-- the operand kinds of the round trip.
    `last`: the operand is the last one of the line (a memory reference has to be);
    `fst`: it stands in the first operand slot (a condition code may not, a prefetch operation must). -/
inductive CoveredKind : Bool → Bool → OpA → Prop where
  | scalar (last fst : Bool) (p n : Nat) (hp : isScalarPrefixC p = true) : CoveredKind last fst (.reg (.scalar p n))
  | alias (last fst : Bool) (t : Txt) (ht : t ∈ aliasTexts) : CoveredKind last fst (.reg (.alias t))
  | vec (last fst : Bool) (p n : Nat) (lanes : Option Txt) (shape idx : Option Nat)
      (hp : isVectorPrefixC p = true) (hl : LanesOk lanes) (hs : ShapeOk shape) :
      CoveredKind last fst (.reg (.vec p n lanes shape idx))
  | pred (last fst : Bool) (p n : Nat) (tail : PredTail) (hp : lowerC p = 112) (ht : PredTailOk tail) :
      CoveredKind last fst (.reg (.pred p n tail))
  | list (last fst : Bool) (e0 : ElemA) (es : List ElemA) (idx : Option Nat) (hes : ∀ e ∈ e0 :: es, ElemOk e) :
      CoveredKind last fst (.list (e0 :: es) idx)
  | range (last fst : Bool) (first : ElemA) (b : Nat) (idx : Option Nat) (hf : ElemOk first) :
      CoveredKind last fst (.range first b idx)
  | int (last fst : Bool) (i : IntA) : CoveredKind last fst (.int i)
  | flt (last fst : Bool) (hash neg : Bool) (ip fp : Txt) (e : Option (Nat × Nat × Txt)) (f : Option Nat)
      (hok : FltOk ip fp e f) : CoveredKind last fst (.flt hash neg ip fp e f)
  | shimm (last fst : Bool) (hash hex : Bool) (v : Nat) (op : Txt) (ah : Bool) (amt : Nat)
      (hop : lower op ∈ scaleOps) : CoveredKind last fst (.shimm hash hex v op ah amt)
  | cond (last : Bool) (c : Txt) (hc : lower c ∈ condLits) : CoveredKind last false (.cond c)
  | ident (last fst : Bool) (i : IdentA) (hok : IdentOk i) : CoveredKind last fst (.ident i)
  | prf (last : Bool) (t g p : Txt) (ht : lower t ∈ prfT) (hg : lower g ∈ prfG) (hp : lower p ∈ prfP) :
      CoveredKind last true (.prf t g p)
  | mem (fst : Bool) (m : MemA) (hm : MemOk m) : CoveredKind true fst (.mem m)

theorem coveredKind_covered (last fst : Bool) (o : OpA) (h : CoveredKind last fst o) : CoveredOp last fst o := by
  cases h with
  | scalar _ _ p n hp => exact covered_scalar last fst p n hp
  | alias _ _ t ht => exact covered_alias last fst t ht
  | vec _ _ p n lanes shape idx hp hl hs => exact covered_vec last fst p n lanes shape idx hp hl hs
  | pred _ _ p n tail hp ht => exact covered_pred last fst p n tail hp ht
  | list _ _ e0 es idx hes => exact covered_list last fst e0 es idx hes
  | range _ _ first b idx hf => exact covered_range last fst first b idx hf
  | int _ _ i => exact covered_int last fst i
  | flt _ _ hash neg ip fp e f hok => exact covered_flt last fst hash neg ip fp e f hok
  | shimm _ _ hash hex v op ah amt hop => exact covered_shimm last fst hash hex v op ah amt hop
  | cond _ c hc => exact covered_cond last c hc
  | ident _ _ i hok => exact covered_identFull last fst i hok
  | prf _ t g p ht hg hp => exact covered_prf last t g p ht hg hp
  | mem _ m hm => exact covered_mem fst m hm

/-- every operand is of a covered kind at its position (valid operand order: memory reference last) -/
def KindsOk : Bool → List OpA → Prop
  | _, [] => True
  | fst, o :: os => CoveredKind os.isEmpty fst o ∧ KindsOk false os

theorem opsCovered_of_kinds (fst : Bool) (os : List OpA) (h : KindsOk fst os) : OpsCovered fst os := by
  induction os generalizing fst with
  | nil => trivial
  | cons o os ih => exact ⟨coveredKind_covered _ fst o h.1, ih false h.2⟩

/-- **a64_roundtrip** (full statement): ∀ instruction ASTs of the specification's domain — `InstrOk a`
    (mnemonic of alphanumerics and dots not starting with a dot, at most five operand slots, comment words
    of printable characters) and `KindsOk true a.ops` (every operand of one of the kinds of `Spec.A64.OpA`,
    well-formed, in valid order: prefetch operation only first, condition code not first, memory reference
    only last) — and ∀ layouts (blanks and tabs in every gap, also inside braces and brackets; at least one
    after the mnemonic and between comment words):

        parseLine (render a gaps) = ok (expectLine a)

    i.e. the rendered line is classified as an instruction and mnemonic, every operand and the comment are
    recovered exactly as written.  The operand kinds (`CoveredKind`):
      * scalar registers `[xwbhsdq]N` in either case (∀ N), the aliases `sp wsp xzr wzr` in either case,
      * vector / SVE registers `vN`, `vN.<lanes><shape>`, `zN.<shape>`, `…[idx]` (∀ N, lanes, shape, idx),
      * predicate registers `pN`, `pN/z`, `pN/m`, `pN.<shape>` (either case),
      * register lists `{e0, e1, …}[idx]` (∀ lengths ≥ 1) and ranges `{first - last}[idx]` (∀ bounds) of
        scalar / vector elements, expanded to their members,
      * integer immediates (∀ values; decimal or hexadecimal with lower/upper-case digits; with or
        without `#`; signed), floating-point immediates (mantissa, optional signed exponent, optional
        `f`), shifted immediates `#imm, op #n` with `op ∈ lsl uxtw sxtw sxtx` in any case (value `imm·2^n`, ∀ n),
      * condition codes (the 17 codes in any case), prefetch operations,
      * identifiers: label names (not beginning like a register — one of `xwbhsdqvzp` and a digit —, without
        `sp` / `zr` at the first or second position, not a condition code, not beginning with
        a prefetch type, not *being* a shift operator — names that begin with one, `lsl_loop`, `ror.tab`,
        `sxtw1`, `mul_vl`, are inside, in every slot and behind every operand kind), optionally with
        relocation `:lo12:`, offset `+n` / `+0xh` and `#`,
      * memory references `[base]`, `[base, #imm]`, `[base, #:rel:name]`, `[base, index]`,
        `[base, index, op]`, `[base, index, op #n]` with `op ∈ lsl uxtw sxtw sxtx` in any case (∀ n: scale
        `2^n`), base and index scalar registers or sp/zr aliases, optionally `!` or a post-index immediate. -/
theorem a64_roundtrip (a : InstrA) (gaps : List Txt) (hok : InstrOk a)
    (hkinds : KindsOk true a.ops) (hl : LayoutOk (linePieces a) gaps) :
    parseLine (render a gaps) = .ok (expectLine a) :=
  roundtrip_covered a gaps hok (opsCovered_of_kinds true a.ops hkinds) hl

/-! ### executable domain test (evaluated by the driver on every generated AST) -/
open OsacaVerif.ParseA64.Domain in
theorem layoutOkB_sound (ps : List Piece) (gs : List Txt) (h : layoutOkB ps gs = true) : LayoutOk ps gs := by
  induction ps generalizing gs with
  | nil =>
    match gs, h with
    | [g], h => exact ⟨g, rfl, h⟩
  | cons p ps ih =>
    match gs, h with
    | g :: gs, h =>
      simp only [layoutOkB, Bool.and_eq_true] at h
      refine ⟨h.1.1, ?_, ih gs h.2⟩
      intro hp hg
      have := h.1.2
      simp [hp, hg] at this

open OsacaVerif.ParseA64.Domain in
theorem opOkB_sound (last fst : Bool) (o : OpA) (h : opOkB last fst o = true) : CoveredKind last fst o := by
  match o, h with
  | .reg (.scalar p n), h => exact .scalar last fst p n h
  | .reg (.alias t), h => exact .alias last fst t (List.contains_iff_mem.mp h)
  | .reg (.vec p n lanes shape idx), h =>
    simp only [opOkB, Bool.and_eq_true] at h
    exact .vec last fst p n lanes shape idx h.1.1 (lanesOkB_sound _ h.1.2) (shapeOkB_sound _ h.2)
  | .reg (.pred p n tail), h =>
    simp only [opOkB, Bool.and_eq_true, beq_iff_eq] at h
    exact .pred last fst p n tail h.1 (predTailOkB_sound _ h.2)
  | .list es idx, h =>
    simp only [opOkB, Bool.and_eq_true] at h
    match es, h with
    | e0 :: es', h =>
      exact .list last fst e0 es' idx (fun e he => elemOkB_sound e (List.all_eq_true.mp h.2 e he))
  | .range first b idx, h => exact .range last fst first b idx (elemOkB_sound first h)
  | .int i, _ => exact .int last fst i
  | .flt hash neg ip fp e f, h =>
    simp only [opOkB, Bool.and_eq_true] at h
    exact .flt last fst hash neg ip fp e f
      ⟨digitsB_sound _ h.1.1.1, digitsB_sound _ h.1.1.2, expOkB_sound _ h.1.2, fOkB_sound _ h.2⟩
  | .shimm hash hex v op ah amt, h =>
    exact .shimm last fst hash hex v op ah amt (List.contains_iff_mem.mp h)
  | .cond c, h =>
    simp only [opOkB, Bool.and_eq_true, Bool.not_eq_true'] at h
    have hf : fst = false := h.1
    subst hf
    exact .cond last c (List.contains_iff_mem.mp h.2)
  | .ident i, h => exact .ident last fst i (identOkB_sound i h)
  | .prf t g p, h =>
    simp only [opOkB, Bool.and_eq_true] at h
    have hf : fst = true := h.1.1.1
    subst hf
    exact .prf last t g p (List.contains_iff_mem.mp h.1.1.2) (List.contains_iff_mem.mp h.1.2)
      (List.contains_iff_mem.mp h.2)
  | .mem m, h =>
    simp only [opOkB, Bool.and_eq_true] at h
    have hl : last = true := h.1
    subst hl
    exact .mem fst m (memOkB_sound m h.2)

open OsacaVerif.ParseA64.Domain in
theorem kindsOkB_sound (fst : Bool) (os : List OpA) (h : kindsOkB fst os = true) : KindsOk fst os := by
  induction os generalizing fst with
  | nil => trivial
  | cons o os ih =>
    simp only [kindsOkB, Bool.and_eq_true] at h
    exact ⟨opOkB_sound _ fst o h.1, ih false h.2⟩

open OsacaVerif.ParseA64.Domain in
theorem instrOkB_sound (a : InstrA) (h : instrOkB a = true) : InstrOk a := by
  simp only [instrOkB, Bool.and_eq_true, decide_eq_true_eq] at h
  obtain ⟨⟨h1, h2⟩, h3⟩ := h
  refine ⟨?_, h2, ?_⟩
  · cases hm : a.mn with
    | nil => rw [hm] at h1; cases h1
    | cons m ms =>
      rw [hm] at h1
      simp only [Bool.and_eq_true, bne_iff_ne, ne_eq] at h1
      exact ⟨m, ms, rfl, fun c hc => List.all_eq_true.mp h1.1 c hc, h1.2⟩
  · cases hc : a.comment with
    | none => trivial
    | some ws =>
      rw [hc] at h3
      intro w hw
      exact nonempty_all (List.all_eq_true.mp h3 w hw)

open OsacaVerif.ParseA64.Domain in
/-- **a64_roundtrip, checkable form**: whenever the executable test `Domain.inDomain` accepts an AST and
    its layout (the harness evaluates it on every generated line and reports the share), the model parses
    the rendered line to exactly what was written. -/
theorem a64_roundtrip_checked (a : InstrA) (gaps : List Txt) (h : inDomain a gaps = true) :
    parseLine (render a gaps) = .ok (expectLine a) := by
  simp only [inDomain, Bool.and_eq_true] at h
  exact a64_roundtrip a gaps (instrOkB_sound a h.1.1) (kindsOkB_sound true a.ops h.1.2) (layoutOkB_sound _ _ h.2)

open OsacaVerif.ParseA64.Domain

-- non-vacuity: concrete instructions and layouts inside the domain, and the resulting lines
example :
    let a : InstrA := ⟨ofString "madd", [.reg (.scalar 120 0), .reg (.scalar 87 12), .int ⟨true, true, true, false, 255⟩,
      .int ⟨false, false, false, false, 7⟩], some [ofString "c1", ofString "c2"]⟩
    let gaps : List Txt := [[9], [32], [], [32], [], [], [32, 32], [9], [32], [], [32], [9]]
    inDomain a gaps = true ∧ render a gaps = ofString "\tmadd x0, W12,#-0xff  ,\t7 //c1 c2\t" ∧
    parseLine (render a gaps) = .ok (expectLine a) := by
  repeat rw [ofString_ofList]
  decide +kernel

-- a memory reference with a scaled index, pre-index; a vector element and a condition code
example :
    let a : InstrA := ⟨ofString "ldr", [.reg (.vec 86 3 (some [52]) (some 83) (some 1)), .cond (ofString "Eq"),
      .mem ⟨.alias (ofString "SP"), .idx (.scalar 119 2) (some ⟨ofString "SXTW", some (true, 3)⟩), true, none⟩], none⟩
    let gaps : List Txt := [[], [32], [], [9], [], [32], [32], [32], [], [32], [32], [9], [32], [32], [32]]
    inDomain a gaps = true ∧ render a gaps = ofString "ldr V3.4S[1],\tEq, [ SP ,w2 , SXTW\t#3 ] ! " ∧
    parseLine (render a gaps) = .ok (expectLine a) ∧
    (match expectLine a with | .instr _ [_, _, .mem m] _ => m.scale | _ => 0) = 8 := by
  repeat rw [ofString_ofList]
  decide +kernel

-- defect `a64-shiftop-prefix-label`: a label operand that begins with a shift-operator name directly behind a
-- register is inside the domain and comes back as written (the register's optional shift tail must not take
-- the `lsl` of `lsl_loop`; the shift operator ends at a word boundary)
example :
    let a : InstrA := ⟨ofString "cbz", [.reg (.scalar 120 1), .ident ⟨false, none, ofString "lsl_loop", none⟩], none⟩
    let gaps : List Txt := [[], [32], [], [32], []]
    inDomain a gaps = true ∧ render a gaps = ofString "cbz x1, lsl_loop" ∧
    parseLine (render a gaps) = .ok (expectLine a) ∧
    expectLine a = .instr (ofString "cbz")
      [.reg { pre := [120], name := [49] }, .ident { reloc := none, name := ofString "lsl_loop", offset := none }] none := by
  repeat rw [ofString_ofList]
  decide +kernel

-- … behind a register, an immediate and an identifier, compact layout, either case, with offset; `mul`
-- followed by a blank; a shift that is meant stays a shift (`x2, lsl #3` inside a memory reference)
example :
    let a : InstrA := ⟨ofString "op", [.reg (.scalar 120 1), .ident ⟨false, none, ofString "ROR.tab", some (ofString "8")⟩,
      .int ⟨true, false, false, false, 5⟩, .ident ⟨false, none, ofString "sxtw1", none⟩,
      .ident ⟨false, none, ofString "mul", none⟩], some [ofString "vl"]⟩
    let gaps : List Txt := [[], [32], [], [], [], [], [], [], [], [], [32], [32], []]
    inDomain a gaps = true ∧ render a gaps = ofString "op x1,ROR.tab+8,#5,sxtw1,mul // vl" ∧
    parseLine (render a gaps) = .ok (expectLine a) := by
  repeat rw [ofString_ofList]
  decide +kernel

example :
    let a : InstrA := ⟨ofString "ldr", [.reg (.scalar 120 0),
      .mem ⟨.scalar 120 1, .idx (.scalar 120 2) (some ⟨ofString "lsl", some (false, 3)⟩), false, none⟩], none⟩
    let gaps : List Txt := [[], [32], [], [32], [], [], [], [], [32], [32], [], []]
    inDomain a gaps = true ∧ render a gaps = ofString "ldr x0, [x1,x2, lsl 3]" ∧
    parseLine (render a gaps) = .ok (expectLine a) := by
  repeat rw [ofString_ofList]
  decide +kernel

-- the boundary of the domain: a name that *is* a shift operator is outside (it is read as the shift of
-- the register in front of it), and so is an amount glued to the operator (`lsl3` is a name)
example :
    let a : InstrA := ⟨ofString "cbz", [.reg (.scalar 120 1), .ident ⟨false, none, ofString "lsl", none⟩], none⟩
    let gaps : List Txt := [[], [32], [], [32], []]
    inDomain a gaps = false ∧ parseLine (render a gaps) ≠ .ok (expectLine a) := by
  repeat rw [ofString_ofList]
  decide +kernel

-- the hypothesis `MemOk` of the memory kind, for the memory reference of the second test above
example : MemOk ⟨.alias (ofString "SP"), .idx (.scalar 119 2) (some ⟨ofString "SXTW", some (true, 3)⟩), true, none⟩ :=
  ⟨.alias _ (by decide +kernel), ⟨.scalar _ _ (by decide), fun x hx => by cases hx; decide +kernel⟩, fun _ => rfl⟩

end OsacaVerif.Props.C10

