import OsacaVerif.Model.Import
import OsacaVerif.Spec.ImportSpec
import OsacaVerif.Lemmas.ImportNum
import OsacaVerif.Lemmas.ImportDecode
import OsacaVerif.Lemmas.ImportFlow
import OsacaVerif.Lemmas.ImportTextL
import OsacaVerif.Lemmas.TextLit
/-
  C20 — Benchmark import snaps measurements and emits every imported form.

  `Import.*` is the model of `db_interface.py` (`_validate_measurement`, `_create_db_operand*`,
  `_get_ibench_output`, `_get_asmbench_output`, `import_benchmark_output`) and of
  `hw_model.set_instruction(_entry)` / the emitted list of `dump`; every literal (1.05, 0.95,
  range(1, 11), round(.., 5), tags, separators, block offsets, the operand decision tables) is
  generated from the source (`Gen.Import`), so the theorems below are about the code as it stands.
  `Spec.Import.*` is written from the property statement / README only.
-/
namespace OsacaVerif.Props.C20
open OsacaVerif OsacaVerif.Text OsacaVerif.ImportText OsacaVerif.Import OsacaVerif.Gen.Import
open OsacaVerif.Spec.Import

/-! ## 1. Throughput: snapped to 1/n (n = 1..10) within 5 % -/

/-- ∀ m r: a value is recorded exactly when the measurement lies in the closed
    5 % window of a reciprocal `1/n`, `n = 1..10`, and the value is that reciprocal rounded to five
    decimals. -/
theorem tp_snap_spec (m r : ℚ) :
    validateTp m = some r ↔
      ∃ n : ℕ, 1 ≤ n ∧ n ≤ 10 ∧ |m - 1 / (n : ℚ)| ≤ 1 / 20 / (n : ℚ) ∧ r = roundDigitsHE 5 (1 / (n : ℚ)) := by
  simp only [validateTp_some_iff, inTpWindow_iff, roundDigits]

/-- **windows are disjoint, n is unique** (∀ m): this is what makes "the first n that fits" the
    same as "the n that fits"; it fails for an eleventh reciprocal. -/
theorem tp_window_unique (m : ℚ) (a b : ℕ) (ha : 1 ≤ a ∧ a ≤ 10) (hb : 1 ≤ b ∧ b ≤ 10)
    (wa : |m - 1 / (a : ℚ)| ≤ 1 / 20 / (a : ℚ)) (wb : |m - 1 / (b : ℚ)| ≤ 1 / 20 / (b : ℚ)) : a = b :=
  tp_windows_disjoint m a b ha hb ((inTpWindow_iff m a).mpr wa) ((inTpWindow_iff m b).mpr wb)

/-- **reject_spec, throughput** (∀ m): outside all ten windows nothing is recorded ("missing rather
    than invented"), and only then. -/
theorem tp_reject_spec (m : ℚ) :
    validateTp m = none ↔ ∀ n : ℕ, 1 ≤ n → n ≤ 10 → 1 / 20 / (n : ℚ) < |m - 1 / (n : ℚ)| := by
  simp only [validateTp_none_iff, ← Bool.not_eq_true, inTpWindow_iff, not_le]

/-- the ten values that can be recorded -/
theorem tp_recorded_values :
    reciprocals.map (fun (n : ℕ) => roundDigitsHE roundDigits (1 / (n : ℚ))) =
      [1, 1 / 2, 33333 / 100000, 1 / 4, 1 / 5, 16667 / 100000, 14286 / 100000, 1 / 8, 11111 / 100000, 1 / 10] :=
  tp_values

example : validateTp (501 / 1000) = some (1 / 2) ∧ validateTp (334 / 1000) = some (33333 / 100000) ∧
    validateTp (21 / 200) = some (1 / 10) ∧ validateTp (1051 / 1000) = none ∧ validateTp (3 / 1) = none ∧
    validateTp (94 / 1000) = none ∧ validateTp (1 / 11) = none := by decide +kernel
example : ∃ m r : ℚ, validateTp m = some r := ⟨1 / 7, 7143 / 50000, by decide +kernel⟩
example : ∃ m : ℚ, ∀ n : ℕ, 1 ≤ n → n ≤ 10 → 1 / 20 / (n : ℚ) < |m - 1 / (n : ℚ)| :=
  ⟨3, (tp_reject_spec 3).mp (by decide +kernel)⟩

/-! ## 2. Latency: nearest integer within 5 % -/

/-- ∀ m r: a recorded latency is a non-negative integer, a nearest integer of the
    measurement, and within 5 % (of itself) of the measurement. -/
theorem lt_snap_spec (m r : ℚ) (h : validateLt m = some r) :
    ∃ k : ℤ, r = (k : ℚ) ∧ 0 ≤ k ∧ |m - (k : ℚ)| ≤ 1 / 2 ∧ |m - (k : ℚ)| ≤ 1 / 20 * (k : ℚ) :=
  validateLt_sound m r h

/-- completeness (∀ m, k): within 5 % of an integer ⇒ recorded.  Stated with `<` as the oracle `ltOk` has it,
    which leaves the edge open; the model accepts the edge as well. -/
theorem lt_snap_complete (m : ℚ) (k : ℤ) (h : |m - (k : ℚ)| < 1 / 20 * (k : ℚ)) :
    ∃ r, validateLt m = some r :=
  Option.isSome_iff_exists.mp (validateLt_complete m k h.le)

/-- **reject_spec, latency** (∀ m): not within 5 % of any integer ⇒ nothing is recorded -/
theorem lt_reject_spec (m : ℚ) (h : ∀ k : ℤ, 1 / 20 * (k : ℚ) < |m - (k : ℚ)|) : validateLt m = none := by
  cases hv : validateLt m with
  | none => rfl
  | some r =>
    obtain ⟨k, _, _, _, hk⟩ := validateLt_sound m r hv
    exact absurd hk (not_le.mpr (h k))

example : validateLt (4013 / 1000) = some 4 ∧ validateLt (25 / 2) = some 12 ∧ validateLt (27 / 2) = some 14 ∧
    validateLt (5 / 2) = none ∧ validateLt (106 / 100) = none ∧ validateLt (105 / 100) = some 1 ∧
    validateLt 0 = some 0 ∧ validateLt (-1) = none := by decide +kernel
example : ∃ m : ℚ, ∀ k : ℤ, 1 / 20 * (k : ℚ) < |m - (k : ℚ)| :=
  ⟨5 / 2, fun k => not_le.mp fun h => absurd (validateLt_complete _ k h) (by decide +kernel)⟩

/-! ## 3. The executable oracle (`Spec.Import.tpOk` / `ltOk`) accepts the model, for all m -/

theorem absQ_eq_abs (q : ℚ) : absQ q = |q| := by
  unfold absQ
  split
  · rw [abs_of_neg ‹_›]
  · rw [abs_of_nonneg (not_lt.mp ‹_›)]

theorem round5_table : ∀ n ∈ reciprocals, isRound5 (1 / (n : ℚ)) (roundDigitsHE roundDigits (1 / (n : ℚ))) = true := by
  decide +kernel

/-- the oracle the search evaluates on the implementation's outputs accepts every model output -/
theorem tp_meets_oracle (m : ℚ) : tpOk m (validateTp m) = true := by
  cases hv : validateTp m with
  | none =>
    simp only [tpOk, List.all_eq_true, List.mem_range, Bool.not_eq_true', decide_eq_false_iff_not, absQ_eq_abs]
    intro i hi
    have := (tp_reject_spec m).mp hv (i + 1) (by omega) (by omega)
    exact not_lt.mpr this.le
  | some r =>
    obtain ⟨n, h1, h10, hw, hr⟩ := (validateTp_some_iff m r).mp hv
    simp only [tpOk, List.any_eq_true, List.mem_range, Bool.and_eq_true, decide_eq_true_eq, absQ_eq_abs]
    refine ⟨n - 1, by omega, ?_⟩
    have e : n - 1 + 1 = n := by omega
    rw [e]
    exact ⟨hr ▸ round5_table n ((mem_reciprocals n).mpr ⟨h1, h10⟩), (inTpWindow_iff m n).mp hw⟩

theorem lt_meets_oracle (m : ℚ) : ltOk m (validateLt m) = true := by
  cases hv : validateLt m with
  | none =>
    simp only [ltOk, List.all_eq_true, List.mem_range, Bool.not_eq_true', decide_eq_false_iff_not, absQ_eq_abs]
    intro k _ hlt
    have := validateLt_complete m (k : ℤ) (by rw [Int.cast_natCast, one_div_mul_eq_div]; exact hlt.le)
    rw [hv] at this; cases this
  | some r =>
    obtain ⟨k, hr, _, h1, h2⟩ := validateLt_sound m r hv
    subst hr
    simp only [ltOk, Bool.and_eq_true, beq_iff_eq, decide_eq_true_eq, absQ_eq_abs]
    rw [one_div_mul_eq_div] at h2
    exact ⟨⟨Rat.den_intCast k, h1⟩, h2⟩

example : tpOk (1 / 2) (some 1) = false ∧ tpOk (1 / 2) none = false ∧ tpOk (21 / 40) none = true ∧
    tpOk (21 / 40) (some (1 / 2)) = true ∧ ltOk (5 / 2) (some 2) = false ∧ ltOk 4 none = false ∧
    ltOk (21 / 20) none = true ∧ ltOk (21 / 20) (some 1) = true := by decide +kernel

/-! ## 4. Operand codes: the documented convention -/

/-- **decode_table** (x86): every documented code decodes to the documented operand -/
theorem decode_table_x86 (code : Txt) (d : Dict) (h : docX86 code = some d) : createDbOperand .x86 code = some d := by
  revert h
  refine of_ite_some (by decide +kernel) ?_
  refine of_ite_some (by decide +kernel) ?_
  refine of_ite_some (by decide +kernel) ?_
  refine of_ite_some (by decide +kernel) ?_
  refine of_ite_some (by decide +kernel) ?_
  intro h
  split at h
  · split at h
    · injection h with h; subst h; exact decode_x86_mem _
    · cases h
  · cases h

/-- **decode_table** (AArch64) -/
theorem decode_table_a64 (code : Txt) (d : Dict) (h : docA64 code = some d) : createDbOperand .a64 code = some d := by
  revert h
  refine of_ite_some (by decide +kernel) fun h => ?_
  split at h
  · split at h
    · injection h with h; subst h; exact decode_a64_mem _
    · cases h
  · injection h with h; subst h; decide +kernel
  · split at h
    · rename_i hl
      injection h with h; subst h
      exact decode_a64_vec _ (List.contains_iff_mem.mp hl)
    · cases h
  · split at h
    · rename_i hc
      injection h with h; subst h
      exact decode_a64_reg _ (List.contains_iff_mem.mp hc)
    · cases h
  · cases h

/-- memory codes, ∀ flag strings (any letters, order, multiplicity): exactly the flags present -/
theorem decode_mem_flags_x86 (fl : Txt) :
    createDbOperand .x86 (109 :: fl) =
      some [(t "class", .s (t "memory")), (t "base", optS (fl.contains 98) "gpr"),
            (t "offset", optS (fl.contains 111) "imd"), (t "index", optS (fl.contains 105) "gpr"),
            (t "scale", .n (if fl.contains 115 then 8 else 1))] := decode_x86_mem fl

theorem decode_mem_flags_a64 (fl : Txt) :
    createDbOperand .a64 (109 :: fl) =
      some [(t "class", .s (t "memory")), (t "base", optS (fl.contains 98) "x"),
            (t "offset", optS (fl.contains 111) "imd"), (t "index", optS (fl.contains 105) "gpr"),
            (t "scale", .n (if fl.contains 115 then 8 else 1)),
            (t "pre_indexed", .b (fl.contains 114)), (t "post_indexed", .b (fl.contains 112))] := decode_a64_mem fl

example : (docX86 (t "mbois")).isSome ∧ (docX86 (t "r")).isSome ∧ (docX86 (t "z")).isSome ∧ (docX86 (t "q")).isNone ∧
    (docA64 (t "vs")).isSome ∧ (docA64 (t "v")).isSome ∧ (docA64 (t "mboisrp")).isSome ∧ (docA64 (t "q")).isSome ∧
    (docA64 (t "vq")).isNone ∧ (docA64 (t "k")).isNone := by decide +kernel
example : createDbOperand .a64 (t "mbop") =
    some [(t "class", .s (t "memory")), (t "base", .s (t "x")), (t "offset", .s (t "imd")), (t "index", .none),
          (t "scale", .n 1), (t "pre_indexed", .b false), (t "post_indexed", .b true)] := by
  -- here and in the examples below the literals are opened before the kernel evaluates (see `ofString_ofList`)
  simp only [t]
  repeat rw [ofString_ofList]
  decide +kernel

/-! ## 5. ibench: TP and LT lines of one form are merged into one entry -/

/-- ∀ names, whatever the mnemonic contains: `NAME-TP` is a throughput line and
    not a latency line, `NAME-LT` is a latency line and not a throughput line. -/
theorem dispatch_spec (l : ILine) (k : Txt) :
    (l.instr = k ++ t "-TP" → isTP l = true ∧ isLT l = false) ∧
    (l.instr = k ++ t "-LT" → isTP l = false ∧ isLT l = true) := by
  have e1 : t "-TP" = ibTpTag := by decide +kernel
  have e2 : t "-LT" = ibLtTag := by decide +kernel
  constructor
  · intro h
    have : isTP l = true := by unfold isTP; rw [h, e1]; exact hasTag_tp k
    exact ⟨this, by simp [isLT, this]⟩
  · intro h
    have h1 : isTP l = false := by unfold isTP; rw [h, e2]; exact hasTag_tp_on_lt k
    have h2 : hasTag ibLtTag l.instr = true := by rw [h, e2]; exact hasTag_lt k
    exact ⟨h1, by simp [isLT, h1, h2]⟩

/-- the TP line and the LT line of `MNEMONIC-OPERANDS` have the same key, `MNEMONIC-OPERANDS` -/
theorem key_spec (mn ops : Txt) (h1 : 45 ∉ mn) (h2 : 45 ∉ ops) :
    keyOf (mn ++ 45 :: (ops ++ t "-TP")) = mn ++ 45 :: ops ∧ keyOf (mn ++ 45 :: (ops ++ t "-LT")) = mn ++ 45 :: ops := by
  have e1 : t "-TP" = 45 :: [84, 80] := by decide +kernel
  have e2 : t "-LT" = 45 :: [76, 84] := by decide +kernel
  rw [e1, e2]
  exact ⟨keyOf_form mn ops _ h1 h2, keyOf_form mn ops _ h1 h2⟩

/-- value taken from the LAST line satisfying `p`; `none` if there is none -/
def lastOf (p : ILine → Bool) (v : ILine → Option Rat) (ls : List ILine) : Option Rat :=
  ((ls.filter p).getLast?).bind v

theorem afterG_none (p v) (ls : List ILine) : afterG p v none ls = lastOf p v ls := by
  unfold afterG lastOf
  cases (ls.filter p).getLast? <;> rfl

/-- ∀ ISA, ∀ sequences of lines in any interleaving, of any length: if the
    import does not raise, there is exactly one entry per key, the keys are those of the
    non-skipped lines, and the entry of key `k` carries the validated measurement of the LAST
    throughput line of `k` (`none` if there is none or it was rejected), the validated measurement
    of the LAST latency line of `k`, and the mnemonic / decoded operands of a line of `k`. -/
theorem ibench_merge (isa : Isa) (ls : List ILine) (acc : Acc) (h : run isa ls [] = .ok acc) :
    (keys acc).Nodup ∧
    (∀ k, k ∈ keys acc ↔ ∃ l ∈ ls, l.skip = false ∧ keyL l = k) ∧
    (∀ k e, (k, e) ∈ acc →
      e.tp = lastOf (relTP k) valTp ls ∧ e.lt = lastOf (relLT k) valLt ls ∧
      ∃ l ∈ ls, l.skip = false ∧ keyL l = k ∧ ∃ e0, newEntry isa l.instr = .ok e0 ∧
        e.mnemonic = e0.mnemonic ∧ e.operands = e0.operands) := by
  have hnd : (keys acc).Nodup := run_nodup isa ls [] acc h (by simp [keys])
  have hev := run_evolves isa ls [] acc h
  refine ⟨hnd, ?_, ?_⟩
  · intro k
    have := (hev k).2 rfl
    constructor
    · intro hk
      rw [← lookup_isSome_iff] at hk
      rcases this with ⟨hn, _⟩ | ⟨e', _, _, _, l, hl, a, b, _⟩
      · rw [hn] at hk; cases hk
      · exact ⟨l, hl, a, b⟩
    · rintro ⟨l, hl, a, b⟩
      rcases this with ⟨_, hall⟩ | ⟨e', he', _⟩
      · rcases hall l hl with c | c
        · rw [a] at c; cases c
        · exact absurd b c
      · rw [← lookup_isSome_iff, he']; rfl
  · intro k e hmem
    have hl : lookup k acc = some e := (mem_iff_lookup acc hnd k e).mp hmem
    rcases (hev k).2 rfl with ⟨hn, _⟩ | ⟨e', he', a, b, c⟩
    · rw [hn] at hl; cases hl
    · rw [hl] at he'; injection he' with he'; subst he'
      exact ⟨by rw [a, afterG_none], by rw [b, afterG_none], c⟩

/-- for the text of the file (`ibench` is `run` on what `viewLine` reads off each line): distinct keys and the
    two measurements of `ibench_merge` -/
theorem ibench_merge_text (isa : Isa) (lines : List Txt) (acc : Acc) (h : ibench isa lines = .ok acc) :
    (keys acc).Nodup ∧
    (∀ k e, (k, e) ∈ acc →
      e.tp = lastOf (relTP k) valTp (lines.map viewLine) ∧ e.lt = lastOf (relLT k) valLt (lines.map viewLine)) := by
  have := ibench_merge isa (lines.map viewLine) acc h
  exact ⟨this.1, fun k e hm => ⟨(this.2.2 k e hm).1, (this.2.2 k e hm).2.1⟩⟩

-- non-vacuity: interleaved TP/LT lines of two forms, a repeated TP line (the last one wins),
-- a mnemonic containing "TP", a rejected measurement
example :
    ibench .x86 ([ "Using frequency 2.50GHz.\n", "CVTPD2PS-x_x-LT: 4.013 (clock cycles)\n",
                   "vaddpd-x_x_x-TP: 0.95 (c)\n", "CVTPD2PS-x_x-TP: 0.501 (clock cycles)\n",
                   "vaddpd-x_x_x-TP: 0.334 (c)\n", "vaddpd-x_x_x-LT: 2.5 (c)\n"].map ofString) =
      .ok [ (t "CVTPD2PS-x_x", { mnemonic := t "CVTPD2PS", operands := [reg "name" "xmm", reg "name" "xmm"],
                                  tp := some (1 / 2), lt := some 4 }),
            (t "vaddpd-x_x_x", { mnemonic := t "vaddpd", operands := [reg "name" "xmm", reg "name" "xmm", reg "name" "xmm"],
                                  tp := some (33333 / 100000), lt := none }) ] := by
  simp only [List.map, t, reg]
  repeat rw [ofString_ofList]
  decide +kernel

/-! ## 6. asmbench: a malformed block stops the import there, earlier entries are unaffected -/

/-- ∀ ISA, ∀ well-shaped blocks `bs`, ∀ continuation `rest` that starts with a
    malformed block — fewer than four lines left, or a non-blank fourth line — or is empty:
    the result is exactly the entries of `bs`, in order. -/
theorem asmbench_prefix (isa : Isa) (bs : List (List Txt)) (rest : List Txt)
    (hg : ∀ b ∈ bs, GoodShape b) (hb : BadStart rest) :
    asmbench isa (bs.flatten ++ rest) = foldBlocks isa bs [] :=
  asmGo_blocks isa bs rest [] _ (Nat.le_refl _) hg hb

/-- … in particular whatever follows the malformed block does not matter -/
theorem asmbench_stop_unaffected (isa : Isa) (bs : List (List Txt)) (rest : List Txt)
    (hg : ∀ b ∈ bs, GoodShape b) (hb : BadStart rest) :
    asmbench isa (bs.flatten ++ rest) = asmbench isa bs.flatten := by
  rw [asmbench_prefix isa bs rest hg hb]
  have := asmbench_prefix isa bs [] hg (Or.inl (by simp [abBlank]))
  rw [List.append_nil] at this
  exact this.symm

/-- what a block contributes: name line stripped, third line = throughput, second line = latency.  The offsets
    are written as numbers, the documented layout, not as `abName` …: a changed offset in the source breaks this. -/
theorem block_entry_spec (isa : Isa) (b : List Txt) (k : Txt) (e : Entry) (h : blockEntry isa b = .ok (k, e)) :
    k = strip (b.getD 0 []) ∧
    (∃ m, measurement 1 (b.getD 2 []) = .ok m ∧ e.tp = validateTp m) ∧
    (∃ m, measurement 1 (b.getD 1 []) = .ok m ∧ e.lt = validateLt m) := by
  obtain ⟨e0, tp, lt, _, htp, hlt, rfl, rfl⟩ := blockEntry_ok h
  exact ⟨rfl, ⟨tp, htp, rfl⟩, ⟨lt, hlt, rfl⟩⟩

-- non-vacuity: two good blocks, then a block without its blank line, then garbage; and a
-- truncated last block (an `IndexError` without the length guard)
example :
    asmbench .a64 (["fadd-vd_vd_v\n", "Latency: 4.013 cy\n", "Throughput: 0.501 cy\n", "\n",
                    "ldp-d_d_mo\n", "Latency: 3.9 cy\n", "Throughput: 0.98 cy\n", "  \n",
                    "fmov-s_i\n", "Latency: 1.0 cy\n", "Throughput: 0.25 cy\n", "garbage\n", "x\n"].map ofString) =
    asmbench .a64 (["fadd-vd_vd_v\n", "Latency: 4.013 cy\n", "Throughput: 0.501 cy\n", "\n",
                    "ldp-d_d_mo\n", "Latency: 3.9 cy\n", "Throughput: 0.98 cy\n", "  \n"].map ofString) ∧
    (asmbench .a64 (["fadd-vd_vd_v\n", "Latency: 4.013 cy\n", "Throughput: 0.501 cy\n", "\n",
                     "ldp-d_d_mo\n", "Latency: 3.9 cy\n", "Throughput: 0.98 cy\n"].map ofString)).toOption.map List.length
      = some 1 := by
  simp only [List.map]
  repeat rw [ofString_ofList]
  decide +kernel
example : GoodShape (["fadd-vd_vd_v\n", "Latency: 4.013 cy\n", "Throughput: 0.501 cy\n", " \n"].map ofString) ∧
    BadStart (["fmov-s_i\n", "Latency: 1.0 cy\n", "Throughput: 0.25 cy\n"].map ofString) ∧
    BadStart (["fmov-s_i\n", "Latency: 1.0 cy\n", "Throughput: 0.25 cy\n", "next-x\n"].map ofString) := by
  refine ⟨⟨by decide +kernel, by decide +kernel⟩, Or.inl (by decide +kernel), Or.inr (by decide +kernel)⟩

/-! ## 7. Every imported form is emitted — where it is true, and where it is not (D11) -/

/-- AArch64 (∀ files, ∀ target models): whatever the import parsed is appended to the emitted list,
    every form, in order. -/
theorem import_emits_all_a64 (asm : Bool) (existing : List (Txt × Nat)) (lines : List Txt) (acc : Acc)
    (h : (if asm then asmbench .a64 lines else ibench .a64 lines) = .ok acc) :
    importBench .a64 asm existing lines = .ok (acc.map (·.2)) := by
  have hne : ∀ p ∈ acc, p.2.operands ≠ [] := by
    cases asm with
    | true => exact asmGo_operands_ne .a64 _ lines [] acc h (by simp)
    | false => exact run_operands_ne .a64 _ [] acc h (by simp)
  unfold importBench
  rw [h]
  simp only [Res.map, dumpAdded]
  have := (insertAll_a64 (acc.map (·.2)) { existing := existing, added := [] }
    (by intro e he; obtain ⟨p, hp, rfl⟩ := List.mem_map.mp he; exact hne p hp))
  rw [this]
  simp [List.map_map, Function.comp_def]

/- TODO-FULL (the property's "every imported form appears", for every ISA; FALSE of the current code on
   x86, see `d11_existing_form_swallows_import` and known finding D11-x86-same-mnemonic-arity):

   theorem import_emits_all (isa : Isa) (st : MState) (es : List Entry) :
       dumpAdded (insertAll isa st es) = dumpAdded st ++ es

   Proved below: the AArch64 instance without hypothesis (`import_emits_all_a64`) and, for any ISA, the
   statement under the no-collision hypothesis (`import_emits_all_partial`).  Missing: x86 when another
   form with the same upper-cased mnemonic and operand count is in the target model or earlier in the
   import. -/

/-- Any ISA (∀ entries, ∀ target models): if no imported form has the upper-cased mnemonic and
    operand count of a form of the target model or of an earlier imported form (as written), all
    are emitted, in order.  Without the hypothesis it is false on x86
    (`d11_existing_form_swallows_import`); the comment above says what is missing. -/
theorem import_emits_all_partial (isa : Isa) (st : MState) (es : List Entry)
    (h1 : ∀ e ∈ es, ∀ x ∈ st.existing, ¬ Collide x.1 x.2 e)
    (h2 : ∀ e ∈ es, ∀ y ∈ st.added, ¬ Collide y.1 y.2.operands.length e)
    (h3 : es.Pairwise (fun e1 e2 => ¬ Collide e1.mnemonic e1.operands.length e2)) :
    dumpAdded (insertAll isa st es) = dumpAdded st ++ es := by
  unfold dumpAdded
  rw [insertAll_no_collision isa es st h1 h2 h3]
  simp [List.map_map, Function.comp_def]

/-- **D11** (∀ target models, ∀ entries): on x86 an imported form whose upper-cased mnemonic and
    operand count exist in the target model leaves the emitted state untouched — it is not
    emitted. -/
theorem d11_existing_form_swallows_import (st : MState) (e : Entry)
    (h : ∃ x ∈ st.existing, x.1 = upper e.mnemonic ∧ x.2 = e.operands.length) :
    dumpAdded (insert .x86 st e) = dumpAdded st := by
  rw [insert_x86_existing_invisible st e h]

-- witnesses: the same file on the two ISAs' rules; an existing form and an earlier imported form
example :
    (importBench .x86 false [(t "VADDPD", 3)] (["vaddpd-x_x_x-TP: 0.5\n", "FOO-x_x-TP: 0.5\n", "FOO-y_y-TP: 1.0\n"].map ofString)).toOption.map
      (fun es => es.map (·.operands.length)) = some [2] ∧
    (importBench .a64 false [(t "FADD", 3)] (["fadd-d_d_d-TP: 0.5\n", "FOO-d_d-TP: 0.5\n", "FOO-s_s-TP: 1.0\n"].map ofString)).toOption.map
      (fun es => es.map (·.operands.length)) = some [3, 2, 2] := by
  simp only [List.map, t]
  repeat rw [ofString_ofList]
  decide +kernel

end OsacaVerif.Props.C20
