import OsacaVerif.Lemmas.EndToEndOpt
import OsacaVerif.Props.EndToEnd
import OsacaVerif.Props.EndToEndA64
import OsacaVerif.Props.C02Duality
/-
  End to end under the DEFAULT (optimal) scheduling: `osaca` without `--fixed`.

  `ArchSemantics.assign_optimal_throughput` (called twice by `osaca.inspect`) is modelled relationally (C01 / C02:
  any sequence of guarded 0.01-cycle moves).  `EndToEnd.analyseWith isa m o file P` is the whole analysis from
  the file text to the report with the per-line pressure vectors `P` supplied; `EndToEnd.OptimalOutcome` is the
  relation "admissible report of the file under optimal scheduling" (`P` feasible per instruction line for that
  line's micro-ops within `INC / 2` per micro-op — the bound `Props.C01.steps_feasible` proves).

  * `opt_factors`, `opt_fixed`, `opt_factors_ok` — `analyseWith … P` is `analyse` with the pressure cells of the
    lines replaced; `--fixed` is the instance `P = uniformP`;
  * `opt_invariant_part` — for EVERY `P` everything but the pressure cells and the port totals is that of the
    `--fixed` run: outcome kind, parsed file, kernel, rows (latency, latency without load, throughput), edges,
    critical path, LCD dictionary / figure / marks, report rows (flags, used ports, texts), CP and LCD columns;
  * `opt_uniform_admissible` — the uniform pressures are admissible with slack 0: the relation contains the
    `--fixed` report;
  * `opt_totals_feasible`, `opt_bottleneck_ge_optimum` — for admissible `P` the port totals are a feasible
    fractional schedule of all summed micro-ops within Σ εᵢ, so the reported bottleneck is ≥ optimum − Σ εᵢ
    (− half a cent of rounding);
  * `opt_report_roundtrip` — the report of `analyseWith … P` reads back to its view.

  For ALL files, models, ISA databases, options and pressure assignments.
-/
namespace OsacaVerif.Props.EndToEndOpt
open OsacaVerif OsacaVerif.Text OsacaVerif.EndToEnd OsacaVerif.Pipeline OsacaVerif.Ports OsacaVerif.Spec
open OsacaVerif.Props.EndToEnd

/-! ### 0. `analyseWith` is `analyse` with the pressure cells replaced -/

/-- **opt_factors**: the outcome of `analyseWith … P` is the outcome of the `--fixed` analysis — the same parse
    error, exception, selection failure — and an analysis is the analysis of the SAME kernel lines with their
    pressure vectors replaced (`setPressure P`), then the same graph / critical path / LCD / column sums / report -/
theorem opt_factors (isa : Operand.Isa) (m : Model) (o : Opts) (file : Txt) (P : Pressures) :
    analyseWith isa m o file P =
      match analyse isa m o file with
      | .ok r => .ok (resultOf m o (r.parsed.map (setPressure P)) (r.kernel.map (setPressure P))
                        (analyze (EndToEnd.cfgOf isa m o) (r.kernel.map (setPressure P))))
      | .parseError n e => .parseError n e
      | .semError n e => .semError n e
      | .badIsa => .badIsa
      | .raised => .raised
      | .badLines => .badLines
      | .emptyKernel => .emptyKernel := by
  unfold analyseWith analyse
  cases collect (parseFileOf isa file) with
  | error ne => rfl
  | ok fs => exact assemble_withPressure isa m o _ P

/-- **`--fixed` is the instance `P = uniformP`** -/
theorem opt_fixed (isa : Operand.Isa) (m : Model) (o : Opts) (file : Txt) :
    analyseWith isa m o file uniformP = analyse isa m o file := by
  unfold analyseWith analyse
  rw [show withPressure uniformP = id from funext fun _ => rfl]
  simp only [List.map_id]

theorem analyse_ok_resultOf (isa : Operand.Isa) (m : Model) (o : Opts) (file : Txt) (r : Result)
    (h : analyse isa m o file = .ok r) :
    r = resultOf m o r.parsed r.kernel (analyze (EndToEnd.cfgOf isa m o) r.kernel) :=
  (analyse_analysed isa m o file r h).eq_resultOf

/-- an analysis under `P`: the kernel of the `--fixed` run with replaced pressures; graph, critical path and LCD of
    the `--fixed` run; rows and column sums recomputed; the report and the text rendered from them with the same
    warning flags -/
theorem opt_factors_ok (isa : Operand.Isa) (m : Model) (o : Opts) (file : Txt) (P : Pressures) (r' : Result)
    (h : analyseWith isa m o file P = .ok r') :
    ∃ r, analyse isa m o file = .ok r ∧
      r'.parsed = r.parsed.map (setPressure P) ∧ r'.kernel = r.kernel.map (setPressure P) ∧
      r'.analysis = analyze (EndToEnd.cfgOf isa m o) r'.kernel ∧
      r'.analysis = { r.analysis with
                      rows := r'.kernel.map (rowOf m.mm.ports.length)
                      colSums := Ports.colSums Gen.tpSumSkipValue Gen.tpSumDigits (r'.kernel.map (toPorts m.mm.ports.length)) } ∧
      r'.report = toReport o.repr m.mm.ports o.ignoreUnknown m.mm.ports.length r'.kernel r'.analysis ∧
      r'.text = Report.fullAnalysis o.version o.file o.arch o.stamp (Report.archWarningFlag o.archGiven)
        (Report.lengthWarningFlag (linesGiven o.mode) r.kernel.length r.parsed.length) false r'.report := by
  rw [opt_factors] at h
  cases hr : analyse isa m o file with
  | ok r =>
    rw [hr] at h
    cases h
    have ha := (analyse_analysed isa m o file r hr).analysis
    -- `rfl` for the fields that mention `analyze` would unfold it: `resultOf` is unfolded first
    refine ⟨r, rfl, rfl, rfl, by simp only [resultOf], ?_, by simp only [resultOf], ?_⟩
    · rw [ha]
      exact analyze_setPressure P (EndToEnd.cfgOf isa m o) r.kernel
    · simp only [resultOf, List.length_map]
  | _ => rw [hr] at h; cases h

/-! ### 1. everything but the pressure cells and the port totals is that of the `--fixed` run -/

/-- a line without its pressure vector -/
def erasePL (l : PLine) : PLine := { l with sem := { l.sem with pressure := [] } }
def eraseRow (r : Row) : Row := { r with pressure := [] }
/-- an analysis without the pressure cells of its rows and without the port totals -/
def eraseAnalysis (a : Analysis) : Analysis := { a with rows := a.rows.map eraseRow, colSums := [] }
/-- the record the report is rendered from, without pressure cells and totals -/
def eraseReport (r : Report.Analysis) : Report.Analysis :=
  { r with rows := r.rows.map (fun x => { x with press := [] }), tpSum := [] }
/-- a result without pressure cells, totals and the rendered text (which shows them; it is a function of the
    report record and the options, `opt_factors_ok`) -/
def eraseResult (r : Result) : Result :=
  { parsed := r.parsed.map erasePL, kernel := r.kernel.map erasePL, analysis := eraseAnalysis r.analysis,
    report := eraseReport r.report, text := [] }
def eraseOutcome : EndToEnd.Outcome → EndToEnd.Outcome
  | .ok r => .ok (eraseResult r)
  | x => x

theorem erasePL_setPressure (P : Pressures) (l : PLine) : erasePL (setPressure P l) = erasePL l := by
  unfold setPressure
  cases P l.num <;> rfl

theorem eraseRow_setPressure (P : Pressures) (n : Nat) (l : PLine) :
    eraseRow (rowOf n (setPressure P l)) = eraseRow (rowOf n l) := by
  unfold rowOf eraseRow
  rw [semOf_setPressure_eq, setPressure_num, setPressure_isInstr]

theorem eraseReport_setPressure (P : Pressures) (repr : Rat → Txt) (ports : List Txt) (iu : Bool) (n : Nat)
    (k : List PLine) (a a' : Analysis) (h1 : a'.cpMarks = a.cpMarks) (h2 : a'.lcdDict = a.lcdDict) :
    eraseReport (toReport repr ports iu n (k.map (setPressure P)) a') = eraseReport (toReport repr ports iu n k a) := by
  simp only [toReport, eraseReport, h1, h2, List.map_map, textOf_setPressure]
  congr 1
  apply List.map_congr_left
  intro l _
  simp only [Function.comp_def, setPressure_isInstr, setPressure_num, setPressure_text]
  rw [semOf_setPressure_eq]

/-- **opt_invariant_part** (∀ files, models, options, ∀ pressure assignments `P` — admissible or not): the run under
    `P` and the `--fixed` run have the same outcome kind, and an analysis differs at most in the pressure cells and
    the port totals: the parsed file, the selected kernel, every row's latency / latency without load / throughput,
    the dependency edges with their weights, critical path total and marks, the LCD entries, dictionary, figure and
    marks, and of the report the rows (line, used ports, flags, text), the CP and LCD columns and the CP sum are
    equal.  The balancer cannot change anything else. -/
theorem opt_invariant_part (isa : Operand.Isa) (m : Model) (o : Opts) (file : Txt) (P : Pressures) :
    eraseOutcome (analyseWith isa m o file P) = eraseOutcome (analyse isa m o file) := by
  rw [opt_factors]
  cases hr : analyse isa m o file with
  | ok r =>
    simp only [eraseOutcome, EndToEnd.Outcome.ok.injEq]
    have hres := analyse_ok_resultOf isa m o file r hr
    conv_rhs => rw [hres]
    have ha := analyze_setPressure P (EndToEnd.cfgOf isa m o) r.kernel
    simp only [eraseResult, resultOf, Result.mk.injEq, List.map_map]
    refine ⟨?_, ?_, ?_, ?_, trivial⟩
    · apply List.map_congr_left; intro l _; exact erasePL_setPressure P l
    · apply List.map_congr_left; intro l _; exact erasePL_setPressure P l
    · rw [ha]
      simp only [eraseAnalysis, analyze, analyzeCore, List.map_map]
      congr 1
      apply List.map_congr_left; intro l _; exact eraseRow_setPressure P _ l
    · apply eraseReport_setPressure <;> rw [ha]
  | _ => rfl

/-- the named parts, for an analysis under `P` next to the `--fixed` analysis -/
theorem opt_invariant_values (isa : Operand.Isa) (m : Model) (o : Opts) (file : Txt) (P : Pressures) (r r' : Result)
    (h : analyse isa m o file = .ok r) (h' : analyseWith isa m o file P = .ok r') :
    r'.kernel.map (·.num) = r.kernel.map (·.num) ∧
    r'.analysis.rows.map (fun x => (x.line, x.instr, x.lat, x.latWoLoad, x.tp)) =
      r.analysis.rows.map (fun x => (x.line, x.instr, x.lat, x.latWoLoad, x.tp)) ∧
    r'.analysis.edges = r.analysis.edges ∧ r'.analysis.cpTotal = r.analysis.cpTotal ∧
    r'.analysis.cpMarks = r.analysis.cpMarks ∧ r'.analysis.lcd = r.analysis.lcd ∧
    r'.analysis.lcdDict = r.analysis.lcdDict ∧ r'.analysis.lcdFigure = r.analysis.lcdFigure ∧
    r'.analysis.lcdMarks = r.analysis.lcdMarks ∧
    r'.report.rows.map (fun x => (x.line, x.used, x.hasMnemonic, x.flags, x.text)) =
      r.report.rows.map (fun x => (x.line, x.used, x.hasMnemonic, x.flags, x.text)) ∧
    r'.report.cp = r.report.cp ∧ r'.report.cpSum = r.report.cpSum ∧ r'.report.deps = r.report.deps ∧
    r'.report.ports = r.report.ports ∧ r'.report.ignoreUnknown = r.report.ignoreUnknown := by
  have e := opt_invariant_part isa m o file P
  rw [h, h'] at e
  injection e with e
  injection e with _ ek ea er
  -- the erasures map over the rows; the functions read off below do not see what is erased (closed by unfolding)
  have hk := congrArg (List.map PLine.num) ek
  have ha := congrArg (fun a : Analysis => a.rows.map (fun x => (x.line, x.instr, x.lat, x.latWoLoad, x.tp))) ea
  have hr := congrArg (fun a : Report.Analysis => a.rows.map (fun x => (x.line, x.used, x.hasMnemonic, x.flags, x.text))) er
  simp only [List.map_map] at hk
  simp only [eraseAnalysis, eraseReport, List.map_map] at ha hr
  exact ⟨hk, ha, (congrArg Analysis.edges ea :), (congrArg Analysis.cpTotal ea :), (congrArg Analysis.cpMarks ea :),
    (congrArg Analysis.lcd ea :), (congrArg Analysis.lcdDict ea :), (congrArg Analysis.lcdFigure ea :),
    (congrArg Analysis.lcdMarks ea :), hr, (congrArg Report.Analysis.cp er :), (congrArg Report.Analysis.cpSum er :),
    (congrArg Report.Analysis.deps er :), (congrArg Report.Analysis.ports er :),
    (congrArg Report.Analysis.ignoreUnknown er :)⟩

/-! ### 2. the uniform pressures are admissible -/

theorem kernel_line (isa : Operand.Isa) (m : Model) (o : Opts) (file : Txt) (r : Result) (h : analyse isa m o file = .ok r)
    (l : PLine) (hl : l ∈ r.kernel) :
    l = (lineOfText isa m l.num l.text).pl ∧ (lineOfText isa m l.num l.text).err = none := by
  obtain ⟨t, _, e, herr⟩ := kernel_line_of_file isa m o file r h l hl
  have : l.text = t := by rw [e, lineOfText_pl_text]
  rw [this]
  exact ⟨e, herr⟩

/-- the pressure vector of an instruction line of the file is the uniform split of the line's micro-ops
    (`Compose.assignTpLt_uniform` through the per-line composition) -/
theorem lineOfText_pressure (isa : Operand.Isa) (m : Model) (n : Nat) (t : Txt)
    (herr : (lineOfText isa m n t).err = none) (hi : (lineOfText isa m n t).pl.isInstr = true) :
    (lineOfText isa m n t).pl.sem.pressure = uniform m.mm.ports.length (uopsOfText isa m t) := by
  unfold uopsOfText
  cases hp : parseLineOf isa t with
  | err e => simp [lineOfText, hp, PLine.isInstr] at hi
  | ok f =>
    obtain ⟨s, tp, e, ht, _, _, _, hpr, _⟩ := lineOfText_ok_inv hp m n herr
    rw [e]
    exact hpr.trans (Compose.assignTpLt_uniform m.mm _ tp ht)

theorem kernel_pressure_uniform (isa : Operand.Isa) (m : Model) (o : Opts) (file : Txt) (r : Result)
    (h : analyse isa m o file = .ok r) (l : PLine) (hl : l ∈ r.kernel) (hi : l.isInstr = true) :
    l.sem.pressure = uniform m.mm.ports.length (uopsOfText isa m l.text) := by
  obtain ⟨e, herr⟩ := kernel_line isa m o file r h l hl
  have hi' : (lineOfText isa m l.num l.text).pl.isInstr = true := by rw [← e]; exact hi
  have := lineOfText_pressure isa m l.num l.text herr hi'
  rw [← e] at this
  exact this

theorem kernelOf_some (isa : Operand.Isa) (m : Model) (o : Opts) (file : Txt) (k : List PLine)
    (hk : kernelOf isa m o file = some k) : ∃ r, analyse isa m o file = .ok r ∧ r.kernel = k := by
  unfold kernelOf at hk
  split at hk
  next r hr => exact ⟨r, hr, Option.some.inj hk⟩
  next => cases hk

theorem slackOf_nonneg (us : List Uop) : 0 ≤ slackOf us :=
  mul_nonneg (by decide +kernel) us.length.cast_nonneg

/-- **the uniform pressure of every kernel line is exactly feasible** (ε = 0) for the line's micro-ops, provided
    these are well-formed (non-negative cycles and multipliers, non-empty port sets inside the port list) -/
theorem opt_uniform_feasible (isa : Operand.Isa) (m : Model) (o : Opts) (file : Txt) (r : Result)
    (h : analyse isa m o file = .ok r) (l : PLine) (hl : l ∈ r.kernel) (hi : l.isInstr = true)
    (hw : WFUops m.mm.ports.length (uopsOfText isa m l.text)) :
    Feasible 0 m.mm.ports.length (uopsOfText isa m l.text) l.sem.pressure := by
  rw [kernel_pressure_uniform isa m o file r h l hl hi]
  exact Spec.uniform_feasible _ _ hw

/-- **opt_uniform_admissible** (∀ files, models, options): the pressures of the `--fixed` run are admissible — with
    slack 0 — so the relation `OptimalOutcome` is not empty and contains the `--fixed` outcome.  Hypothesis: the
    micro-ops of the kernel's instruction lines are well-formed (`Spec.WFUops`; a property of the model's data,
    C15). -/
theorem opt_uniform_admissible (isa : Operand.Isa) (m : Model) (o : Opts) (file : Txt)
    (hw : ∀ k, kernelOf isa m o file = some k → ∀ l ∈ k, l.isInstr = true →
      WFUops m.mm.ports.length (uopsOfText isa m l.text)) :
    (∀ k, kernelOf isa m o file = some k → Admissible isa m 0 k uniformP) ∧
    OptimalOutcome isa m o file (analyse isa m o file) := by
  have hadm : ∀ k, kernelOf isa m o file = some k → Admissible isa m 0 k uniformP := by
    intro k hk l hl hi
    obtain ⟨r, hr, rfl⟩ := kernelOf_some isa m o file k hk
    exact feasible_mono (opt_uniform_feasible isa m o file r hr l hl hi (hw r.kernel hk l hl hi))
      (add_nonneg (slackOf_nonneg _) le_rfl)
  exact ⟨hadm, uniformP, hadm, (opt_fixed isa m o file).symm⟩

/-- the executable test is sound: no inadmissible line reported ⇒ `Admissible` -/
theorem inadmissible_nil_admissible (isa : Operand.Isa) (m : Model) (tol : Rat) (htol : 0 ≤ tol) (k : List PLine)
    (P : Pressures) (h : inadmissible isa m tol k P = []) : Admissible isa m tol k P := by
  intro l hl hi
  unfold inadmissible at h
  rw [List.filterMap_eq_nil_iff] at h
  have := h l (List.mem_filter.mpr ⟨hl, hi⟩)
  cases hp : P l.num with
  | none => simp [hp] at this
  | some v =>
    simp only [hp, Option.map_eq_none_iff] at this
    simp only [Option.getD_some]
    exact Props.C01Oracle.checkFeasible_sound _
      (add_nonneg (slackOf_nonneg _) htol) _ _ _ this


/-! ### 3. the port totals of an admissible run are a feasible schedule of the kernel's micro-ops -/

/-- the kernel lines `get_throughput_sum` adds up: throughput different from the skip value (0) -/
def summed (n : Nat) (k : List PLine) : List PLine := k.filter fun l => (semOf n l).tp != Gen.tpSumSkipValue

/-- the summed lines as `Props.C02.Instr`: micro-ops of the line, its pressure vector, its slack -/
def summedInstrs (isa : Operand.Isa) (m : Model) (k : List PLine) : List C02.Instr :=
  (summed m.mm.ports.length k).map fun l =>
    { uops := uopsOfText isa m l.text, v := (semOf m.mm.ports.length l).pressure, ε := slackOf (uopsOfText isa m l.text) }

theorem opt_kernel (isa : Operand.Isa) (m : Model) (o : Opts) (file : Txt) (P : Pressures) (k : List PLine) (r' : Result)
    (hk : kernelOf isa m o file = some k) (h : analyseWith isa m o file P = .ok r') :
    r'.kernel = k.map (setPressure P) := by
  obtain ⟨r, hr, e, hker, _⟩ := opt_factors_ok isa m o file P r' h
  obtain ⟨r2, hr2, e2⟩ := kernelOf_some isa m o file k hk
  rw [hr] at hr2
  cases hr2
  rw [← e2]; exact hker

theorem setPressure_pressure (P : Pressures) (l : PLine) :
    (setPressure P l).sem.pressure = (P l.num).getD l.sem.pressure := by
  unfold setPressure
  cases P l.num <;> rfl

/-- under admissible `P` an instruction line of the kernel carries, after `setPressure P`, a vector that is feasible
    for its micro-ops -/
theorem opt_line_feasible (isa : Operand.Isa) (m : Model) (tol : Rat) (k : List PLine) (P : Pressures)
    (hadm : Admissible isa m tol k P) (l : PLine) (hl : l ∈ k) (hi : l.isInstr = true) :
    Feasible (slackOf (uopsOfText isa m l.text) + tol) m.mm.ports.length (uopsOfText isa m (setPressure P l).text)
      (semOf m.mm.ports.length (setPressure P l)).pressure := by
  have := hadm l hl hi
  rw [setPressure_text]
  simp only [semOf, setPressure_isInstr, hi, if_true, setPressure_pressure]
  exact this

/-- **opt_totals_feasible** (`Props.C02.kernel_feasible` lifted through the composition; ∀ files, models, options,
    ∀ admissible `P`): the port totals the analysis under `P` reports are, before rounding, `Props.C02.totals` of the
    summed lines (throughput ≠ 0), and form a fractional schedule of ALL micro-ops of these lines that is feasible
    within the sum of the per-line slacks `Σ INC/2 · #micro-opsᵢ`; the reported totals are these sums rounded to
    two places. -/
theorem opt_totals_feasible (isa : Operand.Isa) (m : Model) (o : Opts) (file : Txt) (P : Pressures) (k : List PLine)
    (r' : Result) (hk : kernelOf isa m o file = some k) (hadm : Admissible isa m 0 k P)
    (h : analyseWith isa m o file P = .ok r') (hne : summed m.mm.ports.length r'.kernel ≠ []) :
    let exact := colSumsExact Gen.tpSumSkipValue (r'.kernel.map (toPorts m.mm.ports.length))
    let ins := summedInstrs isa m r'.kernel
    exact = C02.totals m.mm.ports.length ins ∧
    Feasible (C02.slack ins) m.mm.ports.length (C02.allUops ins) exact ∧
    r'.analysis.colSums = exact.map (roundHalfEven · Gen.tpSumDigits) := by
  intro exact ins
  have hker := opt_kernel isa m o file P k r' hk h
  obtain ⟨_, _, _, _, _, ha, _, _⟩ := opt_factors_ok isa m o file P r' h
  -- every line of the kernel under `P`: an admissible instruction line, or a line that is not summed and carries zeros
  have hline : ∀ l' ∈ r'.kernel,
      (l'.isInstr = true ∧ Feasible (slackOf (uopsOfText isa m l'.text)) m.mm.ports.length (uopsOfText isa m l'.text)
        (semOf m.mm.ports.length l').pressure) ∨
      (l'.isInstr = false ∧ semOf m.mm.ports.length l' = noiseSem m.mm.ports.length) := by
    intro l' hl'
    rw [hker] at hl'
    obtain ⟨l, hl, rfl⟩ := List.mem_map.mp hl'
    cases hi : l.isInstr with
    | true =>
      have := opt_line_feasible isa m 0 k P hadm l hl hi
      rw [add_zero, setPressure_text] at this
      exact Or.inl ⟨(setPressure_isInstr P l).trans hi, setPressure_text P l ▸ this⟩
    | false =>
      exact Or.inr ⟨(setPressure_isInstr P l).trans hi, by simp [semOf, setPressure_isInstr, hi]⟩
  have hlen : ∀ pl ∈ r'.kernel.map (toPorts m.mm.ports.length), pl.pressure.length = m.mm.ports.length := by
    intro pl hpl
    obtain ⟨l', hl', rfl⟩ := List.mem_map.mp hpl
    rcases hline l' hl' with ⟨_, hf⟩ | ⟨_, hn⟩
    · exact hf.len
    · simp [toPorts, hn, noiseSem, zeros]
  have hfilter : (r'.kernel.map (toPorts m.mm.ports.length)).filter (·.tp != Gen.tpSumSkipValue) =
      (summed m.mm.ports.length r'.kernel).map (toPorts m.mm.ports.length) := by
    rw [List.filter_map]; rfl
  have h1 : exact = C02.totals m.mm.ports.length ins := by
    apply colSumsExact_eq_totals Gen.tpSumSkipValue m.mm.ports.length _ ins hlen
    · rw [hfilter]; simpa using hne
    · rw [hfilter]
      simp [ins, summedInstrs, List.map_map, Function.comp_def, toPorts]
  refine ⟨h1, ?_, ?_⟩
  · rw [h1]
    apply C02.kernel_feasible
    intro i hi
    obtain ⟨l', hl', rfl⟩ := List.mem_map.mp hi
    obtain ⟨hmem, htp⟩ := List.mem_filter.mp hl'
    rcases hline l' hmem with ⟨_, hf⟩ | ⟨_, hn⟩
    · exact hf
    · exfalso
      rw [hn] at htp
      simp [noiseSem, Gen.tpSumSkipValue] at htp
  · rw [ha]
    rfl


theorem slack_nonneg (isa : Operand.Isa) (m : Model) (k : List PLine) : 0 ≤ C02.slack (summedInstrs isa m k) := by
  unfold C02.slack
  apply List.sum_nonneg
  intro x hx
  obtain ⟨i, hi, rfl⟩ := List.mem_map.mp hx
  obtain ⟨l, _, rfl⟩ := List.mem_map.mp hi
  exact slackOf_nonneg _

/-- **the reported bottleneck is close to the optimum** (`Props.C02Duality.feasible_ge_optimum` on the totals): for
    admissible `P` the busiest port of the exact totals carries at least `opt − Σ εᵢ`, the busiest port of the REPORTED
    (rounded) totals at least `opt − Σ εᵢ − 0.005`, where `opt` is the optimum of fractionally scheduling all
    micro-ops of the summed lines on their admissible ports (`Spec.IsOptimum`) -/
theorem opt_bottleneck_ge_optimum (isa : Operand.Isa) (m : Model) (o : Opts) (file : Txt) (P : Pressures) (k : List PLine)
    (r' : Result) (hk : kernelOf isa m o file = some k) (hadm : Admissible isa m 0 k P)
    (h : analyseWith isa m o file P = .ok r') (hne : summed m.mm.ports.length r'.kernel ≠ [])
    (hports : m.mm.ports ≠ [])
    (hw : WFUops m.mm.ports.length (C02.allUops (summedInstrs isa m r'.kernel)))
    (opt : Rat) (hopt : IsOptimum m.mm.ports.length (C02.allUops (summedInstrs isa m r'.kernel)) opt) :
    opt - C02.slack (summedInstrs isa m r'.kernel) ≤
      maxLoad (colSumsExact Gen.tpSumSkipValue (r'.kernel.map (toPorts m.mm.ports.length))) ∧
    opt - C02.slack (summedInstrs isa m r'.kernel) - 1/200 ≤ maxLoad r'.analysis.colSums := by
  obtain ⟨_, hf, hc⟩ := opt_totals_feasible isa m o file P k r' hk hadm h hne
  refine ⟨C02Duality.feasible_ge_optimum _ (slack_nonneg isa m _) _ _ hw _ hf opt hopt, ?_⟩
  obtain ⟨p, hp, hle⟩ := C02Duality.feasible_ge_optimum_port _ m.mm.ports.length
    (List.length_pos_iff.mpr hports) _ hw _ hf opt hopt
  rw [hc]
  exact (sub_le_sub_right hle _).trans (maxLoad_map_round_ge _ p (by rw [hf.len]; exact hp))

/-! ### 4. the report of a run under `P` reads back -/

theorem Admissible.lengths {isa : Operand.Isa} {m : Model} {tol : Rat} {k : List PLine} {P : Pressures}
    (hadm : Admissible isa m tol k P) :
    ∀ l ∈ k, l.isInstr = true → ∀ v, P l.num = some v → v.length = m.mm.ports.length := by
  intro l hl hi v hv
  have := (hadm l hl hi).len
  rw [hv] at this
  exact this

/-- **the report record of a run under `P` is well-formed** (hypotheses of `e2e_report_wf`, and one pressure value per
    port in the vectors `P` names — implied by admissibility, `Admissible.lengths`) -/
theorem opt_report_wf (isa : Operand.Isa) (m : Model) (o : Opts) (file : Txt) (P : Pressures) (k : List PLine) (r' : Result)
    (hk : kernelOf isa m o file = some k) (h : analyseWith isa m o file P = .ok r')
    (hlen : ∀ l ∈ k, l.isInstr = true → ∀ v, P l.num = some v → v.length = m.mm.ports.length)
    (hports : m.mm.ports ≠ []) (hnames : ∀ n ∈ m.mm.ports, Report.NameOk n ∧ Report.NoNL n)
    (hrepr : ∀ q, Report.TokOk (o.repr q) ∧ Report.WordOk (o.repr q) ∧ Report.NoNL (o.repr q)) :
    Report.WF r'.report := by
  obtain ⟨r, hr, _, hker, _, ha, hrep, _⟩ := opt_factors_ok isa m o file P r' h
  obtain ⟨r2, hr2, rfl⟩ := kernelOf_some isa m o file k hk
  cases hr.symm.trans hr2
  -- the lines of the `--fixed` kernel with the vectors of `P`
  have hrows : ∀ l' ∈ r'.kernel, (semOf m.mm.ports.length l').pressure.length = m.mm.ports.length ∧
      (semOf m.mm.ports.length l').used.length = m.mm.ports.length ∧ Report.NoNL l'.text := by
    intro l' hl'
    rw [hker] at hl'
    obtain ⟨l, hl, rfl⟩ := List.mem_map.mp hl'
    obtain ⟨a, b, c⟩ := kernel_rows_ok isa m o file r hr l hl
    refine ⟨?_, by rw [semOf_setPressure_eq]; exact b, by rw [setPressure_text]; exact c⟩
    simp only [semOf, setPressure_isInstr] at a ⊢
    cases hi : l.isInstr with
    | false => simp only [hi] at a ⊢; exact a
    | true =>
      simp only [hi, if_true, setPressure_pressure] at a ⊢
      cases hp : P l.num with
      | none => exact a
      | some v => exact hlen l hl hi v hp
  rw [hrep]
  refine toReport_wf _ _ _ _ _ hports hnames hrepr ?_ hrows ?_
  · rw [hker]
    exact fun e => (analyse_analysed isa m o file r hr).ne (List.map_eq_nil_iff.mp e)
  · rw [ha]
    refine colSums_len _ _ _ _ ?_
    intro pl hpl
    obtain ⟨l', hl', rfl⟩ := List.mem_map.mp hpl
    exact (hrows l' hl').1

/-- **opt_report_roundtrip** (`e2e_report_roundtrip` for a run under `P`): the table `analyseWith … P` prints reads
    back (`Spec.Report.parseTable`) to the view of its analysis — the pressure cells of `P` at the shown precision,
    the totals line (or the missing-data warning) with the column sums of `P`, CP and LCD cells, flags, texts — and
    the printed text is that table between the header block and the LCD list. -/
theorem opt_report_roundtrip (isa : Operand.Isa) (m : Model) (o : Opts) (file : Txt) (P : Pressures) (k : List PLine) (r' : Result)
    (hk : kernelOf isa m o file = some k) (h : analyseWith isa m o file P = .ok r')
    (hlen : ∀ l ∈ k, l.isInstr = true → ∀ v, P l.num = some v → v.length = m.mm.ports.length)
    (hports : m.mm.ports ≠ []) (hnames : ∀ n ∈ m.mm.ports, Report.NameOk n ∧ Report.NoNL n)
    (hrepr : ∀ q, Report.TokOk (o.repr q) ∧ Report.WordOk (o.repr q) ∧ Report.NoNL (o.repr q)) :
    Spec.Report.parseTable (Report.combinedView r'.report) = some (Report.view r'.report) ∧
    (∃ pre post, r'.text = pre ++ Report.combinedView r'.report ++ post) ∧
    r'.report.rows.map (·.line) = r'.kernel.map (·.num) ∧
    r'.report.rows.map (·.press) = r'.kernel.map (fun l => (semOf m.mm.ports.length l).pressure) ∧
    r'.report.tpSum = r'.analysis.colSums := by
  have hwf := opt_report_wf isa m o file P k r' hk h hlen hports hnames hrepr
  obtain ⟨r, _, _, _, _, _, hrep, ht⟩ := opt_factors_ok isa m o file P r' h
  refine ⟨Props.C13.report_roundtrip r'.report hwf, ht ▸ fullAnalysis_table .., ?_, ?_, ?_⟩
  · rw [hrep]; exact toReport_lines ..
  · rw [hrep]; exact toReport_press ..
  · rw [hrep]; rfl


/-! ### non-vacuity: the example model of `Props/EndToEnd.lean` (two ports `0`, `1`; `ADD gpr, gpr` = one micro-op of 1 cycle on
    `01`; load default one micro-op of 1 cycle on `0`), the file

      1  addq (%rax), %rbx      micro-ops [1 on 01] ++ [1 on 0]: uniform [3/2, 1/2]
      2  addq %rcx, %rbx        micro-op  [1 on 01]:             uniform [1/2, 1/2]

    and the non-uniform pressures `exP`: line 1 ↦ [1, 1] (the load on port 0, the addition on port 1), line 2 ↦ [3/4, 1/4]
    — both exactly feasible — and `exBad`: line 1 ↦ [1/2, 3/2] (port 1 cannot take the load: Hall's condition fails). -/
namespace ExOpt
open Ex

def file : Txt := OsacaVerif.Spec.X86R.joinLines [l1, l3]
def exP : Pressures := fun n => if n = 1 then some [1, 1] else if n = 2 then some [3/4, 1/4] else none
def exBad : Pressures := fun n => if n = 1 then some [1/2, 3/2] else if n = 2 then some [3/4, 1/4] else none

def onOk {α : Type} (x : EndToEnd.Outcome) (f : Result → α) (d : α) : α :=
  match x with
  | .ok r => f r
  | _ => d

/-- the micro-ops summed under `exP`, their slack, the number of summed lines (defaults where there is no analysis) -/
def exUops : List Uop := onOk (analyseWith .x86 model opts file exP) (fun r' => C02.allUops (summedInstrs .x86 model r'.kernel)) []
def exSlack : Rat := onOk (analyseWith .x86 model opts file exP) (fun r' => C02.slack (summedInstrs .x86 model r'.kernel)) 0
def exSummed : Nat := onOk (analyseWith .x86 model opts file exP) (fun r' => (summed model.mm.ports.length r'.kernel).length) 0

end ExOpt
open ExOpt Ex

/-- the micro-ops of the two lines, from their TEXT: register form + load default; own entry through the `q` fall-back -/
example : (uopsOfText .x86 model l1).map (fun u => (u.cycles, u.ports, u.mult)) = [(1, [0, 1], 1), (1, [0], 1)] ∧
    (uopsOfText .x86 model l3).map (fun u => (u.cycles, u.ports, u.mult)) = [(1, [0, 1], 1)] ∧
    slackOf (uopsOfText .x86 model l1) = 1/100 := by decide +kernel

theorem ex_onOk {α : Type} {x : EndToEnd.Outcome} {r : Result} (h : x = .ok r) (f : Result → α) (d : α) :
    onOk x f d = f r := by
  rw [h]
  rfl

/-- the `--fixed` run on the two-line file: its numbers, the micro-ops of its kernel lines are
    well-formed, and which lines `exP`, `exBad` and the uniform pressures leave inadmissible -/
theorem ex_fixed : checkOk (analyse .x86 model opts file) (fun r =>
      (r.analysis.rows.map (·.pressure) == [[3/2, 1/2], [1/2, 1/2]] && r.analysis.colSums == [2, 1] &&
       r.analysis.cpTotal == 6 && r.analysis.lcdFigure == 2 && r.analysis.edges.length == 2) &&
      (r.kernel.all fun l => decide (WFUops model.mm.ports.length (uopsOfText .x86 model l.text))) &&
      ((inadmissible .x86 model 0 r.kernel exP).isEmpty &&
       (inadmissible .x86 model 0 r.kernel exBad).map (·.1) == [1] &&
       (inadmissible .x86 model 0 r.kernel uniformP).map (·.1) == [1, 2])) = true := by decide +kernel

/-- the run under `exP`: its numbers, and the micro-ops, lower bound, slack and number of its summed
    lines -/
theorem ex_opt : checkOk (analyseWith .x86 model opts file exP) (fun r =>
      (r.analysis.rows.map (·.pressure) == [[1, 1], [3/4, 1/4]] && r.analysis.colSums == [7/4, 5/4] &&
       r.analysis.cpTotal == 6 && r.analysis.lcdFigure == 2 && r.analysis.edges.length == 2 &&
       r.report.rows.map (·.press) == [[1, 1], [3/4, 1/4]] && r.report.tpSum == [7/4, 5/4]) &&
      (decide (WFUops 2 (C02.allUops (summedInstrs .x86 model r.kernel))) &&
       lowerBound (C02.allUops (summedInstrs .x86 model r.kernel)) == 3/2 &&
       C02.slack (summedInstrs .x86 model r.kernel) == 3/200 &&
       (summed model.mm.ports.length r.kernel).length == 2)) = true := by decide +kernel

/-- the `--fixed` run and the run under `exP`: the pressure cells and the totals differ ([2, 1] vs [7/4, 5/4]: the
    bottleneck drops from 2 to 1.75), everything else is equal (`opt_invariant_part`), here shown by evaluation -/
example : checkOk (analyse .x86 model opts file) (fun r =>
      r.analysis.rows.map (·.pressure) == [[3/2, 1/2], [1/2, 1/2]] && r.analysis.colSums == [2, 1] &&
      r.analysis.cpTotal == 6 && r.analysis.lcdFigure == 2 && r.analysis.edges.length == 2) = true ∧
    checkOk (analyseWith .x86 model opts file exP) (fun r =>
      r.analysis.rows.map (·.pressure) == [[1, 1], [3/4, 1/4]] && r.analysis.colSums == [7/4, 5/4] &&
      r.analysis.cpTotal == 6 && r.analysis.lcdFigure == 2 && r.analysis.edges.length == 2 &&
      r.report.rows.map (·.press) == [[1, 1], [3/4, 1/4]] && r.report.tpSum == [7/4, 5/4]) = true :=
  ⟨ex_checkOk_mono ex_fixed fun _ h => (Bool.and_eq_true_iff.mp (Bool.and_eq_true_iff.mp h).1).1,
   ex_checkOk_mono ex_opt fun _ h => (Bool.and_eq_true_iff.mp h).1⟩

theorem ex_analysed : checkOk (analyse .x86 model opts file) (fun r =>
    (inadmissible .x86 model 0 r.kernel exP).isEmpty &&
    (inadmissible .x86 model 0 r.kernel exBad).map (·.1) == [1] &&
    (inadmissible .x86 model 0 r.kernel uniformP).map (·.1) == [1, 2]) = true :=
  ex_checkOk_mono ex_fixed fun _ h => (Bool.and_eq_true_iff.mp h).2

/-- `exP` is admissible: a NON-uniform admissible assignment exists (hypotheses of the theorems below satisfiable) -/
theorem ex_admissible : ∃ k, kernelOf .x86 model opts file = some k ∧ Admissible .x86 model 0 k exP := by
  obtain ⟨r, hr, hp⟩ := ex_checkOk_elim ex_analysed
  simp only [Bool.and_eq_true, List.isEmpty_iff] at hp
  exact ⟨r.kernel, kernelOf_ok hr, inadmissible_nil_admissible .x86 model 0 le_rfl _ _ hp.1.1⟩

/-- the predicate bites: `[1/2, 3/2]` is no feasible split of line 1's micro-ops within the slack 1/100 (the load
    micro-op is confined to port 0: Hall's condition for `{0}` asks for 1 − 1/100 there) -/
example : ¬ Feasible (1/100) 2 [⟨1, [0, 1], 1⟩, ⟨1, [0], 1⟩] [1/2, 3/2] :=
  fun h => absurd (h.hall [0] (by decide) (by decide)) (by decide +kernel)

/-- `opt_uniform_admissible` on the file: the micro-ops are well-formed, so the `--fixed` outcome is an `OptimalOutcome` -/
example : OptimalOutcome .x86 model opts file (analyse .x86 model opts file) := by
  refine (opt_uniform_admissible .x86 model opts file ?_).2
  intro k hk l hl hi
  obtain ⟨r, hr, rfl⟩ := kernelOf_some .x86 model opts file k hk
  have c : checkOk (analyse .x86 model opts file) (fun r => r.kernel.all fun l =>
      decide (WFUops model.mm.ports.length (uopsOfText .x86 model l.text))) = true :=
    ex_checkOk_mono ex_fixed fun _ h => (Bool.and_eq_true_iff.mp (Bool.and_eq_true_iff.mp h).1).2
  obtain ⟨r0, hr0, hp⟩ := ex_checkOk_elim c
  rw [hr] at hr0; cases hr0
  exact of_decide_eq_true (List.all_eq_true.mp hp l hl)

/-- … and so is the outcome under the non-uniform `exP` -/
example : OptimalOutcome .x86 model opts file (analyseWith .x86 model opts file exP) := by
  obtain ⟨k, hk, hadm⟩ := ex_admissible
  refine ⟨exP, ?_, rfl⟩
  intro k' hk'
  rw [hk] at hk'; cases hk'
  exact hadm

theorem ex_closed : WFUops 2 exUops ∧ lowerBound exUops = 3/2 ∧ exSlack = 3/200 ∧ exSummed = 2 := by
  obtain ⟨r', hr', hp⟩ := ex_checkOk_elim ex_opt
  have hc := (Bool.and_eq_true_iff.mp hp).2
  simp only [Bool.and_eq_true, decide_eq_true_eq, beq_iff_eq] at hc
  rw [show exUops = _ from ex_onOk hr' _ _, show exSlack = _ from ex_onOk hr' _ _, show exSummed = _ from ex_onOk hr' _ _]
  exact ⟨hc.1.1.1, hc.1.1.2, hc.1.2, hc.2⟩

/-- `opt_totals_feasible` and `opt_bottleneck_ge_optimum` under `exP`: the totals `[7/4, 5/4]` are a feasible schedule of the
    three micro-ops within 3/200; the optimum of scheduling them on two ports is 3/2; the reported bottleneck 7/4 respects
    `3/2 − 3/200 − 1/200` -/
example : ∀ r', analyseWith .x86 model opts file exP = .ok r' →
    Feasible (3/200) 2 (C02.allUops (summedInstrs .x86 model r'.kernel))
      (colSumsExact Gen.tpSumSkipValue (r'.kernel.map (toPorts 2))) ∧
    IsOptimum 2 (C02.allUops (summedInstrs .x86 model r'.kernel)) (3/2) ∧
    (3/2 : Rat) - 3/200 - 1/200 ≤ maxLoad r'.analysis.colSums := by
  intro r' h
  obtain ⟨k, hk, hadm⟩ := ex_admissible
  obtain ⟨hw, hlb, hs, hn⟩ := ex_closed
  rw [show exUops = _ from ex_onOk h _ _] at hw hlb
  rw [show exSlack = _ from ex_onOk h _ _] at hs
  rw [show exSummed = _ from ex_onOk h _ _] at hn
  have hne : summed model.mm.ports.length r'.kernel ≠ [] := by
    intro e; rw [e] at hn; simp at hn
  have hopt : IsOptimum 2 (C02.allUops (summedInstrs .x86 model r'.kernel)) (3/2) :=
    (C02Duality.optimum_eq_lowerBound 2 _ hw (3/2)).mpr hlb.symm
  have ht := (opt_totals_feasible .x86 model opts file exP k r' hk hadm h hne).2.1
  have hb := (opt_bottleneck_ge_optimum .x86 model opts file exP k r' hk hadm h hne (by decide +kernel) hw (3/2) hopt).2
  rw [hs] at ht hb
  exact ⟨ht, hopt, hb⟩

/-- `opt_report_roundtrip` under `exP`: the report with the non-uniform cells reads back -/
example : checkOk (analyseWith .x86 model opts file exP) (fun _ => true) = true ∧
    ∀ r', analyseWith .x86 model opts file exP = .ok r' →
      Spec.Report.parseTable (Report.combinedView r'.report) = some (Report.view r'.report) := by
  refine ⟨ex_checkOk_mono ex_opt fun _ _ => rfl, fun r' h => ?_⟩
  obtain ⟨k, hk, hadm⟩ := ex_admissible
  exact (opt_report_roundtrip .x86 model opts file exP k r' hk h (Admissible.lengths hadm) (by decide +kernel) ex_names_ok ex_reprEx_ok).1

/-- a load multiplier: the load micro-op carries it (`Spec.withMult`), and the stored pressure is the uniform split of the
    micro-ops WITH their multipliers (`[1/2 + 1/2·1, 1/2]`) -/
def ExOpt.modelHalf : Model := { Ex.model with mm := { Ex.mm with loadMult := some [(.str Ex.gpr, .num (1/2))] } }

example : (uopsOfText .x86 ExOpt.modelHalf l1).map (fun u => (u.cycles, u.ports, u.mult)) = [(1, [0, 1], 1), (1, [0], 1/2)] ∧
    checkOk (analyse .x86 ExOpt.modelHalf opts file) (fun r =>
      r.analysis.rows.map (·.pressure) == [[1, 1/2], [1/2, 1/2]] &&
      (inadmissible .x86 ExOpt.modelHalf 0 r.kernel (fun n => if n = 1 then some [3/4, 3/4] else some [1/2, 1/2])).isEmpty &&
      (inadmissible .x86 ExOpt.modelHalf 0 r.kernel (fun n => if n = 1 then some [1/4, 5/4] else some [1/2, 1/2])).map (·.1) == [1]) = true := by
  decide +kernel

/-- AArch64: `ldr d1, [x2], #8` (register form `LDR d, x` + load default) and `add x2, x2, #8`; the post-indexed load balanced
    to `[1, 1]` is admissible, the report under it reads back -/
example : (uopsOfText .a64 EndToEndA64.ExA64.model EndToEndA64.ExA64.l1).map (fun u => (u.cycles, u.ports, u.mult)) =
      [(1, [0, 1], 1), (1, [0], 1)] ∧
    checkOk (analyse .a64 EndToEndA64.ExA64.model EndToEndA64.ExA64.opts
        (OsacaVerif.Spec.X86R.joinLines [EndToEndA64.ExA64.l1, EndToEndA64.ExA64.l4])) (fun r =>
      r.analysis.rows.map (·.pressure) == [[3/2, 1/2], [1/2, 1/2]] &&
      (inadmissible .a64 EndToEndA64.ExA64.model 0 r.kernel (fun n => if n = 1 then some [1, 1] else some [1/4, 3/4])).isEmpty) = true ∧
    checkOk (analyseWith .a64 EndToEndA64.ExA64.model EndToEndA64.ExA64.opts
        (OsacaVerif.Spec.X86R.joinLines [EndToEndA64.ExA64.l1, EndToEndA64.ExA64.l4])
        (fun n => if n = 1 then some [1, 1] else some [1/4, 3/4])) (fun r =>
      r.analysis.colSums == [5/4, 7/4] && r.analysis.cpTotal == 7) = true := by
  decide +kernel

end OsacaVerif.Props.EndToEndOpt
