import OsacaVerif.Model.Workers
import OsacaVerif.Model.LcdPost
import OsacaVerif.Lemmas.Workers
import OsacaVerif.Lemmas.LcdPost
import OsacaVerif.Spec.LcdSet
/-
  C16 — LCD result is independent of process scheduling and worker count.

  `Workers.partition/slices` are the scheduling expressions of `check_for_loopcarried_dep`
  (regenerated from the source into `Gen.WorkersConsts`), `LcdPost.post` is the model of the
  post-processing of the shared list, `Workers.Interleave` is "any arrival order".
  All theorems hold for kernels of any length and any worker count `n ≥ 1`.
-/
namespace OsacaVerif.Props.C16
open OsacaVerif OsacaVerif.Workers OsacaVerif.LcdPost

/-! ### the partition -/

/-- **partition_covers** (∀ kernel, ∀ n ≥ 1, also n > klen): the slices handed to the workers, in
    worker order, concatenate to the kernel — no root is dropped, none is searched twice, order
    is kept. -/
theorem partition_covers {α : Type} (kernel : List α) (n : Nat) (hn : 1 ≤ n) :
    (slices kernel n).flatten = kernel := by
  rw [slices_eq]
  simp only [start_eq, stop_eq]
  rw [flatten_slices_prefix]
  exact List.take_of_length_le (le_mul_workload kernel.length n hn)

/-- there is one slice per worker -/
theorem partition_count {α : Type} (kernel : List α) (n : Nat) : (slices kernel n).length = n := by
  simp [slices_eq]

/-- consecutive slices do not overlap and are in order: worker `t` stops where or before worker
    `t+1` starts -/
theorem partition_ordered (klen n t : Nat) : stop klen n t ≤ start klen n (t + 1) := by
  rw [stop_eq, start_eq]; exact Nat.min_le_left _ _

/-- the last worker's slice ends at the end of the kernel -/
theorem partition_last (klen n : Nat) (hn : 1 ≤ n) : stop klen n (n - 1) = klen := by
  rw [stop_eq, Nat.sub_add_cancel hn]
  exact Nat.min_eq_right (le_mul_workload klen n hn)

/-- every position of the kernel lies in the index range of exactly one worker -/
theorem partition_index_unique (klen n i : Nat) (hn : 1 ≤ n) (hi : i < klen) :
    ∃ t, t < n ∧ start klen n t ≤ i ∧ i < stop klen n t ∧
      ∀ t', start klen n t' ≤ i → i < stop klen n t' → t' = t := by
  have hw := workload_pos klen n
  refine ⟨i / workload klen n, ?_, ?_, ?_, ?_⟩
  · exact Nat.div_lt_of_lt_mul
      (Nat.lt_of_lt_of_le hi (Nat.mul_comm n _ ▸ le_mul_workload klen n hn))
  · rw [start_eq]; exact Nat.div_mul_le_self i _
  · rw [stop_eq, Nat.mul_comm]
    exact Nat.lt_min.mpr ⟨Nat.lt_mul_div_succ i hw, hi⟩
  · intro t' h1 h2
    rw [stop_eq] at h2
    exact (Nat.div_eq_of_lt_le h1 (Nat.lt_of_lt_of_le h2 (Nat.min_le_left _ _))).symm

/-- what `kernel[s:e]` contains -/
theorem pySlice_getElem_opt {α : Type} (l : List α) (s e j : Nat) :
    (pySlice l s e)[j]? = if s + j < e then l[s + j]? else none := by
  unfold pySlice
  rw [List.getElem?_drop, List.getElem?_take]

-- non-vacuity: 7 roots on 3 workers, 3 roots on 5 workers (n > klen), 50 roots on 16 workers
example : slices [1, 2, 3, 4, 5, 6, 7] 3 = [[1, 2, 3], [4, 5, 6], [7]] := by decide +kernel
example : slices [10, 20, 30] 5 = [[10], [20], [30], [], []] := by decide +kernel
example : partition 50 16 = (4, [0,4,8,12,16,20,24,28,32,36,40,44,48,52,56,60],
    [4,8,12,16,20,24,28,32,36,40,44,48,50,50,50,50]) := by decide +kernel
example : Gen.useParallel 50 = true ∧ Gen.useParallel 49 = false := by decide +kernel

/-! ### order-insensitivity of the post-processing -/

/-- **post_perm_invariant**: if contributions with the same `lat_path` carry the same `lat_sum`
    (`SumByKey`, a decidable predicate evaluated on every real run), the dictionary – content AND
    insertion order – is the same for every arrival order of the same paths. -/
theorem post_perm_invariant (sumF : List Rat → Rat) (lat : Nat → Nat → Rat) (offset : Nat)
    (l₁ l₂ : List Path) (h : SumByKey (l₁.map (norm sumF lat offset))) (p : l₁.Perm l₂) :
    post sumF lat offset l₁ = post sumF lat offset l₂ := by
  unfold post postE
  rw [sortDesc_eq_of_perm (dedup_perm h (p.map _))]

theorem sumExact_perm {l₁ l₂ : List Rat} (p : l₁.Perm l₂) : sumExact l₁ = sumExact l₂ := by
  unfold sumExact
  apply p.foldl_eq'
  intro x _ y _ z
  rw [Rat.add_assoc, Rat.add_comm x y, ← Rat.add_assoc]

/-- with exact arithmetic the hypothesis always holds: the sum is a function of the sorted
    `lat_path` -/
theorem sumExact_sumByKey (lat : Nat → Nat → Rat) (offset : Nat) (l : List Path) :
    SumByKey (l.map (norm sumExact lat offset)) := by
  have key : ∀ p : Path, (norm sumExact lat offset p).1 =
      sumExact ((norm sumExact lat offset p).2.map (·.2)) := by
    intro p
    simp only [norm, sortKey]
    exact sumExact_perm ((sortKey_perm _).map _).symm
  intro x hx y hy hxy
  obtain ⟨p, _, rfl⟩ := List.mem_map.mp hx
  obtain ⟨q, _, rfl⟩ := List.mem_map.mp hy
  rw [key p, key q, hxy]

/-- order-insensitivity without side condition for exact sums -/
theorem post_exact_perm_invariant (lat : Nat → Nat → Rat) (offset : Nat) (l₁ l₂ : List Path)
    (p : l₁.Perm l₂) : post sumExact lat offset l₁ = post sumExact lat offset l₂ :=
  post_perm_invariant _ _ _ _ _ (sumExact_sumByKey lat offset l₁) p

/-- the hypothesis cannot be dropped: a summation that is not a function of the sorted
    `lat_path` (as float addition in path order is not) makes the result depend on which of two
    rotations of a cycle arrives first.  Here `sumF` = first summand, paths `1→2→1'`, `2→1'→2'`. -/
theorem sumByKey_needed :
    ∃ (sumF : List Rat → Rat) (lat : Nat → Nat → Rat) (l₁ l₂ : List Path),
      l₁.Perm l₂ ∧ post sumF lat 1000 l₁ ≠ post sumF lat 1000 l₂ := by
  refine ⟨fun l => l.headD 0, fun s _ => if s % 1000 = 1 then 3 else 5,
    [[1, 2, 1001], [2, 1001, 1002]], [[2, 1001, 1002], [1, 2, 1001]], List.Perm.swap _ _ _, ?_⟩
  decide +kernel

/-! ### completeness / soundness of the dictionary w.r.t. the paths -/

/-- every dictionary item is the contribution of one of the paths, filed under its own lines -/
theorem post_sound (sumF : List Rat → Rat) (lat : Nat → Nat → Rat) (offset : Nat) (l : List Path)
    (x : List Nat × Entry) (hx : x ∈ post sumF lat offset l) :
    (∃ p ∈ l, x.2 = norm sumF lat offset p) ∧ x.1 = dictKey x.2.2 := by
  have h := mem_mkDict _ x hx
  have h2 : x.2 ∈ dedup [] (l.map (norm sumF lat offset)) := (sortDesc_perm _).subset h.1
  obtain ⟨p, hp, e⟩ := List.mem_map.mp (dedup_sub _ _ _ h2).1
  exact ⟨⟨p, hp, e.symm⟩, h.2.symm⟩

theorem sorted_dedup_lines_distinct (es : List Entry) (hu : LinesUnique es) :
    (sortDesc (dedup [] es)).Pairwise (fun a b => dictKey a.2 ≠ dictKey b.2) := by
  have h1 : (dedup [] es).Pairwise (fun a b => dictKey a.2 ≠ dictKey b.2) :=
    (dedup_keys_distinct [] es).imp_of_mem fun {a b} ha hb hne e =>
      hne (hu a (dedup_sub [] es a ha).1 b (dedup_sub [] es b hb).1 e)
  exact (sortDesc_perm _).symm.pairwise h1 fun h e => h e.symm

/-- no path is lost: under the two hypotheses every path's contribution is in the dictionary -/
theorem post_complete (sumF : List Rat → Rat) (lat : Nat → Nat → Rat) (offset : Nat) (l : List Path)
    (hs : SumByKey (l.map (norm sumF lat offset))) (hu : LinesUnique (l.map (norm sumF lat offset)))
    (p : Path) (hp : p ∈ l) :
    (dictKey (norm sumF lat offset p).2, norm sumF lat offset p) ∈ post sumF lat offset l := by
  -- the keys are distinct, so the dictionary lists the sorted, de-duplicated contributions
  rw [post, postE, mkDict_of_distinct _ (sorted_dedup_lines_distinct _ hu)]
  apply List.mem_map_of_mem
  apply (sortDesc_perm _).symm.subset
  exact (mem_dedup_iff _ hs _).mpr (List.mem_map_of_mem hp)

/-- **post_mono** (used by C19): the post-processing of a sub-collection of the paths is a
    sub-dictionary of the post-processing of all paths – same keys, same latencies. -/
theorem post_mono (sumF : List Rat → Rat) (lat : Nat → Nat → Rat) (offset : Nat) (part full : List Path)
    (hsub : ∀ p ∈ part, p ∈ full)
    (hs : SumByKey (full.map (norm sumF lat offset))) (hu : LinesUnique (full.map (norm sumF lat offset)))
    (x : List Nat × Entry) (hx : x ∈ post sumF lat offset part) : x ∈ post sumF lat offset full := by
  obtain ⟨⟨p, hp, e⟩, hk⟩ := post_sound _ _ _ _ x hx
  have := post_complete sumF lat offset full hs hu p (hsub p hp)
  rwa [← e, ← hk] at this

/-! ### parallel = sequential -/

/-- **parallel_eq_sequential**: for every kernel, every worker count `n ≥ 1`, every function
    `batch` giving the paths found from a root, and every arrival order of the workers' batches,
    the multi-process result equals the single-process result (`for instr in kernel: extend`). -/
theorem parallel_eq_sequential {α : Type} (sumF : List Rat → Rat) (lat : Nat → Nat → Rat) (offset : Nat)
    (kernel : List α) (batch : α → List Path) (n : Nat) (hn : 1 ≤ n)
    (arr : List (List Path)) (harr : Interleave (queues batch kernel n) arr)
    (h : SumByKey ((kernel.flatMap batch).map (norm sumF lat offset))) :
    post sumF lat offset arr.flatten = post sumF lat offset (kernel.flatMap batch) := by
  have h1 : arr.Perm ((queues batch kernel n).flatten) := harr.perm
  have h2 : (queues batch kernel n).flatten = kernel.map batch := by
    unfold queues
    rw [← List.map_flatten, partition_covers kernel n hn]
  have h3 : arr.flatten.Perm (kernel.flatMap batch) := by
    rw [List.flatMap_def, ← h2]; exact h1.flatten
  exact (post_perm_invariant sumF lat offset _ _ h h3.symm).symm

/-- the same for the executable arrival order `merge sched` (any schedule) -/
theorem parallel_eq_sequential_merge {α : Type} (sumF : List Rat → Rat) (lat : Nat → Nat → Rat)
    (offset : Nat) (kernel : List α) (batch : α → List Path) (n : Nat) (hn : 1 ≤ n) (sched : List Nat)
    (h : SumByKey ((kernel.flatMap batch).map (norm sumF lat offset))) :
    post sumF lat offset (merge sched (queues batch kernel n)).flatten
      = post sumF lat offset (kernel.flatMap batch) :=
  parallel_eq_sequential sumF lat offset kernel batch n hn _ (merge_interleave _ _) h

/-- two runs with different worker counts and different arrival orders agree -/
theorem worker_count_irrelevant {α : Type} (sumF : List Rat → Rat) (lat : Nat → Nat → Rat) (offset : Nat)
    (kernel : List α) (batch : α → List Path) (n₁ n₂ : Nat) (h₁ : 1 ≤ n₁) (h₂ : 1 ≤ n₂)
    (arr₁ arr₂ : List (List Path)) (ha₁ : Interleave (queues batch kernel n₁) arr₁)
    (ha₂ : Interleave (queues batch kernel n₂) arr₂)
    (h : SumByKey ((kernel.flatMap batch).map (norm sumF lat offset))) :
    post sumF lat offset arr₁.flatten = post sumF lat offset arr₂.flatten := by
  rw [parallel_eq_sequential sumF lat offset kernel batch n₁ h₁ arr₁ ha₁ h,
    parallel_eq_sequential sumF lat offset kernel batch n₂ h₂ arr₂ ha₂ h]

-- non-vacuity: a two-instruction cycle found from both roots, arriving in either order, gives
-- one entry "1-2" with latency 8; a second cycle "2" (self-dependency) with latency 5 comes after
example :
    post sumExact (fun s _ => if s % 1000 = 1 then 3 else 5) 1000
      [[2, 1001, 1002], [1, 2, 1001], [2, 1002]]
      = [([1, 2], (8, [(1, 3), (2, 5)])), ([2], (5, [(2, 5)]))] := by decide +kernel
example :
    post sumExact (fun s _ => if s % 1000 = 1 then 3 else 5) 1000
      (merge [1, 0, 1] (queues (fun r => if r = 1 then [[1, 2, 1001]] else [[2, 1001, 1002], [2, 1002]])
        [1, 2] 2)).flatten
      = [([1, 2], (8, [(1, 3), (2, 5)])), ([2], (5, [(2, 5)]))] := by decide +kernel
example : sumByKeyB ([[2, 1001, 1002], [1, 2, 1001], [2, 1002]].map
    (norm sumExact (fun s _ => if s % 1000 = 1 then 3 else 5) 1000)) = true := by decide +kernel

/-! ### model ↔ Spec -/

/-- the slices of the model satisfy the Spec's covering predicate -/
theorem partition_meets_spec (kernel : List Nat) (n : Nat) (hn : 1 ≤ n) :
    Spec.Lcd.coversB kernel (slices kernel n) = true := by
  simp [Spec.Lcd.coversB, partition_covers kernel n hn]

theorem ltPair_eq_not_lePair (x y : Nat × Rat) : Spec.Lcd.ltPair y x = !lePair x y := by
  rw [Bool.eq_not, ne_eq, Bool.eq_iff_iff]
  simp only [Spec.Lcd.ltPair, lePair, Bool.or_eq_true, Bool.and_eq_true, decide_eq_true_eq, beq_iff_eq,
    ← Rat.not_le]
  rcases Nat.lt_trichotomy x.1 y.1 with h | h | h
  · omega
  · simp [h]
  · omega

theorem insertSorted_eq (x : Nat × Rat) (l : List (Nat × Rat)) :
    Spec.Lcd.insertSorted x l = insertBy lePair x l := by
  induction l with
  | nil => rfl
  | cons y ys ih =>
    simp only [Spec.Lcd.insertSorted, insertBy, ltPair_eq_not_lePair, ih]
    cases lePair x y <;> simp

theorem canon_eq_sortKey (k : Key) : Spec.Lcd.canon k = sortKey k := by
  unfold Spec.Lcd.canon sortKey isort
  induction k with
  | nil => rfl
  | cons x xs ih => simp only [List.foldr_cons, ih, insertSorted_eq]

theorem edges_eq_pairwise (p : List Nat) : Spec.Lcd.edges p = pairwise p := by
  induction p with
  | nil => rfl
  | cons a r ih =>
    cases r with
    | nil => rfl
    | cons b r' => simp only [Spec.Lcd.edges, pairwise, ih]

theorem normSrc_eq_mod (offset s : Nat) (h : s < 2 * offset) : normSrc offset s = s % offset := by
  unfold normSrc
  split
  · next hge =>
    rw [Nat.mod_eq_sub_mod hge, Nat.mod_eq_of_lt (Nat.sub_lt_left_of_lt_add hge (Nat.two_mul _ ▸ h))]
  · next hlt => rw [Nat.mod_eq_of_lt (Nat.lt_of_not_ge hlt)]

theorem mem_pairwise_left {α : Type} (l : List α) (sd : α × α) (h : sd ∈ pairwise l) : sd.1 ∈ l := by
  fun_induction pairwise l with
  | case1 a b r ih =>
    rcases List.mem_cons.mp h with rfl | h
    · exact List.mem_cons_self
    · exact List.mem_cons_of_mem _ (ih h)
  | case2 => cases h

theorem foldl_add_eq (a : Rat) (l : List Rat) :
    l.foldl (· + ·) a = a + l.foldr (· + ·) 0 := by
  induction l generalizing a with
  | nil => simp [Rat.add_zero]
  | cons x xs ih => simp only [List.foldl_cons, List.foldr_cons, ih, Rat.add_assoc]

theorem sumExact_eq_foldr (l : List Rat) : sumExact l = l.foldr (· + ·) 0 := by
  unfold sumExact
  rw [foldl_add_eq, Rat.zero_add]

/-- **norm_eq_cycleOf**: for paths of the doubled kernel (all nodes `< 2·offset`) the model's
    contribution of a path is exactly the Spec's cycle of that path (the model has the latency
    first, the Spec the dependencies) -/
theorem norm_eq_cycleOf (lat : Nat → Nat → Rat) (offset : Nat) (p : Path)
    (hp : ∀ s ∈ p, s < 2 * offset) :
    norm sumExact lat offset p = ((Spec.Lcd.cycleOf lat offset p).2, (Spec.Lcd.cycleOf lat offset p).1) := by
  have hes : latPath lat offset p
      = (Spec.Lcd.edges p).map (fun sd => (sd.1 % offset, lat sd.1 sd.2)) := by
    unfold latPath
    rw [edges_eq_pairwise]
    apply List.map_congr_left
    intro sd hsd
    rw [normSrc_eq_mod offset sd.1 (hp _ (mem_pairwise_left p sd hsd))]
  simp only [norm, Spec.Lcd.cycleOf, hes, canon_eq_sortKey, sumExact_eq_foldr]

/-- every dictionary value is the Spec's cycle of one of the paths -/
theorem post_sound_spec (lat : Nat → Nat → Rat) (offset : Nat) (l : List Path)
    (hl : ∀ p ∈ l, ∀ s ∈ p, s < 2 * offset)
    (x : List Nat × Entry) (hx : x ∈ post sumExact lat offset l) :
    ∃ p ∈ l, (x.2.2, x.2.1) = Spec.Lcd.cycleOf lat offset p := by
  obtain ⟨⟨p, hp, e⟩, _⟩ := post_sound sumExact lat offset l x hx
  refine ⟨p, hp, ?_⟩
  rw [e, norm_eq_cycleOf lat offset p (hl p hp)]

/-- every path's Spec cycle is a dictionary value (no cycle lost) when different cycles have
    different line lists -/
theorem post_complete_spec (lat : Nat → Nat → Rat) (offset : Nat) (l : List Path)
    (hl : ∀ p ∈ l, ∀ s ∈ p, s < 2 * offset)
    (hu : LinesUnique (l.map (norm sumExact lat offset))) (p : Path) (hp : p ∈ l) :
    ∃ x ∈ post sumExact lat offset l, (x.2.2, x.2.1) = Spec.Lcd.cycleOf lat offset p := by
  refine ⟨_, post_complete sumExact lat offset l (sumExact_sumByKey lat offset l) hu p hp, ?_⟩
  rw [norm_eq_cycleOf lat offset p (hl p hp)]

-- non-vacuity: a path of the doubled kernel and its Spec cycle
example : Spec.Lcd.cycleOf (fun s _ => if s % 1000 = 1 then 3 else 5) 1000 [2, 1001, 1002]
    = ([(1, 3), (2, 5)], 8) := by decide +kernel
example : Spec.Lcd.agreesB (fun s _ => if s % 1000 = 1 then 3 else 5) 1000
    [[2, 1001, 1002], [1, 2, 1001], [2, 1002]] [([(1, 3), (2, 5)], 8), ([(2, 5)], 5)] = true := by
  decide +kernel

end OsacaVerif.Props.C16
