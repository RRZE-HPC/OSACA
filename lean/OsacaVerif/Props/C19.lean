import OsacaVerif.Model.Workers
import OsacaVerif.Model.LcdPost
import OsacaVerif.Lemmas.Workers
import OsacaVerif.Lemmas.LcdPost
import OsacaVerif.Props.C16
/-
  C19 — LCD timeout yields sound partial results and leaves no workers behind.

  `Workers.poll` / `Workers.run` model the waiting part of `check_for_loopcarried_dep`:
  arbitrary clock readings `ticks`, workers with batch delivery times and exit times, the
  `while … else`, the kill of the workers that are still alive, the flag.  The constants
  (`Gen.loopCondLe`, `Gen.noTimeoutValue`, `Gen.pollInterval`, `Gen.flagOnlyIfAlive`) are
  regenerated from the source.  Theorems hold for every timeout `≥ 0` (or switched off), every clock, every number of
  workers and every schedule of deliveries.
-/
namespace OsacaVerif.Props.C19
open OsacaVerif OsacaVerif.Workers OsacaVerif.LcdPost

variable {β : Type}

/-! ### the loop -/

theorem poll_mem (start timeout : Rat) (ws : List (Worker β)) (ticks : List Rat) (t : Rat) (b : Bool)
    (h : poll start timeout ws ticks = some (t, b)) : t ∈ ticks := by
  obtain ⟨pre, post, rfl, -⟩ := poll_eq_some h
  exact List.mem_append_right _ List.mem_cons_self

/-- leaving through `break`: the reading was within the timeout and no worker was alive -/
theorem poll_break (start timeout : Rat) (ws : List (Worker β)) (ticks : List Rat) (t : Rat)
    (h : poll start timeout ws ticks = some (t, false)) :
    withinTimeout start timeout t = true ∧ ∀ w ∈ ws, w.alive t = false := by
  obtain ⟨_, _, _, _, hw, ha⟩ := poll_eq_some h
  exact ⟨hw, ha rfl⟩

/-- leaving through `else`: the reading was beyond the timeout -/
theorem poll_else (start timeout : Rat) (ws : List (Worker β)) (ticks : List Rat) (t : Rat)
    (h : poll start timeout ws ticks = some (t, true)) : withinTimeout start timeout t = false := by
  obtain ⟨_, _, _, _, hw, _⟩ := poll_eq_some h
  exact hw

theorem within_le (start timeout t : Rat) (h : withinTimeout start timeout t = true) :
    t - start ≤ timeout := by
  unfold withinTimeout at h
  split at h
  · simpa using h
  · have : t - start < timeout := by simpa using h
    exact Rat.le_of_lt this

/-! ### wall-clock bound and termination, relative to the clock readings -/

/-- consecutive readings (starting from `prev`) are at most `g` apart -/
def gapsLe (g : Rat) : Rat → List Rat → Prop
  | _, [] => True
  | p, t :: ts => t - p ≤ g ∧ gapsLe g t ts

/-- consecutive readings advance by at least `i` (the `sleep`) -/
def growsBy (i : Rat) : Rat → List Rat → Prop
  | _, [] => True
  | p, t :: ts => p + i ≤ t ∧ growsBy i t ts

theorem exit_bound_aux (start timeout g : Rat) (hg : 0 ≤ g) (ws : List (Worker β)) (ticks : List Rat)
    (prev : Rat) (hprev : prev - start ≤ timeout) (hgap : gapsLe g prev ticks) (t : Rat) (b : Bool)
    (h : poll start timeout ws ticks = some (t, b)) : t - start ≤ timeout + g := by
  -- the reading before `t` (or `prev`) was within the timeout, and `t` is at most `g` later
  obtain ⟨pre, post, rfl, hpre, -⟩ := poll_eq_some h
  clear h
  induction pre generalizing prev with
  | nil => exact sub_le_of_gap hgap.1 hprev
  | cons x pre ih =>
    exact ih x (within_le _ _ _ (hpre x List.mem_cons_self)) hgap.2
      fun y hy => hpre y (List.mem_cons_of_mem _ hy)

/-- **exit_bound**: if successive clock readings are at most `g` apart (`g` = poll interval plus
    scheduling overshoot) the loop is left no later than `timeout + g` after it was entered. -/
theorem exit_bound (start timeout g : Rat) (hg : 0 ≤ g) (ht : 0 ≤ timeout) (ws : List (Worker β))
    (ticks : List Rat) (hgap : gapsLe g start ticks) (t : Rat) (b : Bool)
    (h : poll start timeout ws ticks = some (t, b)) : t - start ≤ timeout + g :=
  exit_bound_aux start timeout g hg ws ticks start (by rwa [Rat.sub_self]) hgap t b h

theorem poll_terminates_aux (start timeout i : Rat) (ws : List (Worker β)) (ticks : List Rat)
    (prev : Rat) (hprev : prev - start ≤ timeout) (hgrow : growsBy i prev ticks)
    (hlen : prev - start + (ticks.length : Rat) * i > timeout) :
    poll start timeout ws ticks ≠ none := by
  fun_induction poll start timeout ws ticks generalizing prev with
  | case1 =>
    rw [show (([] : List Rat).length : Rat) = 0 from rfl, Rat.zero_mul, Rat.add_zero] at hlen
    exact absurd hprev (Rat.not_le.mpr hlen)
  | case2 x xs hw _ ih => exact ih x (within_le _ _ _ hw) hgrow.2 (sleeps_pass_timeout_step hgrow.1 hlen)
  | case3 => nofun
  | case4 => nofun

/-- **poll_terminates**: a clock that advances by at least the poll interval `i > 0` per
    iteration ends the loop within `⌊timeout / i⌋ + 1` readings, whatever the workers do. -/
theorem poll_terminates (start timeout i : Rat) (ht : 0 ≤ timeout) (ws : List (Worker β))
    (ticks : List Rat) (hgrow : growsBy i start ticks) (hlen : (ticks.length : Rat) * i > timeout) :
    poll start timeout ws ticks ≠ none :=
  poll_terminates_aux start timeout i ws ticks start (by rwa [Rat.sub_self]) hgrow
    (by rwa [Rat.sub_self, Rat.zero_add])

/-- the source's poll interval is positive and small (bound of the property: a fraction of a second) -/
theorem pollInterval_small : 0 < Gen.pollInterval ∧ Gen.pollInterval ≤ 1 / 4 := by decide +kernel

/-! ### what reaches the shared list -/

theorem deliveredUntil_sub (w : Worker β) (c : Rat) : (deliveredUntil w c).Sublist (allBatches w) :=
  List.Sublist.map _ List.filter_sublist

/-- shape of every outcome: one `delivered` list per worker, each a sub-list of WHOLE batches of
    that worker, in the worker's order -/
theorem delivered_sublists (flagFix : Bool) (timeout start : Rat) (ticks kd : List Rat)
    (ws : List (Worker β)) (o : Outcome β) (h : run flagFix timeout start ticks kd ws = some o) :
    o.delivered.length = ws.length ∧
      ∀ i (hi : i < o.delivered.length) (hw : i < ws.length), (o.delivered[i]).Sublist (allBatches ws[i]) := by
  rcases run_some h with ⟨_, _, _, hd⟩ | ⟨_, _, cut, hc, _, hd, _⟩
  · simp [hd]
  · refine ⟨by simp [hd, hc], fun i hi hw => ?_⟩
    simp only [hd, List.getElem_map, List.getElem_zip]
    split
    · exact deliveredUntil_sub _ _
    · exact List.Sublist.refl _

theorem mem_delivered (flagFix : Bool) (timeout start : Rat) (ticks kd : List Rat)
    (ws : List (Worker β)) (o : Outcome β) (h : run flagFix timeout start ticks kd ws = some o)
    (b : β) (hb : b ∈ o.delivered.flatten) : b ∈ ws.flatMap allBatches := by
  obtain ⟨hlen, hsub⟩ := delivered_sublists flagFix timeout start ticks kd ws o h
  obtain ⟨d, hd, hbd⟩ := List.mem_flatten.mp hb
  obtain ⟨i, hi, rfl⟩ := List.getElem_of_mem hd
  have hw : i < ws.length := by omega
  exact List.mem_flatMap.mpr ⟨ws[i], List.getElem_mem hw, (hsub i hi hw).subset hbd⟩

/-- **partial_subset**: whatever the timeout, the clock and the kill points, the shared list (any
    arrival order `arr` of what was delivered) consists of whole batches of the workers – nothing
    torn, nothing invented. -/
theorem partial_subset (flagFix : Bool) (timeout start : Rat) (ticks kd : List Rat)
    (ws : List (Worker β)) (o : Outcome β) (h : run flagFix timeout start ticks kd ws = some o)
    (arr : List β) (harr : Interleave o.delivered arr) : ∀ b ∈ arr, b ∈ ws.flatMap allBatches :=
  fun b hb => mem_delivered flagFix timeout start ticks kd ws o h b (harr.perm.subset hb)

/-- hence the reported dictionary is a sub-dictionary of the untimed one: every reported LCD is
    reported by the complete search too, with the same dependencies and the same latency.
    (`SumByKey`, `LinesUnique` of the complete path list are evaluated on every real run.) -/
theorem partial_post_subdict (sumF : List Rat → Rat) (lat : Nat → Nat → Rat) (offset : Nat)
    (flagFix : Bool) (timeout start : Rat) (ticks kd : List Rat)
    (ws : List (Worker (List Path))) (o : Outcome (List Path))
    (h : run flagFix timeout start ticks kd ws = some o)
    (arr : List (List Path)) (harr : Interleave o.delivered arr)
    (hs : SumByKey (((ws.flatMap allBatches).flatten).map (norm sumF lat offset)))
    (hu : LinesUnique (((ws.flatMap allBatches).flatten).map (norm sumF lat offset)))
    (x : List Nat × Entry) (hx : x ∈ post sumF lat offset arr.flatten) :
    x ∈ post sumF lat offset (ws.flatMap allBatches).flatten := by
  apply C16.post_mono sumF lat offset arr.flatten _ _ hs hu x hx
  intro p hp
  obtain ⟨b, hb, hpb⟩ := List.mem_flatten.mp hp
  exact List.mem_flatten.mpr ⟨b, partial_subset flagFix timeout start ticks kd ws o h arr harr b hb, hpb⟩

/-! ### complete when in time -/

/-- **complete_if_in_time**: with the timeout switched off, or when the loop is left through
    `break`, nothing is flagged, nobody is killed and every batch of every worker is delivered. -/
theorem complete_if_in_time (flagFix : Bool) (timeout start : Rat) (ticks kd : List Rat)
    (ws : List (Worker β)) (o : Outcome β) (h : run flagFix timeout start ticks kd ws = some o)
    (hin : timeout = (Gen.noTimeoutValue : Int) ∨ ∃ t, poll start timeout ws ticks = some (t, false)) :
    o.timedOut = false ∧ o.delivered = ws.map allBatches ∧ ∀ k ∈ o.killed, k = false := by
  rcases run_some h with ⟨_, hf, hk, hd⟩ | ⟨hne, ⟨t, ht, _⟩, _⟩
  · exact ⟨hf, hd, by simp [hk]⟩
  · rcases hin with hin | ⟨t', ht'⟩
    · exact absurd hin hne
    · cases ht.symm.trans ht'

/-- a reading within the timeout at which all workers have exited is enough: the loop then leaves
    through `break` (at that reading or an earlier one) -/
theorem in_time_breaks (start timeout : Rat) (ws : List (Worker β)) (pre : List Rat) (t : Rat)
    (post : List Rat) (hpre : ∀ x ∈ pre, withinTimeout start timeout x = true)
    (ht : withinTimeout start timeout t = true) (hdone : ∀ w ∈ ws, w.alive t = false) :
    ∃ t', poll start timeout ws (pre ++ t :: post) = some (t', false) := by
  induction pre with
  | nil =>
    have : ws.any (·.alive t) = false := List.any_eq_false.mpr fun w hw => by simp [hdone w hw]
    exact ⟨t, by simp [poll, ht, this]⟩
  | cons x xs ih =>
    obtain ⟨t', ht'⟩ := ih fun y hy => hpre y (List.mem_cons_of_mem _ hy)
    simp only [List.cons_append, poll, hpre x List.mem_cons_self, if_true]
    split
    · exact ⟨t', ht'⟩
    · exact ⟨x, rfl⟩

/-- the complete result equals the single-process result (link to C16): if the workers' batches
    are the batches of the partition's slices, any arrival order gives the sequential dictionary -/
theorem complete_eq_sequential {α : Type} (sumF : List Rat → Rat) (lat : Nat → Nat → Rat) (offset : Nat)
    (kernel : List α) (batch : α → List Path) (n : Nat) (hn : 1 ≤ n)
    (flagFix : Bool) (timeout start : Rat) (ticks kd : List Rat)
    (ws : List (Worker (List Path))) (o : Outcome (List Path))
    (hws : ws.map allBatches = queues batch kernel n)
    (h : run flagFix timeout start ticks kd ws = some o)
    (hin : timeout = (Gen.noTimeoutValue : Int) ∨ ∃ t, poll start timeout ws ticks = some (t, false))
    (arr : List (List Path)) (harr : Interleave o.delivered arr)
    (hs : SumByKey ((kernel.flatMap batch).map (norm sumF lat offset))) :
    post sumF lat offset arr.flatten = post sumF lat offset (kernel.flatMap batch) := by
  have hc := (complete_if_in_time flagFix timeout start ticks kd ws o h hin).2.1
  rw [hc, hws] at harr
  exact C16.parallel_eq_sequential sumF lat offset kernel batch n hn arr harr hs

/-! ### the flag (repaired loop: `Gen.flagOnlyIfAlive = true`) -/

theorem flagOnlyIfAlive_true : Gen.flagOnlyIfAlive = true := by decide

/-- **flag_iff_cut**: the warning flag is set exactly when some worker was killed -/
theorem flag_iff_cut (timeout start : Rat) (ticks kd : List Rat) (ws : List (Worker β)) (o : Outcome β)
    (h : run Gen.flagOnlyIfAlive timeout start ticks kd ws = some o) :
    o.timedOut = true ↔ ∃ k ∈ o.killed, k = true := by
  rcases run_some h with ⟨_, hf, hk, _⟩ | ⟨_, _, _, _, _, _, hf⟩
  · simp [hf, hk]
  · simp [hf, flagOnlyIfAlive_true]

/-- no flag ⇒ the result is complete -/
theorem no_flag_complete (timeout start : Rat) (ticks kd : List Rat) (ws : List (Worker β)) (o : Outcome β)
    (h : run Gen.flagOnlyIfAlive timeout start ticks kd ws = some o) (hf : o.timedOut = false) :
    o.delivered = ws.map allBatches := by
  rcases run_some h with ⟨_, _, _, hd⟩ | ⟨_, _, cut, hc, hk, hd, hf'⟩
  · exact hd
  · -- nobody was alive at its cut, so every worker delivered all its batches
    rw [hf, flagOnlyIfAlive_true, if_pos rfl, hk] at hf'
    have hdead : ∀ wc ∈ ws.zip cut, wc.1.alive wc.2 = false := by
      simpa using hf'.symm
    calc o.delivered = (ws.zip cut).map (allBatches ∘ Prod.fst) :=
          hd.trans (List.map_congr_left fun wc hwc => by simp [hdead wc hwc])
      _ = ws.map allBatches := by rw [← List.map_map, List.map_fst_zip (Nat.le_of_eq hc.symm)]

/-- D8 (the loop before the repair): all workers finish during the last `sleep`; the loop leaves
    through `else`; nothing is killed, everything is delivered, yet the flag is set.
    The repaired placement does not set it on the same schedule. -/
theorem old_flag_spurious :
    ∃ (ticks : List Rat) (ws : List (Worker Nat)) (o : Outcome Nat),
      run false 1 0 ticks [] ws = some o ∧ o.timedOut = true ∧ (∀ k ∈ o.killed, k = false) ∧
      o.delivered = ws.map allBatches ∧
      (∃ o', run true 1 0 ticks [] ws = some o' ∧ o'.timedOut = false ∧ o'.delivered = o.delivered) := by
  refine ⟨[0, 1/5, 2/5, 3/5, 4/5, 11/10], [⟨[(9/10, 7)], 1⟩, ⟨[(1/10, 8), (19/20, 9)], 21/20⟩],
    ⟨true, [false, false], [[7], [8, 9]], some (11/10)⟩, ?_⟩
  decide +kernel

-- non-vacuity: a cut run (worker 1 killed with one of two batches delivered) and a run in time
example : run true 1 0 [0, 1/5, 2/5, 3/5, 4/5, 19/20, 6/5] []
    [(⟨[(1/2, 7)], 3/5⟩ : Worker Nat), ⟨[(1/10, 8), (5, 9)], 6⟩]
    = some ⟨true, [false, true], [[7], [8]], some (6/5)⟩ := by decide +kernel
example : run true 1 0 [0, 1/5, 2/5, 3/5, 4/5, 19/20, 6/5] []
    [(⟨[(1/2, 7)], 3/5⟩ : Worker Nat), ⟨[(1/10, 8), (1/2, 9)], 7/10⟩]
    = some ⟨false, [false, false], [[7], [8, 9]], some (4/5)⟩ := by decide +kernel
example : run true (-1) 0 [] [] [(⟨[(1/2, 7)], 3/5⟩ : Worker Nat)]
    = some ⟨false, [false], [[7]], none⟩ := by decide +kernel
example : gapsLe (1/4) 0 [0, 1/5, 2/5] ∧ growsBy (1/5) 0 [1/5, 2/5] := by
  simp [gapsLe, growsBy]; decide +kernel

end OsacaVerif.Props.C19
