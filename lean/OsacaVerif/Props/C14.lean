import OsacaVerif.Props.C05
/-
  C14 — Loop-carried dependencies are invariant under rotation of the loop body.

  Central statement (proved below, for every kernel with strictly increasing line numbers and every
  rotation offset `r ≤ |k|`): `lcd_rotation_invariant` — the entries reported for the rotated body
  and for the body correspond one to another with the same member instructions (identified by their
  position in the original body) carrying the same edge latencies, hence the same total latency.
  It rests on: the characterisation of the reported entries as the winding-1 dependency cycles of the
  stream `k^ω` (`C05.lcd_sound`, `C05.lcd_complete`; behind them the locality of the graph,
  `DG.edge_local`, and of the scans, `DG.scanTarget_append`, `DG.scanMem_append`), and the fact that
  rotating the body shifts the stream relation (`streamDep_rotate'`), which is periodic; `lcd_transfer`
  carries entries along such a shift.
  `lcd_rotation_count`: the two reported lists have the same length (the correspondence is a bijection).
  The statements on stream locality of the scans (`scanTarget_append` … `stream_local`) are the C14 face of
  lemmas of `Lemmas/ScanLocal`; the rotation theorems do not go through them.
-/
namespace OsacaVerif.Props.C14
open OsacaVerif OsacaVerif.DG OsacaVerif.LCD

/-! ### stream locality of the producer's scan -/

/-- **scanTarget_append** (stream locality, registers / flags; ∀ streams): what a producer's scan
    for target `t` emits over `a ++ b` is what it emits over `a`, followed — unless an instruction of
    `a` overwrote `t` — by what it emits over `b`.  So the emissions up to a point of the stream
    depend only on the stream segment up to that point. -/
theorem scanTarget_append (isa : Isa) (t : Target) (tag : Tag) (a b : List Ins) :
    scanTarget isa t tag (a ++ b) =
      scanTarget isa t tag a ++ (if a.any (isWritten isa t) then [] else scanTarget isa t tag b) :=
  DG.scanTarget_append isa t tag a b

/-- **scanMem_append** (stream locality, memory destinations): the same for the store→load scan;
    the register-change state is threaded through `a` (`memThread`) and the scan ends at a
    write-back overwrite of the base or at a store to the same operand (`memStops`). -/
theorem scanMem_append (isa : Isa) (m : Mem) (s : RegState) (a b : List Ins) :
    scanMem isa m s (a ++ b) =
      scanMem isa m s a ++ (if a.any (memStops isa m) then [] else scanMem isa m (memThread s a) b) :=
  DG.scanMem_append isa m s a b

/-- **window_suffices** (one statement per scan kind, then for the producer as a whole):
    if any instruction of the prefix `a` (e.g. one full iteration) writes `t`, nothing is emitted
    beyond `a`; the memory scan likewise; and the producer's own next occurrence `p'` (same
    destinations) ends every scan of `p`, so no dependency spans more than one full iteration and two
    kernel copies contain every edge.  The third part is stated for self-dependent register destinations
    (`ReflDests`, C12 reflexivity; `reflDests_x86`); `window_suffices_all` below shows that in this
    model the hypothesis is not needed. -/
theorem window_suffices (isa : Isa) (fd : Bool) :
    (∀ (t : Target) (tag : Tag) (a b : List Ins), a.any (isWritten isa t) = true →
      scanTarget isa t tag (a ++ b) = scanTarget isa t tag a) ∧
    (∀ (m : Mem) (s : RegState) (a b : List Ins), a.any (memStops isa m) = true →
      scanMem isa m s (a ++ b) = scanMem isa m s a) ∧
    (∀ (p p' : Ins) (rest more : List Ins), p'.dst = p.dst → p'.srcDst = p.srcDst → ReflDests isa p →
      findDepending isa fd p (rest ++ p' :: more) = findDepending isa fd p (rest ++ [p'])) :=
  ⟨fun t tag a b h => scanTarget_window isa t tag a b h,
   fun m s a b h => scanMem_window isa m s a b h,
   fun p p' rest more hd hsd hr => findDepending_window isa fd p p' rest more hd hsd hr⟩

/-- on x86 the window property needs no hypothesis about the registers -/
theorem window_suffices_x86 (fd : Bool) (p p' : Ins) (rest more : List Ins)
    (hd : p'.dst = p.dst) (hsd : p'.srcDst = p.srcDst) :
    findDepending .x86 fd p (rest ++ p' :: more) = findDepending .x86 fd p (rest ++ [p']) :=
  findDepending_window .x86 fd p p' rest more hd hsd (reflDests_x86 p)

/-- **window_suffices_all**: the producer-level window property holds for every ISA and every
    producer without any hypothesis: in the model as written a register that is not self-dependent
    depends on nothing at all (`regDep_dead_or_refl`), so its scans emit nothing anyway. -/
theorem window_suffices_all (isa : Isa) (fd : Bool) (p p' : Ins) (rest more : List Ins)
    (hd : p'.dst = p.dst) (hsd : p'.srcDst = p.srcDst) :
    findDepending isa fd p (rest ++ p' :: more) = findDepending isa fd p (rest ++ [p']) :=
  findDepending_window_all isa fd p p' rest more hd hsd

/-- **stream_local** (dependency of an occurrence on an earlier one, as a function of the segment
    between them): of all emissions of producer `p` over the stream `seg ++ c :: more`, those naming
    consumer `c` are `tagsAt isa fd p seg c` — a function of `p`, the segment strictly between, and
    `c`; nothing after `c` matters, `findDepending` never sees anything before `p`, and line numbers
    play no role (`tagsAt_erase`). -/
theorem stream_local (isa : Isa) (fd : Bool) (p : Ins) (seg more : List Ins) (c : Ins)
    (h1 : ∀ x ∈ seg, x.line ≠ c.line) (h2 : ∀ x ∈ more, x.line ≠ c.line) :
    (findDepending isa fd p (seg ++ c :: more)).filter (fun x => x.1 == c.line) =
      (tagsAt isa fd p seg c).map (fun tg => (c.line, tg)) ∧
    tagsAt isa fd (eraseLine p) (seg.map eraseLine) (eraseLine c) = tagsAt isa fd p seg c :=
  ⟨findDepending_at isa fd p seg more c h1 h2, tagsAt_erase isa fd p seg c⟩

-- non-vacuity: producer `add rax` (line 1), one iteration [reader, own copy], then more readers: the
-- own copy (a write of `rax`) ends the scan — the reader on line 4 is not reached; the producer's
-- destinations are self-dependent; the emission naming line 2 is the `tagsAt` value
example :
    let r (n : String) : Op := .reg { name := Text.ofString n }
    let mk (line : Nat) (src sd : List Op) : Ins :=
      { line := line, src := src, dst := [], srcDst := sd, lat := 1, latWoLoad := none, hasLd := false,
        isLd := false, changes := [], changesPost := [] }
    let p := mk 1 [] [r "rax"]
    findDepending .x86 false p ([mk 2 [r "eax"] [r "rbx"]] ++ mk 3 [] [r "rax"] :: [mk 4 [r "rax"] [r "rcx"]]) =
      [(2, .plain), (3, .plain)] ∧
    ([mk 2 [r "eax"] [r "rbx"], mk 3 [] [r "rax"]].any (isWritten .x86 (.reg { name := Text.ofString "rax" }))) = true ∧
    tagsAt .x86 false p [] (mk 2 [r "eax"] [r "rbx"]) = [.plain] ∧
    tagsAt .x86 false p [mk 2 [r "eax"] [r "rbx"], mk 3 [] [r "rax"]] (mk 4 [r "rax"] [r "rcx"]) = [] := by
  decide +kernel

/-! ### rotating the loop body -/

/-- rotate the body by `n` lines: `k.drop n ++ k.take n`, renumbered 1, 2, 3, … in the new order -/
def rotateRaw (n : Nat) (k : List Ins) : List Ins := k.drop n ++ k.take n

def renumber (k : List Ins) : List Ins :=
  (k.zip (List.range k.length)).map fun (i, j) => { i with line := j + 1 }

def rotate (n : Nat) (k : List Ins) : List Ins := renumber (rotateRaw n k)

theorem rotateRaw_length (n : Nat) (k : List Ins) : (rotateRaw n k).length = k.length := by
  rw [rotateRaw, List.length_append, List.length_drop, List.length_take, Nat.min_comm, Nat.sub_add_min_cancel]

theorem rotate_length (n : Nat) (k : List Ins) : (rotate n k).length = k.length := by
  simp [rotate, renumber, rotateRaw_length]

/-- a rotation is a permutation of the instructions -/
theorem rotateRaw_perm (n : Nat) (k : List Ins) : (rotateRaw n k).Perm k := by
  have h : k = k.take n ++ k.drop n := (List.take_append_drop n k).symm
  conv => rhs; rw [h]
  exact List.perm_append_comm

theorem rotateRaw_zero (k : List Ins) : rotateRaw 0 k = k := by simp [rotateRaw]
theorem rotateRaw_full (k : List Ins) : rotateRaw k.length k = k := by simp [rotateRaw]

/-- rotations compose (for offsets within the body) -/
theorem rotateRaw_add (a b : Nat) (k : List Ins) (h : a + b ≤ k.length) :
    rotateRaw b (rotateRaw a k) = rotateRaw (a + b) k := by
  simp only [rotateRaw]
  have h1 : b ≤ (k.drop a).length := by rw [List.length_drop]; exact Nat.le_sub_of_add_le' h
  rw [List.drop_append_of_le_length h1, List.take_append_of_le_length h1, List.drop_drop,
    List.append_assoc]
  congr 1
  rw [List.take_add]

/-- renumbered lines are 1, 2, …, |k| whatever the original numbering was (hence `rotate_wf`) -/
theorem renumber_lines (k : List Ins) : (renumber k).map (·.line) = (List.range k.length).map (· + 1) := by
  simp only [renumber, List.map_map]
  apply List.ext_getElem
  · simp
  · intro j h1 h2
    simp

/-! ### rotation invariance of the reported loop-carried dependencies -/

theorem rotate_wf (r : Nat) (k : List Ins) : WFKernel (rotate r k) := by
  unfold WFKernel rotate
  rw [renumber_lines, List.pairwise_map]
  exact List.pairwise_lt_range.imp (fun h => by omega)

theorem renumber_erase (k : List Ins) : (renumber k).map eraseLine = k.map eraseLine := by
  unfold renumber
  apply List.ext_getElem
  · simp
  · intro j h1 h2
    simp [eraseLine]

/-- **rotation shifts the stream relation**: the dependency relation of the rotated (and renumbered)
    body between stream positions `x, y` is the relation of the original body between `x + r, y + r` -/
theorem streamDep_rotate' (isa : Isa) (fd : Bool) (par : Params) (k : List Ins) (r : Nat) (hr : r ≤ k.length)
    (x y : Nat) : streamDep isa fd par (rotate r k) x y = streamDep isa fd par k (x + r) (y + r) := by
  rw [rotate, streamDep_congr isa fd par (rotateRaw r k) _ (renumber_erase _)]
  exact streamDep_rotate isa fd par k r hr x y

/-- position in the body of the instruction with line number `l` -/
def posOf (k : List Ins) (l : Nat) : Nat := (k.map (·.line)).idxOf l

/-- an entry as its members: (position of the instruction in the body, edge latency leaving it) -/
def idxMembers (k : List Ins) (e : Entry) : List (Nat × Rat) :=
  (e.lines.zip e.lats).map (fun x => (posOf k x.1, x.2))

theorem posOf_lineAt (k : List Ins) (hwf : WFKernel k) (j : Nat) (hj : j < k.length) :
    posOf k (lineAt k j) = j := by
  have hnd : (k.map (·.line)).Nodup := by
    unfold WFKernel at hwf; exact hwf.imp (fun h => Nat.ne_of_lt h)
  have hj' : j < (k.map (·.line)).length := by simpa using hj
  have := hnd.idxOf_getElem j hj'
  rw [lineAt_lt k j hj]; unfold posOf; simpa using this

theorem idxMembers_of_cycle (k : List Ins) (hwf : WFKernel k) (e : Entry) (a : List (Nat × Rat))
    (hst : StartsBelow k.length a) (h : (e.lines.zip e.lats).Perm (C05.cycleMembers k a)) :
    (idxMembers k e).Perm (a.map (fun x => (x.1 % k.length, x.2))) := by
  have hn : 0 < k.length := by
    cases a with
    | nil => exact hst.elim
    | cons x _ => exact Nat.zero_lt_of_lt (startsBelow_cons.mp hst)
  refine (h.map _).trans (List.Perm.of_eq ?_)
  rw [C05.cycleMembers, List.map_map]
  exact List.map_congr_left fun x _ => Prod.ext (posOf_lineAt k hwf _ (Nat.mod_lt _ hn)) rfl

/-- **an entry's members *are* its normal-form cycle**: for a reported entry, `idxMembers` (positions
    of the member lines in the body, with the edge latencies) is literally a winding-1 stream cycle
    with ascending positions inside the body -/
theorem idxMembers_normal (isa : Isa) (fd : Bool) (par : Params) (floor : Nat) (k : List Ins) (hwf : WFKernel k)
    (e : Entry) (he : e ∈ lcd isa fd par floor k) :
    IsStreamCycle (streamDep isa fd par k) k.length (idxMembers k e) ∧
    (∀ y ∈ idxMembers k e, y.1 < k.length) ∧ (verts (idxMembers k e)).Pairwise (· < ·) ∧
    e.lines = (idxMembers k e).map (fun y => lineAt k y.1) := by
  obtain ⟨b, hc, hlt, hinc, hl, ht, _⟩ := C05.lcd_sound_normal isa fd par floor k hwf e he
  have hidx : idxMembers k e = b := by
    rw [idxMembers, hl, ht, List.zip_map', List.map_map]
    exact map_eq_self fun y hy => Prod.ext (posOf_lineAt k hwf y.1 (hlt y hy)) rfl
  rw [hidx]
  exact ⟨hc, hlt, hinc, hl⟩

/-- **lcd_transfer**: two well-formed bodies of equal length whose stream relations differ by a shift
    `s` report corresponding entries: same latencies, members shifted by `s` modulo the length. -/
theorem lcd_transfer (isa : Isa) (fd : Bool) (par : Params) (floor : Nat) (k1 k2 : List Ins) (s : Nat)
    (hwf1 : WFKernel k1) (hwf2 : WFKernel k2) (hlen : k2.length = k1.length) (hs : s ≤ k1.length)
    (hD : ∀ x y, streamDep isa fd par k2 x y = streamDep isa fd par k1 (x + s) (y + s))
    (e2 : Entry) (he2 : e2 ∈ lcd isa fd par floor k2) :
    ∃ e1 ∈ lcd isa fd par floor k1,
      (idxMembers k1 e1).Perm ((idxMembers k2 e2).map (fun x => ((x.1 + s) % k1.length, x.2))) ∧
      e1.latency = e2.latency := by
  obtain ⟨a2, hc2, hst2, hperm2, hlat2⟩ := C05.lcd_sound isa fd par floor k2 hwf2 e2 he2
  have h2 := idxMembers_of_cycle k2 hwf2 e2 a2 hst2 hperm2
  rw [hlen] at hc2 hst2 h2
  obtain ⟨a1, hc1, hst1, hmap⟩ := cycle_transport (streamDep isa fd par k1) (streamDep isa fd par k2)
    k1.length s hs hD (streamDep_periodic isa fd par k1) a2 hc2 hst2
  obtain ⟨e1, he1, hperm1, hlat1⟩ := C05.lcd_complete isa fd par floor k1 hwf1 a1 hc1 hst1
  have h1 := idxMembers_of_cycle k1 hwf1 e1 a1 hst1 hperm1
  refine ⟨e1, he1, ?_, ?_⟩
  · refine h1.trans ((List.Perm.of_eq ?_).trans (h2.map _).symm)
    rw [hmap, List.map_map]
    exact List.map_congr_left fun x _ => Prod.ext (Nat.mod_add_mod _ _ _).symm rfl
  · rw [hlat1, hlat2]
    have := congrArg (List.map (fun x : Nat × Rat => x.2)) hmap
    simp only [List.map_map, Function.comp_def] at this
    rw [this]

/-- **lcd_rotation_invariant** (∀ kernels with strictly increasing lines, ∀ rotation offsets
    `r ≤ |k|`): rotating the loop body does not change the reported loop-carried dependencies.
    Instruction `j` of the rotated body is instruction `(j + r) mod |k|` of the original body; with
    members identified this way, every entry reported for `k` has a counterpart reported for
    `rotate r k` with the same member instructions carrying the same edge latencies (as multisets)
    and the same total latency — and conversely.  (Latency sums are compared in ℚ.) -/
theorem lcd_rotation_invariant (isa : Isa) (fd : Bool) (par : Params) (floor : Nat) (k : List Ins) (r : Nat)
    (hwf : WFKernel k) (hr : r ≤ k.length) :
    (∀ e ∈ lcd isa fd par floor k, ∃ e' ∈ lcd isa fd par floor (rotate r k),
      ((idxMembers (rotate r k) e').map (fun x => ((x.1 + r) % k.length, x.2))).Perm (idxMembers k e) ∧
      e'.latency = e.latency) ∧
    (∀ e' ∈ lcd isa fd par floor (rotate r k), ∃ e ∈ lcd isa fd par floor k,
      ((idxMembers (rotate r k) e').map (fun x => ((x.1 + r) % k.length, x.2))).Perm (idxMembers k e) ∧
      e'.latency = e.latency) := by
  have hlen := rotate_length r k
  constructor
  · intro e he
    have hD : ∀ x y, streamDep isa fd par k x y =
        streamDep isa fd par (rotate r k) (x + (k.length - r)) (y + (k.length - r)) := by
      intro x y
      rw [streamDep_rotate' isa fd par k r hr, Nat.add_assoc, Nat.add_assoc, Nat.sub_add_cancel hr,
        streamDep_periodic]
    -- `k` is the rotated body seen `|k| − r` positions later (periodicity), so `lcd_transfer` applies
    -- in this direction too; shifting its members back by `r` undoes the shift (`map_add_mod_cancel`)
    obtain ⟨e', he', hperm, hlat⟩ := lcd_transfer isa fd par floor (rotate r k) k (k.length - r)
      (rotate_wf r k) hwf hlen.symm (by rw [hlen]; exact Nat.sub_le _ _) hD e he
    refine ⟨e', he', ?_, hlat⟩
    rw [hlen] at hperm
    have := hperm.map (fun x : Nat × Rat => ((x.1 + r) % k.length, x.2))
    rwa [map_add_mod_cancel k.length _ r (Nat.sub_add_cancel hr) _ (idxMembers_normal isa fd par floor k hwf e he).2.1] at this
  · intro e' he'
    obtain ⟨e, he, hperm, hlat⟩ := lcd_transfer isa fd par floor k (rotate r k) r hwf (rotate_wf r k) hlen hr
      (streamDep_rotate' isa fd par k r hr) e' he'
    exact ⟨e, he, hperm.symm, hlat.symm⟩

/-- the reported latencies (in particular the largest one, the LCD figure) do not change under rotation -/
theorem lcd_rotation_latencies (isa : Isa) (fd : Bool) (par : Params) (floor : Nat) (k : List Ins) (r : Nat)
    (hwf : WFKernel k) (hr : r ≤ k.length) (q : Rat) :
    (∃ e ∈ lcd isa fd par floor k, e.latency = q) ↔ (∃ e' ∈ lcd isa fd par floor (rotate r k), e'.latency = q) := by
  obtain ⟨h1, h2⟩ := lcd_rotation_invariant isa fd par floor k r hwf hr
  constructor
  · rintro ⟨e, he, rfl⟩
    obtain ⟨e', he', _, hl⟩ := h1 e he
    exact ⟨e', he', hl⟩
  · rintro ⟨e', he', rfl⟩
    obtain ⟨e, he, _, hl⟩ := h2 e' he'
    exact ⟨e, he, hl.symm⟩

-- non-vacuity of `lcd_rotation_invariant`: a three-instruction ring with lines 3 < 4 < 7 (well-formed),
-- rotated by one: the single reported cycle keeps its members — instruction `j` of the rotated body is
-- instruction `(j + 1) mod 3` of the original — each with its own edge latency, total 7
example :
    let r (n : String) : Op := .reg { name := Text.ofString n }
    let mk (line : Nat) (src dst sd : List Op) (lat : Rat) : Ins :=
      { line := line, src := src, dst := dst, srcDst := sd, lat := lat, latWoLoad := none, hasLd := false,
        isLd := false, changes := [], changesPost := [] }
    let k := [mk 3 [r "rbx"] [r "rax"] [] 4, mk 4 [r "rax"] [r "rcx"] [] 1, mk 7 [r "rcx"] [r "rbx"] [] 2]
    WFKernel k ∧ WFKernel (rotate 1 k) ∧
    (lcd .x86 false {} 1000 k).map (fun e => (idxMembers k e, e.latency)) = [([(0, 4), (1, 1), (2, 2)], 7)] ∧
    (lcd .x86 false {} 1000 (rotate 1 k)).map (fun e =>
      ((idxMembers (rotate 1 k) e).map (fun x => ((x.1 + 1) % 3, x.2)), e.latency)) = [([(1, 1), (2, 2), (0, 4)], 7)] ∧
    streamDep .x86 false {} (rotate 1 k) 0 1 = streamDep .x86 false {} k 1 2 := by
  decide +kernel

-- non-vacuity: rotating the two-instruction accumulation loop keeps both cycles and their latencies
example :
    let r (n : String) : Op := .reg { name := Text.ofString n }
    let mk (line : Nat) (src sd : List Op) (lat : Rat) : Ins :=
      { line := line, src := src, dst := [], srcDst := sd, lat := lat, latWoLoad := none, hasLd := false,
        isLd := false, changes := [], changesPost := [] }
    let k := [mk 1 [r "xmm1"] [r "xmm0"] 4, mk 2 [r "rax"] [r "rbx"] 1]
    ((lcd .x86 false {} 1000 (rotate 1 k)).map (·.latency)) = [1, 4] ∧
    ((lcd .x86 false {} 1000 k).map (·.latency)) = [4, 1] := by
  decide +kernel

/-! ### the counting step: the same *number* of entries -/

/-- counting by an injective total relation: if every element of a duplicate-free list `l1` is related
    to some element of `l2`, and no element of `l2` is related to two different elements of `l1`,
    then `l1` is not longer than `l2` -/
theorem length_le_of_inj_rel {α β : Type} (R : α → β → Prop) (l1 : List α) (l2 : List β) (h1 : l1.Nodup)
    (htot : ∀ a ∈ l1, ∃ b ∈ l2, R a b)
    (hinj : ∀ a1 ∈ l1, ∀ a2 ∈ l1, ∀ b, R a1 b → R a2 b → a1 = a2) : l1.length ≤ l2.length := by
  induction l1 generalizing l2 with
  | nil => exact Nat.zero_le _
  | cons a l1 ih =>
    -- take the partner `b` of `a` out of `l2`: the rest of `l1` is still related into what is left
    obtain ⟨b, hb, hab⟩ := htot a List.mem_cons_self
    obtain ⟨s, t, rfl⟩ := List.append_of_mem hb
    obtain ⟨ha, hnd⟩ := List.nodup_cons.mp h1
    have := ih (s ++ t) hnd (fun a' ha' => ?_)
      (fun a1 ha1 a2 ha2 => hinj a1 (List.mem_cons_of_mem _ ha1) a2 (List.mem_cons_of_mem _ ha2))
    · rw [List.length_append] at this
      rw [List.length_cons, List.length_append, List.length_cons]
      exact Nat.succ_le_succ this
    · obtain ⟨b', hb', hab'⟩ := htot a' (List.mem_cons_of_mem _ ha')
      have hne : b' ≠ b := fun h =>
        ha (hinj a' (List.mem_cons_of_mem _ ha') a List.mem_cons_self b' hab' (h ▸ hab) ▸ ha')
      exact ⟨b', by simpa [hne] using hb', hab'⟩

theorem eq_of_pairwise_ne {α β : Type} (f : α → β) (l : List α) (h : l.Pairwise (fun a b => f a ≠ f b))
    (a b : α) (ha : a ∈ l) (hb : b ∈ l) (hf : f a = f b) : a = b := by
  induction l with
  | nil => cases ha
  | cons x l ih =>
    obtain ⟨hx, hl⟩ := List.pairwise_cons.mp h
    rcases List.mem_cons.mp ha with ha' | ha'
    · rcases List.mem_cons.mp hb with hb' | hb'
      · rw [ha', hb']
      · rw [ha'] at hf; exact absurd hf (hx b hb')
    · rcases List.mem_cons.mp hb with hb' | hb'
      · rw [hb'] at hf; exact absurd hf.symm (hx a ha')
      · exact ih hl ha' hb'

theorem entry_eq_of_members_perm (isa : Isa) (fd : Bool) (par : Params) (floor : Nat) (k : List Ins)
    (hwf : WFKernel k) (e1 e2 : Entry) (h1 : e1 ∈ lcd isa fd par floor k) (h2 : e2 ∈ lcd isa fd par floor k)
    (hp : (idxMembers k e1).Perm (idxMembers k e2)) : e1 = e2 := by
  obtain ⟨_, _, hi1, hl1⟩ := idxMembers_normal isa fd par floor k hwf e1 h1
  obtain ⟨_, _, hi2, hl2⟩ := idxMembers_normal isa fd par floor k hwf e2 h2
  have heq : idxMembers k e1 = idxMembers k e2 :=
    List.Perm.eq_of_pairwise (le := le2) (fun _ _ _ _ a b => le2_antisymm a b) (le2_of_lines hi1) (le2_of_lines hi2) hp
  have hlines : e1.lines = e2.lines := by rw [hl1, hl2, heq]
  exact eq_of_pairwise_ne (·.lines) _ (C05.lcd_reported_once isa fd par floor k hwf) e1 e2 h1 h2 hlines

theorem lcd_nodup (isa : Isa) (fd : Bool) (par : Params) (floor : Nat) (k : List Ins) (hwf : WFKernel k) :
    (lcd isa fd par floor k).Nodup :=
  (C05.lcd_reported_once isa fd par floor k hwf).imp (fun h heq => h (by rw [heq]))

/-- **lcd_rotation_count** (∀ kernels with strictly increasing lines, ∀ rotation offsets `r ≤ |k|`):
    the rotated body has exactly as many reported loop-carried dependencies as the body.  With
    `lcd_rotation_invariant` (every entry has a counterpart with the same members and latency, both
    ways) and `lcd_reported_once` (no entry twice): the member-set correspondence is a bijection
    between the two reported lists — nothing is merged, split, lost or invented by a rotation. -/
theorem lcd_rotation_count (isa : Isa) (fd : Bool) (par : Params) (floor : Nat) (k : List Ins) (r : Nat)
    (hwf : WFKernel k) (hr : r ≤ k.length) :
    (lcd isa fd par floor (rotate r k)).length = (lcd isa fd par floor k).length := by
  obtain ⟨h1, h2⟩ := lcd_rotation_invariant isa fd par floor k r hwf hr
  have hwf' := rotate_wf r k
  have hlen := rotate_length r k
  apply Nat.le_antisymm
  · -- every rotated entry has a counterpart; two rotated entries with the same counterpart coincide
    refine length_le_of_inj_rel
      (fun e' e => ((idxMembers (rotate r k) e').map (fun x => ((x.1 + r) % k.length, x.2))).Perm (idxMembers k e))
      _ _ (lcd_nodup isa fd par floor _ hwf') (fun e' he' => (h2 e' he').imp fun _ h => ⟨h.1, h.2.1⟩) ?_
    · intro e1 he1 e2 he2 e hp1 hp2
      apply entry_eq_of_members_perm isa fd par floor _ hwf' e1 e2 he1 he2
      have hp := (hp1.trans hp2.symm).map (fun x : Nat × Rat => ((x.1 + (k.length - r)) % k.length, x.2))
      have hun : ∀ e' ∈ lcd isa fd par floor (rotate r k),
          ((idxMembers (rotate r k) e').map (fun x => ((x.1 + r) % k.length, x.2))).map
            (fun x : Nat × Rat => ((x.1 + (k.length - r)) % k.length, x.2)) = idxMembers (rotate r k) e' :=
        fun e' he' => map_add_mod_cancel k.length r _ (Nat.add_sub_of_le hr) _
          (hlen ▸ (idxMembers_normal isa fd par floor _ hwf' e' he').2.1)
      rwa [hun e1 he1, hun e2 he2] at hp
  · refine length_le_of_inj_rel
      (fun e e' => ((idxMembers (rotate r k) e').map (fun x => ((x.1 + r) % k.length, x.2))).Perm (idxMembers k e))
      _ _ (lcd_nodup isa fd par floor k hwf) (fun e he => (h1 e he).imp fun _ h => ⟨h.1, h.2.1⟩)
      fun e1 he1 e2 he2 e' hp1 hp2 =>
        entry_eq_of_members_perm isa fd par floor k hwf e1 e2 he1 he2 (hp1.symm.trans hp2)

-- non-vacuity: the two-instruction accumulation loop has two cycles before and after rotation,
-- the three-instruction ring one
example :
    let r (n : String) : Op := .reg { name := Text.ofString n }
    let mk (line : Nat) (src sd : List Op) (lat : Rat) : Ins :=
      { line := line, src := src, dst := [], srcDst := sd, lat := lat, latWoLoad := none, hasLd := false,
        isLd := false, changes := [], changesPost := [] }
    let k := [mk 1 [r "xmm1"] [r "xmm0"] 4, mk 2 [r "rax"] [r "rbx"] 1]
    WFKernel k ∧ (lcd .x86 false {} 1000 (rotate 1 k)).length = 2 ∧ (lcd .x86 false {} 1000 k).length = 2 ∧
    (lcd .x86 false {} 1000 k).map (idxMembers k) = [[(0, 4)], [(1, 1)]] := by
  decide +kernel

end OsacaVerif.Props.C14
