import OsacaVerif.Lemmas.Duality
import OsacaVerif.Props.C01Oracle
import OsacaVerif.Props.C02
/-
  C02 (duality part) — `Spec.lowerBound` *is* the optimum of fractional scheduling.

  C02 compares the optimised port schedule with "the exact optimum of fractionally scheduling the
  kernel's micro-ops on their admissible ports".  `Props/C01Oracle.lean` shows that
  `Spec.lowerBound us` is `max_S confined(S)/|S|`; here the LP-duality / fractional Hall (Gale
  supply–demand) theorem is proved: that number is the minimum, over all explicit assignment
  matrices `x[i][p]`, of the load of the busiest port.

  Proved (∀ port counts `n`, ∀ micro-op lists, no bound on sizes):
  1. `assignment_feasible`      — column sums of any schedule are `Spec.Feasible 0`;
  2. `assignment_ge_lowerBound` — no schedule beats `lowerBound` (weak duality);
  3. `optimum_attained`         — some schedule attains `lowerBound` (strong duality; Hall's marriage
                                  theorem on units × slots after clearing denominators);
  4. `lowerBound_isOptimum`, `optimum_eq_lowerBound` — `IsOptimum n us opt ↔ opt = lowerBound us`;
  5. `feasible_ge_optimum`      — a vector feasible with slack ε never undercuts the optimum by more
                                  than ε.
-/
namespace OsacaVerif.Props.C02Duality
open OsacaVerif OsacaVerif.Ports OsacaVerif.Spec OsacaVerif.Duality
open OsacaVerif.Props.C01Oracle
open Finset

/-- **1. easy direction** (∀ n, ∀ micro-op lists, ∀ matrices; no well-formedness needed): the
    per-port totals of a fractional schedule are non-negative, vanish on unused ports, add up to
    the total amount exactly, and satisfy Hall's condition for every port set. -/
theorem assignment_feasible (n : Nat) (us : List Uop) (x : List (List Rat))
    (h : Assignment n us x) : Feasible 0 n us (Spec.colSums n x) := by
  have hf := Balance.feasible_of_inv 0 le_rfl n us x h.inv
  rwa [neg_zero, zero_mul, ← colSums_eq_pressure] at hf

/-- a vector feasible with slack ε never undercuts `lowerBound` by more than ε at its busiest port
    (`C02.lowerBound_le_max` at the set where `lowerBound` is attained) -/
theorem feasible_ge_lowerBound (ε : Rat) (n : Nat) (us : List Uop) (v : List Rat)
    (hb : PortsBounded n us) (h : Feasible ε n us v) (hε : 0 ≤ ε) :
    lowerBound us - ε ≤ maxLoad v := by
  rcases lowerBound_attained us with h0 | ⟨S, hne, hS, hsub, heq⟩
  · rw [h0, zero_sub]
    exact (neg_nonpos.mpr hε).trans (maxLoad_nonneg v)
  · have hSn : ∀ p ∈ S, p < n := fun p hp => lt_of_mem_usedPorts hb (hsub p hp)
    obtain ⟨p, hp, hle⟩ := C02.lowerBound_le_max ε n us v h S hS hSn hne
    rw [heq]
    exact le_trans hle (getD_le_maxLoad v p (by rw [h.len]; exact hSn p hp))

/-- **2. weak duality** (∀ n, ∀ well-formed micro-op lists, ∀ schedules): the busiest port of any
    fractional schedule carries at least `lowerBound us`. -/
theorem assignment_ge_lowerBound (n : Nat) (us : List Uop) (hw : WFUops n us)
    (x : List (List Rat)) (h : Assignment n us x) :
    lowerBound us ≤ maxLoad (Spec.colSums n x) := by
  have := feasible_ge_lowerBound 0 n us _ (WFUops.portsBounded hw)
    (assignment_feasible n us x h) le_rfl
  rwa [sub_zero] at this

/-- Hall's condition for the micro-ops in the form `frac_hall` wants it, from `lowerBound_ge_all` -/
theorem hall_of_wf (n : Nat) (us : List Uop) (hw : WFUops n us) (J : Finset (Fin us.length)) :
    ∑ i ∈ J, us[i].amount ≤ lowerBound us *
      (#(J.biUnion fun i => ({p : Fin n | (p : ℕ) ∈ us[i].ports} : Finset (Fin n))) : ℚ) := by
  rcases J.eq_empty_or_nonempty with rfl | ⟨i0, hi0⟩
  · rw [sum_empty, biUnion_empty, card_empty, Nat.cast_zero, mul_zero]
  -- `S`: the ports of the union, as a list; every micro-op of `J` is confined to it.
  -- (`us.get i` is `us[i]` without the index-validity proof search of the bracket notation)
  generalize hSF :
    (J.biUnion fun i => ({p : Fin n | (p : ℕ) ∈ (us.get i).ports} : Finset (Fin n))) = SF
  have hmem : ∀ i ∈ J, ∀ p ∈ (us.get i).ports, p ∈ SF.toList.map Fin.val := by
    intro i hi p hp
    refine List.mem_map.mpr ⟨⟨p, (hw _ (List.getElem_mem i.2)).2.2.2 p hp⟩, ?_, rfl⟩
    rw [← hSF]
    exact mem_toList.mpr (mem_biUnion.mpr ⟨i, hi, mem_filter.mpr ⟨mem_univ _, hp⟩⟩)
  have hne : SF.toList.map Fin.val ≠ [] := by
    obtain ⟨p, hp⟩ := List.exists_mem_of_ne_nil _ (hw _ (List.getElem_mem i0.2)).2.2.1
    exact List.ne_nil_of_mem (hmem i0 hi0 p hp)
  have hlb := lowerBound_ge_all n us hw _ hne ((nodup_toList SF).map Fin.val_injective)
  rw [div_le_iff₀ (by exact_mod_cast List.length_pos_iff.mpr hne), List.length_map,
    length_toList] at hlb
  exact le_trans (sum_le_confined us (amount_nonneg_of_wf hw) J _ hmem) hlb

/-- **3. strong duality — the optimum is attained** (∀ n, ∀ well-formed micro-op lists): there is
    an explicit fractional schedule whose busiest port carries at most `lowerBound us`. -/
theorem optimum_attained (n : Nat) (us : List Uop) (hw : WFUops n us) :
    ∃ x, Assignment n us x ∧ maxLoad (Spec.colSums n x) ≤ lowerBound us := by
  obtain ⟨x, hx0, hxs, hxr, hxc⟩ := frac_hall (fun i : Fin us.length => (us.get i).amount)
    (fun i => ({p : Fin n | (p : ℕ) ∈ (us.get i).ports} : Finset (Fin n))) (lowerBound us)
    (fun i => amount_nonneg_of_wf hw _ (List.getElem_mem i.2)) (lowerBound_nonneg us)
    (hall_of_wf n us hw)
  refine ⟨_, assignment_ofFn n us x hx0 (fun i p hp => hxs i p fun hm => hp (mem_filter.mp hm).2) hxr,
    (maxLoad_le_iff _ _).mpr ⟨lowerBound_nonneg us, fun c hc => ?_⟩⟩
  obtain ⟨p, hp, rfl⟩ := List.getElem_of_mem hc
  have hp' : p < n := length_colSums n _ ▸ hp
  rw [← List.getD_eq_getElem _ 0 hp, getD_colSums_ofFn x p hp']
  exact hxc ⟨p, hp'⟩

/-- **4. `lowerBound` is the optimum of fractional scheduling** (∀ n, ∀ well-formed micro-op
    lists): some schedule's busiest port carries exactly `lowerBound us`, none carries less. -/
theorem lowerBound_isOptimum (n : Nat) (us : List Uop) (hw : WFUops n us) :
    IsOptimum n us (lowerBound us) := by
  obtain ⟨x, hx, hle⟩ := optimum_attained n us hw
  exact ⟨⟨x, hx, le_antisymm hle (assignment_ge_lowerBound n us hw x hx)⟩,
    assignment_ge_lowerBound n us hw⟩

/-- the optimum is unique, hence equal to `lowerBound` -/
theorem optimum_eq_lowerBound (n : Nat) (us : List Uop) (hw : WFUops n us) (opt : Rat) :
    IsOptimum n us opt ↔ opt = lowerBound us := by
  constructor
  · rintro ⟨⟨x, hx, hxe⟩, hmin⟩
    obtain ⟨y, hy, hye⟩ := optimum_attained n us hw
    apply le_antisymm
    · exact le_trans (hmin y hy) hye
    · rw [← hxe]; exact assignment_ge_lowerBound n us hw x hx
  · rintro rfl; exact lowerBound_isOptimum n us hw

/-- **5. C02's clause with the proved optimum** (∀ ε ≥ 0, ∀ n, ∀ well-formed micro-op lists,
    ∀ vectors): a per-port vector that is feasible with slack ε never undercuts the exact optimum
    of fractional scheduling by more than ε at its busiest port. -/
theorem feasible_ge_optimum (ε : Rat) (hε : 0 ≤ ε) (n : Nat) (us : List Uop) (hw : WFUops n us)
    (v : List Rat) (h : Feasible ε n us v) (opt : Rat) (hopt : IsOptimum n us opt) :
    opt - ε ≤ maxLoad v := by
  rw [(optimum_eq_lowerBound n us hw opt).mp hopt]
  exact feasible_ge_lowerBound ε n us v (WFUops.portsBounded hw) h hε

/-- the same with a witness port (needs at least one port; holds for any ε) -/
theorem feasible_ge_optimum_port (ε : Rat) (n : Nat) (hn : 0 < n) (us : List Uop)
    (hw : WFUops n us) (v : List Rat) (h : Feasible ε n us v) (opt : Rat)
    (hopt : IsOptimum n us opt) : ∃ p < n, opt - ε ≤ v.getD p 0 := by
  rw [(optimum_eq_lowerBound n us hw opt).mp hopt]
  rcases lowerBound_attained us with h0 | ⟨S, hne, hS, hsub, heq⟩
  · exact ⟨0, hn, by rw [h0, zero_sub]; exact h.nonneg 0 hn⟩
  · have hSn : ∀ p ∈ S, p < n := fun p hp =>
      lt_of_mem_usedPorts (WFUops.portsBounded hw) (hsub p hp)
    obtain ⟨p, hp, hle⟩ := C02.lowerBound_le_max ε n us v h S hS hSn hne
    exact ⟨p, hSn p hp, by rw [heq]; exact hle⟩

/-! ### non-vacuity: the worst kernel of the exhaustive family (three micro-ops on three ports,
    lower bound 5/3), an optimal and a sub-optimal schedule of it -/

/-- the kernel of `C02`'s non-vacuity example -/
abbrev exUs : List Uop := [⟨1, [0, 1, 2], 1⟩, ⟨2, [1, 2], 1⟩, ⟨2, [0, 1], 1⟩]
/-- an optimal schedule: every port carries 5/3 -/
abbrev exOpt : List (List Rat) := [[0, 1, 0], [0, 1/3, 5/3], [5/3, 1/3, 0]]
/-- the uniform schedule: port 1 carries 7/3 -/
abbrev exUni : List (List Rat) := [[1/3, 1/3, 1/3], [0, 1, 1], [1, 1, 0]]

theorem ex_wf : WFUops 3 exUs := by decide +kernel
theorem ex_lowerBound : lowerBound exUs = 5/3 := by decide +kernel
theorem ex_slack : checkFeasible (1/100) 3 exUs [166/100, 166/100, 166/100] = none := by
  decide +kernel

example : WFUops 3 exUs := ex_wf
example : lowerBound exUs = 5/3 := ex_lowerBound
example : Assignment 3 exUs exOpt ∧ Spec.colSums 3 exOpt = [5/3, 5/3, 5/3] ∧
    maxLoad (Spec.colSums 3 exOpt) = 5/3 := by decide +kernel
example : Assignment 3 exUs exUni ∧ Spec.colSums 3 exUni = [4/3, 7/3, 4/3] ∧
    maxLoad (Spec.colSums 3 exUni) = 7/3 := by decide +kernel
-- the clauses of `Assignment` bite: a row outside the admissible ports, an incomplete row
example : ¬ Assignment 3 exUs [[0, 1, 0], [1/3, 0, 5/3], [5/3, 1/3, 0]] := by decide +kernel
example : ¬ Assignment 3 exUs [[0, 1, 0], [0, 1/3, 4/3], [5/3, 1/3, 0]] := by decide +kernel
-- 1: the theorem applies (and its conclusion is the decidable oracle's verdict)
example : Feasible 0 3 exUs [5/3, 5/3, 5/3] := by
  have h := assignment_feasible 3 exUs exOpt (by decide +kernel)
  rwa [show Spec.colSums 3 exOpt = [5/3, 5/3, 5/3] from by decide +kernel] at h
example : checkFeasible 0 3 exUs (Spec.colSums 3 exUni) = none := by decide +kernel
-- 2: weak duality is strict for the uniform schedule, tight for the optimal one
example : lowerBound exUs < maxLoad (Spec.colSums 3 exUni) := by decide +kernel
example : lowerBound exUs ≤ maxLoad (Spec.colSums 3 exOpt) :=
  assignment_ge_lowerBound 3 exUs ex_wf exOpt (by decide +kernel)
-- 3/4: hypotheses satisfiable, conclusion non-trivial (5/3 > 0, strictly below the uniform 7/3)
example : ∃ x, Assignment 3 exUs x ∧ maxLoad (Spec.colSums 3 x) ≤ 5/3 :=
  ex_lowerBound ▸ optimum_attained 3 exUs ex_wf
example : IsOptimum 3 exUs (5/3) := (optimum_eq_lowerBound 3 exUs ex_wf (5/3)).mpr ex_lowerBound.symm
example : ¬ IsOptimum 3 exUs (7/3) := fun h =>
  absurd ((optimum_eq_lowerBound 3 exUs ex_wf (7/3)).mp h) (by rw [ex_lowerBound]; decide +kernel)
-- 5: a vector feasible only with slack 1/100 (5/3 truncated to two places on every port): its
-- busiest port undercuts the optimum 5/3, but by less than 1/100
example : Feasible (1/100) 3 exUs [166/100, 166/100, 166/100] ∧
    ¬ Feasible 0 3 exUs [166/100, 166/100, 166/100] ∧
    maxLoad [166/100, 166/100, 166/100] < 5/3 :=
  ⟨checkFeasible_sound_all _ 3 _ _ ex_slack, fun h => absurd h.totalLo (by decide +kernel),
   by decide +kernel⟩
example : (5/3 : Rat) - 1/100 ≤ maxLoad [166/100, 166/100, 166/100] :=
  feasible_ge_optimum (1/100) (by decide +kernel) 3 exUs ex_wf _
    (checkFeasible_sound_all _ 3 _ _ ex_slack) (5/3)
    ((optimum_eq_lowerBound 3 exUs ex_wf (5/3)).mpr ex_lowerBound.symm)
example : ∃ p < 3, (5/3 : Rat) - 1/100 ≤ [166/100, 166/100, 166/100].getD p 0 :=
  feasible_ge_optimum_port (1/100) 3 (by decide) exUs ex_wf _
    (checkFeasible_sound_all _ 3 _ _ ex_slack) (5/3)
    ((optimum_eq_lowerBound 3 exUs ex_wf (5/3)).mpr ex_lowerBound.symm)

end OsacaVerif.Props.C02Duality
