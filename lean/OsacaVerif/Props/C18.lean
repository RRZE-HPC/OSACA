import OsacaVerif.Model.History
import OsacaVerif.Model.HistoryGen
import OsacaVerif.Spec.HistoryIndep
import OsacaVerif.Lemmas.History
/-
  C18 — Analyses are independent of what was analysed before in the same process.

  `History.analyse cfg db kernel` is the model of one analysis with the machine model / ISA database
  as explicit state and Python's list aliasing made explicit (`Val.ref` / `Val.own`,
  `extendInPlace` / `extendFresh`); `History.inspect` adds the process: runtime cache and loader.
  `cfg` says, site by site, whether the source copies or shares, and whether it extends in place;
  `History.genCfg` is that record regenerated from the source (`Gen.HistoryCfg`).
  `Spec.HistoryIndep` states history independence for an arbitrary step function.

  Everything below is for ALL databases, kernels and histories (induction), for every safe
  configuration; `gen_cfg_safe` is the one place where the current source enters.
-/
namespace OsacaVerif.Props.C18
open OsacaVerif OsacaVerif.History OsacaVerif.Spec.HistoryIndep

/-! ### one analysis does not change the database -/

/-- **The source as it is now never extends a list of the model in place.**
    (Fails to compile when `assign_tp_lt` goes back to `data_port_uops += st_data_port_uops`.) -/
theorem gen_cfg_safe : genCfg.safe = true := by decide +kernel

/-- a safe analysis leaves the database as it found it (every db, every kernel of any length,
    every safe configuration) -/
theorem analyse_preserves_db (cfg : Cfg) (h : cfg.safe = true) (db : Db) (k : Kernel) :
    (analyse cfg db k).1 = db := by
  simp [analyse, semantics_db h]

/-- … for the current source -/
theorem analyse_preserves_db_gen (db : Db) (k : Kernel) : (analyse genCfg db k).1 = db :=
  analyse_preserves_db genCfg gen_cfg_safe db k

/-- the report of a safe analysis is rendered against the database it started from -/
theorem analyse_report (cfg : Cfg) (h : cfg.safe = true) (db : Db) (k : Kernel) :
    (analyse cfg db k).2 = (semantics cfg db k).2.map (Row.show db) := by
  simp [analyse, semantics_db h]

/-- the database used for the counterexamples: one form, one load entry, one store entry -/
def db1 : Db := ⟨[[1]], [[2]], [[3]], [4], [5], [[6]]⟩
/-- `addq %rax, 8(%rbx)`: register form 0, load entry 0, store entry 0 -/
def rmw1 : Kernel := [⟨.rmw 0 (.entry 0) (.entry 0), none⟩]

/-- **Exactness**: every unsafe configuration (in particular the unrepaired `+=` on the table's own
    list, defect D5) has a database and a kernel — the load+store instruction — that change it. -/
theorem analyse_unsafe_changes_db (cfg : Cfg) (h : cfg.safe = false) :
    ∃ db k, (analyse cfg db k).1 ≠ db :=
  ⟨db1, rmw1, analyse_rmw_unsafe_ne h db1 0 0 _ (by decide) (by decide)⟩

/-- the unrepaired code, concretely: the load table grows from `[2]` to `[2, 3]` -/
theorem unrepaired_grows_load_table :
    (analyse { genCfg with rmwInPlace := true } db1 rmw1).1.loads = [[2, 3]] := by decide +kernel

/-! ### histories sharing one model object (OSACA used as a library) -/

theorem runHistory_eq_runFrom (cfg : Cfg) (db : Db) (ks : List Kernel) :
    runHistory cfg db ks = runFrom (analyse cfg) db ks :=
  eq_runFrom (run := runHistory cfg) (fun _ => rfl) (fun _ _ _ => rfl) db ks

/-- ∀ histories (induction): the database at the end is the one at the start, and every report is
    the report the same kernel gets on the initial database -/
theorem runHistory_safe (cfg : Cfg) (h : cfg.safe = true) (db : Db) (ks : List Kernel) :
    runHistory cfg db ks = (db, ks.map (fun k => (analyse cfg db k).2)) := by
  rw [runHistory_eq_runFrom]
  exact Prod.ext_iff.mpr <| runFrom_inv (I := (· = db))
    (fun _ k e => by rw [e]; exact ⟨analyse_preserves_db cfg h db k, rfl⟩) ks db rfl

/-- **`history_independent`** in the vocabulary of the specification -/
theorem history_independent (cfg : Cfg) (h : cfg.safe = true) (db : Db) :
    HistoryIndependent (analyse cfg) db := by
  intro ks
  rw [← runHistory_eq_runFrom, runHistory_safe cfg h]

theorem history_independent_gen (db : Db) : HistoryIndependent (analyse genCfg) db :=
  history_independent genCfg gen_cfg_safe db

/-- the state observation of the harness (the digest) never changes -/
theorem state_preserved (cfg : Cfg) (h : cfg.safe = true) (db : Db) :
    StatePreserved (analyse cfg) (fun d => d) db := by
  intro ks
  rw [← runHistory_eq_runFrom, runHistory_safe cfg h]

/-- element-wise form: the `i`-th report of any history is the fresh report of the `i`-th kernel -/
theorem history_independent_get (cfg : Cfg) (h : cfg.safe = true) (db : Db) (ks : List Kernel)
    (i : Nat) (hi : i < ks.length) :
    (runHistory cfg db ks).2[i]? = some (analyse cfg db ks[i]).2 := by
  rw [runHistory_safe cfg h]
  simp [hi]

/-- analysing the same kernel twice, with anything in between and before, gives equal reports -/
theorem repeat_equal (cfg : Cfg) (h : cfg.safe = true) (db : Db) (pre mid : List Kernel) (k : Kernel) :
    (runHistory cfg db (pre ++ [k] ++ mid ++ [k])).2[pre.length]? =
    (runHistory cfg db (pre ++ [k] ++ mid ++ [k])).2[pre.length + 1 + mid.length]? := by
  have e1 : (pre ++ [k] ++ mid ++ [k])[pre.length]? = some k := by
    rw [List.append_assoc, List.append_assoc, List.getElem?_append_right (Nat.le_refl _), Nat.sub_self]
    rfl
  have e2 : (pre ++ [k] ++ mid ++ [k])[pre.length + 1 + mid.length]? = some k := by
    rw [show pre.length + 1 + mid.length = (pre ++ [k] ++ mid).length by
      rw [List.length_append, List.length_append]; rfl]
    exact List.getElem?_concat_length
  rw [runHistory_safe cfg h, List.getElem?_map, List.getElem?_map, e1, e2]

/-- for an unsafe configuration sharing one model object the *report* depends on the history:
    the second analysis of the load+store instruction shows one more store micro-op -/
theorem unsafe_shared_history_dependent (cfg : Cfg) (h : cfg.safe = false) :
    ∃ db k, (runHistory cfg db [k, k]).2[1]? ≠ some (analyse cfg db k).2 := by
  refine ⟨db1, rmw1, ?_⟩
  simp only [runHistory, rmw1, analyse_rmw_unsafe h]
  decide +kernel

/-! ### the process: `MachineModel._runtime_cache`, the loader, `osaca.inspect` -/

theorem runProc_eq_runFrom (cfg : Cfg) (disk : Nat → Db) (p : Proc) (rs : List Request) :
    runProc cfg disk p rs = runFrom (inspect cfg disk) p rs :=
  eq_runFrom (run := runProc cfg disk) (fun _ => rfl) (fun _ _ _ => rfl) p rs

theorem lookup_clean {disk : Nat → Db} {p : Proc} (hc : p.Clean disk) (path : Nat) :
    (p.lookup path).getD (disk path) = disk path := by
  unfold Proc.lookup
  cases hf : p.cache.find? (fun e => e.1 == path) with
  | none => rfl
  | some e =>
    have hp : e.1 = path := by simpa using List.find?_some hf
    exact (hc e (List.mem_of_find?_eq_some hf)).trans (congrArg disk hp)

/-- in a clean process the loader hands out what is on disk, whichever way it is written -/
theorem loadModel_clean (cfg : Cfg) {disk : Nat → Db} {p : Proc} (hc : p.Clean disk) (path : Nat) :
    loadModel cfg disk p path = disk path := by
  unfold loadModel
  by_cases hs : cfg.cacheShadowed <;> simp [hs, lookup_clean hc]

/-- a safe `inspect` keeps the cache clean and answers as on the disk data -/
theorem inspect_clean (cfg : Cfg) (h : cfg.safe = true) {disk : Nat → Db} {p : Proc} (hc : p.Clean disk)
    (r : Request) :
    (inspect cfg disk p r).1.Clean disk ∧ (inspect cfg disk p r).2 = (analyse cfg (disk r.path) r.kernel).2 := by
  constructor
  · intro e he
    simp only [inspect, List.mem_cons, List.mem_filter] at he
    rcases he with he | ⟨he, _⟩
    · subst he
      simp [analyse_preserves_db cfg h, loadModel_clean cfg hc]
    · exact hc e he
  · simp [inspect, loadModel_clean cfg hc]

theorem fresh_clean (disk : Nat → Db) : Proc.fresh.Clean disk := fun _ he => absurd he List.not_mem_nil

/-- the report of a fresh process -/
theorem inspect_fresh (cfg : Cfg) (disk : Nat → Db) (r : Request) :
    (inspect cfg disk Proc.fresh r).2 = (analyse cfg (disk r.path) r.kernel).2 := by
  rw [inspect, loadModel_fresh]

/-- ∀ histories from any clean process state (induction): cache stays clean, reports are fresh reports -/
theorem runProc_clean (cfg : Cfg) (h : cfg.safe = true) (disk : Nat → Db) (p : Proc) (hc : p.Clean disk)
    (rs : List Request) :
    (runProc cfg disk p rs).1.Clean disk ∧
    (runProc cfg disk p rs).2 = rs.map (fun r => (inspect cfg disk Proc.fresh r).2) := by
  rw [runProc_eq_runFrom]
  exact runFrom_inv (I := Proc.Clean disk)
    (fun p r hc => (inspect_clean cfg h hc r).imp id (·.trans (inspect_fresh cfg disk r).symm)) rs p hc

/-- **`inspect_history_independent`**: for a safe configuration — with the runtime cache shadowed by
    the pickle lookup (the code as it is) *or* effective (the obvious clean-up) — every `inspect` of
    every history answers as a fresh process does. -/
theorem inspect_history_independent (cfg : Cfg) (h : cfg.safe = true) (disk : Nat → Db) :
    HistoryIndependent (inspect cfg disk) Proc.fresh := by
  intro rs
  rw [← runProc_eq_runFrom]
  exact (runProc_clean cfg h disk Proc.fresh (fresh_clean disk) rs).2

theorem inspect_history_independent_gen (disk : Nat → Db) :
    HistoryIndependent (inspect genCfg disk) Proc.fresh :=
  inspect_history_independent genCfg gen_cfg_safe disk

/-- what the harness's digest of `_runtime_cache` observes: after any history every cached
    data object equals a fresh load -/
theorem cache_clean_after_any_history (cfg : Cfg) (h : cfg.safe = true) (disk : Nat → Db)
    (rs : List Request) : (runProc cfg disk Proc.fresh rs).1.Clean disk :=
  (runProc_clean cfg h disk Proc.fresh (fresh_clean disk) rs).1

/-- Why defect D5 never showed in a *report* of the command-line tool: as long as the runtime cache
    is shadowed by the reload, reports are fresh reports even for an unsafe configuration
    (∀ histories, ∀ process states). -/
theorem shadowed_reports_fresh (cfg : Cfg) (hs : cfg.cacheShadowed = true) (disk : Nat → Db) (p : Proc)
    (rs : List Request) :
    (runProc cfg disk p rs).2 = rs.map (fun r => (inspect cfg disk Proc.fresh r).2) := by
  rw [runProc_eq_runFrom]
  exact (runFrom_inv (I := fun _ => True)
    (fun p r _ => ⟨trivial, by simp only [inspect, loadModel, hs, if_true]⟩) rs p trivial).2

/-- … but the cached data object is polluted (this is what the digest sees) -/
theorem unsafe_cache_polluted (cfg : Cfg) (h : cfg.safe = false) :
    ∃ (disk : Nat → Db) (r : Request), ¬ (inspect cfg disk Proc.fresh r).1.Clean disk := by
  refine ⟨fun _ => db1, ⟨0, rmw1⟩, fun hc => ?_⟩
  have := hc _ List.mem_cons_self
  rw [loadModel_fresh] at this
  exact analyse_rmw_unsafe_ne h db1 0 0 _ (by decide) (by decide) this

/-- … and once the runtime cache is effective the pollution reaches the next report -/
theorem unsafe_unshadowed_history_dependent (cfg : Cfg) (h : cfg.safe = false)
    (hs : cfg.cacheShadowed = false) :
    ∃ (disk : Nat → Db) (r : Request),
      (runProc cfg disk Proc.fresh [r, r]).2[1]? ≠ some (inspect cfg disk Proc.fresh r).2 := by
  refine ⟨fun _ => db1, ⟨0, rmw1⟩, ?_⟩
  simp only [runProc, inspect, loadModel, Proc.lookup, Proc.fresh, hs, rmw1, analyse_rmw_unsafe h]
  decide +kernel

/-! ### non-vacuity -/

/-- a kernel with every kind of line -/
def kAll : Kernel :=
  [⟨.found 0, some 0⟩, ⟨.load 0 (.entry 0), none⟩, ⟨.load 0 .dflt, none⟩, ⟨.store 0 (.entry 0), some 0⟩,
   ⟨.rmw 0 (.entry 0) (.entry 0), none⟩, ⟨.rmw 0 .dflt .dflt, none⟩, ⟨.unknown, none⟩, ⟨.other, none⟩]

-- the current configuration is what the translator says, and it is safe
example : genCfg.rmwInPlace = false ∧ genCfg.loadByRef = true ∧ genCfg.foundByRef = true := by decide +kernel
-- the model really computes something: rows of the repaired code on `db1`
example : (analyse genCfg db1 kAll).2.map (·.uops) =
    [[1], [1, 2], [1, 4], [1, 3], [1, 2, 3], [1, 4, 5], [], []] := by decide +kernel
example : (analyse genCfg db1 kAll).2.map (·.known) = [true, true, true, true, true, true, false, true] := by decide +kernel
example : (analyse genCfg db1 kAll).2.map (·.hid) = [[6], [], [], [6], [], [], [], []] := by decide +kernel
example : (analyse genCfg db1 kAll).1 = db1 := by decide +kernel
-- references are really handed out: the row of a found form aliases the table
example : ((semantics genCfg db1 kAll).2.map (·.uops.isRef)) =
    [true, false, false, false, false, false, false, false] := by decide +kernel
-- the unrepaired code: database changed, second report differs, cache polluted
example : (analyse { genCfg with rmwInPlace := true } db1 rmw1).1 ≠ db1 := by decide +kernel
example : (runHistory { genCfg with rmwInPlace := true } db1 [rmw1, rmw1]).2.map (fun r => r.map (·.uops)) =
    [[[1, 2, 3]], [[1, 2, 3, 3]]] := by decide +kernel
example : (runHistory genCfg db1 [rmw1, rmw1]).2.map (fun r => r.map (·.uops)) =
    [[[1, 2, 3]], [[1, 2, 3]]] := by decide +kernel
-- within one kernel the unrepaired code already shows the growth (two load+store instructions)
example : (analyse { genCfg with rmwInPlace := true } db1 (rmw1 ++ rmw1)).2.map (·.uops) =
    [[1, 2, 3], [1, 2, 3, 3]] := by decide +kernel
-- the safe hypothesis is satisfiable and refutable
example : ({ genCfg with rmwInPlace := true } : Cfg).safe = false := by decide +kernel
example : ({ genCfg with rmwInPlace := true, loadByRef := false } : Cfg).safe = true := by decide +kernel
-- process level: shadowed cache hides the pollution from the reports, unshadowed does not
example : (runProc { genCfg with rmwInPlace := true, cacheShadowed := true } (fun _ => db1) Proc.fresh [⟨0, rmw1⟩, ⟨0, rmw1⟩]).2.map
    (fun r => r.map (·.uops)) = [[[1, 2, 3]], [[1, 2, 3]]] := by decide +kernel
example : (runProc { genCfg with rmwInPlace := true, cacheShadowed := false } (fun _ => db1) Proc.fresh
    [⟨0, rmw1⟩, ⟨0, rmw1⟩]).2.map (fun r => r.map (·.uops)) = [[[1, 2, 3]], [[1, 2, 3, 3]]] := by decide +kernel
example : (runProc genCfg (fun _ => db1) Proc.fresh [⟨0, kAll⟩, ⟨1, rmw1⟩, ⟨0, kAll⟩]).1.cache.map (·.1) = [0, 1] := by
  decide +kernel
-- the oracle
example : firstDiff [1, 2, 3] [1, 2, 4] = some 2 ∧ firstDiff [1, 2] [1, 2] = none ∧ firstDiff [1] [1, 2] = some 1 := by
  decide +kernel
example : firstPolluted [(0, 7), (1, 8)] [[(0, 7)], [(0, 7), (1, 9)], [(1, 8)]] = some 1 := by decide +kernel

end OsacaVerif.Props.C18
