import OsacaVerif.Model.Isa
import OsacaVerif.Lemmas.Roles
import OsacaVerif.Gen.IsaDb_x86
import OsacaVerif.Gen.IsaDb_aarch64
/-
  C03 (roles part) / C06 (register changes part) — what counts as read or written follows the ISA semantics.

  `Isa.assignSrcDst` mirrors `ISASemantics.assign_src_dst`, `Isa.regChanges` mirrors `get_reg_changes`
  (Model/Isa.lean); the `operation` mini-programs and the ISA databases are generated from the source
  (Gen/Operations.lean, Gen/IsaDb_x86.lean, Gen/IsaDb_aarch64.lean).  The theorems state the decision logic
  outright, for every ISA entry, every operand list and every immediate value.
-/
namespace OsacaVerif.Props.C03Roles
open OsacaVerif OsacaVerif.Text OsacaVerif.Operand OsacaVerif.Isa OsacaVerif.IsaOp

/-- **roles_spec (entry, explicit operands)**: unless the zero idiom applies, operand `i` of the instruction is
    put into `source` / `destination` / `src_dst` exactly according to the flags of the entry's `i`-th operand:
    source only → `source`, destination only → `destination`, both → `src_dst` (neither → nowhere). -/
theorem roles_spec (e : IsaEntry) (ops : List Opnd) (hz : (e.brk && adjEq ops) = false) (i : Nat) (o : Opnd) :
    (.op i o ∈ (applyEntry e ops).src ↔
        ∃ r, ops[i]? = some o ∧ e.roles[i]? = some r ∧ r.src = true ∧ r.dst = false) ∧
    (.op i o ∈ (applyEntry e ops).dst ↔
        ∃ r, ops[i]? = some o ∧ e.roles[i]? = some r ∧ r.src = false ∧ r.dst = true) ∧
    (.op i o ∈ (applyEntry e ops).srcDst ↔
        ∃ r, ops[i]? = some o ∧ e.roles[i]? = some r ∧ r.src = true ∧ r.dst = true) := by
  -- each list is a pick of explicit operands followed by hidden ones; the hidden part holds no `.op`, the pick holds
  -- `operands[i]` iff its role passes the list's test (`mem_pick_indexed`)
  simp only [applyEntry, hz, Bool.false_eq_true, if_false, List.mem_append, op_not_mem_pickHidden, or_false,
    mem_pick_indexed, isSrc, isDst, isSrcDst, Bool.and_eq_true, Bool.not_eq_true', and_self]

/-- **roles_spec (entry, hidden operands)**: a hidden operand goes to `src_dst` if it is both source and
    destination, to `source` if it is a source only, and to `destination` otherwise. -/
theorem roles_spec_hidden (e : IsaEntry) (ops : List Opnd) (hz : (e.brk && adjEq ops) = false) (h : HOp) :
    (.hid h ∈ (applyEntry e ops).src ↔ ∃ r, (h, r) ∈ e.hidden ∧ r.src = true ∧ r.dst = false) ∧
    (.hid h ∈ (applyEntry e ops).dst ↔ ∃ r, (h, r) ∈ e.hidden ∧ r.src = false) ∧
    (.hid h ∈ (applyEntry e ops).srcDst ↔ ∃ r, (h, r) ∈ e.hidden ∧ r.src = true ∧ r.dst = true) := by
  -- the pick of explicit operands holds no `.hid`; the hidden part is a filter by the role test (`mem_pickHidden`)
  simp only [applyEntry, hz, Bool.false_eq_true, if_false, List.mem_append, hid_not_mem_pick, false_or,
    mem_pickHidden, hidSrc, hidDst, hidSrcDst, Bool.and_eq_true, Bool.not_eq_true', and_self]

/-- **roles_spec (zero idiom)**: with `breaks_dependency_on_equal_operands` and all operands equal
    (`operands[1:] == operands[:-1]`), every operand and every hidden operand is a destination and nothing is read. -/
theorem roles_spec_zero_idiom (e : IsaEntry) (ops : List Opnd) (hb : e.brk = true) (heq : adjEq ops = true) :
    (applyEntry e ops).src = [] ∧ (applyEntry e ops).srcDst = [] ∧
    (∀ i o, .op i o ∈ (applyEntry e ops).dst ↔ ops[i]? = some o) ∧
    (∀ h, .hid h ∈ (applyEntry e ops).dst ↔ ∃ r, (h, r) ∈ e.hidden) := by
  simp only [applyEntry, hb, heq, Bool.and_self, if_true, List.mem_append, true_and]
  exact ⟨fun i o => by simp [mem_indexed], fun h => by simp [indexed, hid_not_mem_indexedFrom]⟩

/-- the idiom test itself: all neighbouring operands are equal (so all operands are) -/
theorem zero_idiom_test (ops : List Opnd) :
    adjEq ops = true ↔ ∀ j a b, ops[j]? = some a → ops[j + 1]? = some b → a.key = b.key := by
  induction ops with
  | nil => simp [adjEq]
  | cons x xs ih =>
    cases xs with
    | nil => simp [adjEq]
    | cons y ys =>
      rw [adjEq, Bool.and_eq_true, beq_iff_eq, ih]
      constructor
      · rintro ⟨h0, hr⟩ (_ | j) a b ha hb
        · cases ha; cases hb; exact h0
        · exact hr j a b ha hb
      · exact fun h => ⟨h 0 x y rfl rfl, fun j => h (j + 1)⟩

/-- **roles_spec (no entry, x86)**: the last operand is the destination, all others are sources. -/
theorem roles_spec_default_x86 (init : List Opnd) (l : Opnd) (hne : init ≠ []) :
    defaultSem .x86 (init ++ [l]) = { src := indexed init, dst := [.op init.length l], srcDst := [] } := by
  have hidx : indexed (init ++ [l]) = indexed init ++ [.op init.length l] := by
    rw [indexed, indexedFrom_append, Nat.zero_add]
    rfl
  unfold defaultSem
  split
  · next hx =>
    cases init with
    | nil => exact absurd rfl hne
    | cons a as => cases as <;> cases hx
  · rw [show Gen.defaultSrcX86 = (some 0, some (-1)) from rfl, show Gen.defaultDstX86 = (some (-1), none) from rfl,
      pySlice_0_m1, pySlice_m1_none, hidx, List.dropLast_concat, List.length_append, List.length_singleton,
      Nat.add_sub_cancel, List.drop_left]

/-- **roles_spec (no entry, AArch64)**: the first operand is the destination, all others are sources. -/
theorem roles_spec_default_a64 (f : Opnd) (rest : List Opnd) (hne : rest ≠ []) :
    defaultSem .a64 (f :: rest) = { src := indexedFrom 1 rest, dst := [.op 0 f], srcDst := [] } := by
  unfold defaultSem
  split
  · next h => simp at h; exact absurd h.2 hne
  · simp only [show Gen.defaultSrcA64 = (some 1, none) from rfl, show Gen.defaultDstA64 = (none, some 1) from rfl,
      pySlice_1_none, pySlice_none_1]
    simp [indexed, indexedFrom]

/-- **roles_spec (no entry, one operand)**: a single operand is a source, on both ISAs. -/
theorem roles_spec_default_single (isa : Isa) (o : Opnd) :
    defaultSem isa [o] = { src := [.op 0 o], dst := [], srcDst := [] } := by
  simp [defaultSem, indexed, indexedFrom, show Gen.singleIsSource = true from rfl,
    show Gen.singleIsDestination = false from rfl]

/-- no operand at all: nothing is read or written -/
theorem roles_spec_default_none (isa : Isa) : defaultSem isa [] = { src := [], dst := [], srcDst := [] } := by
  cases isa <;> simp [defaultSem, indexed, indexedFrom, pySlice]

/-- **when the default applies**: neither the lookup with the operands as written nor (for memory forms) the
    lookup with every memory operand replaced by the register wildcard finds an entry -/
theorem roles_default_iff (isa : Isa) (db : List IsaEntry) (name : Txt) (ops : List Opnd)
    (h1 : lookup isa db name (ops.map (·.p)) = none)
    (h2 : lookup isa db name (substituteMem (ops.map (·.p))) = none) :
    baseSem isa db name ops = defaultSem isa ops := by
  simp only [baseSem, h1, h2]
  split <;> rfl

/-- an entry found for the operands as written decides the roles -/
theorem roles_entry_direct (isa : Isa) (db : List IsaEntry) (name : Txt) (ops : List Opnd) (e : IsaEntry)
    (h : lookup isa db name (ops.map (·.p)) = some e) : baseSem isa db name ops = applyEntry e ops := by
  simp [baseSem, h]

/-- a memory form without an entry of its own takes the roles of the register form (second lookup) -/
theorem roles_entry_wildcard (isa : Isa) (db : List IsaEntry) (name : Txt) (ops : List Opnd) (e : IsaEntry)
    (h1 : lookup isa db name (ops.map (·.p)) = none) (hm : (ops.map (·.p)).any isMemP = true)
    (h2 : lookup isa db name (substituteMem (ops.map (·.p))) = some e) :
    baseSem isa db name ops = applyEntry e ops := by
  simp [baseSem, h1, hm, h2]

/-- an entry that decides the roles has one operand pattern per operand of the instruction (and, in the shipped
    databases, one pair of flags per pattern: `db_roles_total`) -/
theorem entry_arity (isa : Isa) (db : List IsaEntry) (name : Txt) (ops : List Opnd) (e : IsaEntry)
    (h : lookup isa db name (ops.map (·.p)) = some e ∨ lookup isa db name (substituteMem (ops.map (·.p))) = some e) :
    e.e.operands.length = ops.length := by
  rcases h with h | h
  · simpa using Match.matchOperands_length _ _ _ (lookup_some isa db name _ e h).2
  · simpa [substituteMem_length] using Match.matchOperands_length _ _ _ (lookup_some isa db name _ e h).2

/-- **roles_spec (write-back)**: on AArch64 the base register of every pre- or post-indexed memory operand among
    the sources, then among the destinations, is appended to `src_dst` (carrying the memory operand's
    `pre_indexed` / `post_indexed`); `source` and `destination` stay as they are.  x86 has no such step. -/
theorem roles_spec_writeback (db : List IsaEntry) (name : Txt) (ops : List Opnd) :
    semOf .x86 db name ops = baseSem .x86 db name ops ∧
    (semOf .a64 db name ops).src = (baseSem .a64 db name ops).src ∧
    (semOf .a64 db name ops).dst = (baseSem .a64 db name ops).dst ∧
    (semOf .a64 db name ops).srcDst =
      (baseSem .a64 db name ops).srcDst ++ (baseSem .a64 db name ops).src.filterMap wbOf ++
        (baseSem .a64 db name ops).dst.filterMap wbOf := by
  simp [semOf, writeBack]

/-- which register that is: `operands[i].base` of a memory operand with `pre_indexed` or `post_indexed` set -/
theorem writeback_register (x : SemOp) (i : Nat) (b : PReg) (pre post : Bool) (pv : Val) :
    wbOf x = some (.wb i b pre post pv) ↔
      ∃ o m, x = .op i o ∧ o.p = .mem m ∧ (m.post || m.pre) = true ∧ m.base = some b ∧ pre = m.pre ∧ post = m.post ∧
        pv = o.postVal := by
  constructor
  · intro h
    obtain ⟨j, o, m, b', rfl, hp, hpp, hb, hy⟩ := wbOf_eq_some h
    cases hy
    exact ⟨o, m, rfl, hp, hpp, hb, rfl, rfl, rfl⟩
  · rintro ⟨o, m, rfl, hp, hpp, hb, rfl, rfl, rfl⟩
    simp [wbOf, hp, hpp, hb]

/-! ## every operand lands in exactly one list -/

/-- **roles_partition**: for an instruction with an entry (no idiom) whose `i`-th operand has the flags `r`,
    operand `i` occurs exactly once over the three lists if `r` is a source or a destination, and nowhere if
    it is neither (the branch targets of the AArch64 database). -/
theorem roles_partition (e : IsaEntry) (ops : List Opnd) (hz : (e.brk && adjEq ops) = false)
    (i : Nat) (o : Opnd) (r : Role) (ho : ops[i]? = some o) (hr : e.roles[i]? = some r) :
    occ i (applyEntry e ops).src + occ i (applyEntry e ops).dst + occ i (applyEntry e ops).srcDst =
      if r.src || r.dst then 1 else 0 := by
  -- per list `operands[i]` occurs once or not at all according to the list's test on `r` (`occ_pick`); the three tests
  -- are exclusive and cover `r.src || r.dst`
  simp only [applyEntry, hz, Bool.false_eq_true, if_false, occ_append, occ_pickHidden, Nat.add_zero,
    occ_pick _ _ _ _ _ _ ho hr, isSrc, isDst, isSrcDst]
  cases r with
  | mk s d => cases s <;> cases d <;> rfl

/-- with the zero idiom every operand occurs exactly once, as a destination -/
theorem roles_partition_zero_idiom (e : IsaEntry) (ops : List Opnd) (hb : e.brk = true) (heq : adjEq ops = true)
    (i : Nat) (hi : i < ops.length) :
    occ i (applyEntry e ops).src = 0 ∧ occ i (applyEntry e ops).dst = 1 ∧ occ i (applyEntry e ops).srcDst = 0 := by
  simp only [applyEntry, hb, heq, Bool.and_self, if_true, occ_append, occ_hidden_map, Nat.add_zero]
  exact ⟨rfl, occ_of_sublist (List.Sublist.refl _) i ops[i] ((mem_indexed ops i _).mpr (List.getElem?_eq_getElem hi)), rfl⟩

/-- the database side of `roles_partition`: every entry of the two shipped ISA databases has one pair of flags
    per operand pattern (so every operand of a matched instruction has a role) -/
theorem db_roles_total :
    (Gen.isaDbX86.all fun e => e.roles.length == e.e.operands.length) = true ∧
    (Gen.isaDbA64.all fun e => e.roles.length == e.e.operands.length) = true := by
  constructor <;> decide +kernel

theorem isMem_of_pick (f : Role → Bool) (roles : List Role) (k : Nat) (ops : List Opnd) :
    (pick f roles (indexedFrom k ops)).any isMem = true ↔
      ∃ (j : Nat) (o : Opnd) (r : Role), ops[j]? = some o ∧ roles[j]? = some r ∧ f r = true ∧ isMemP o.p = true := by
  simp only [List.any_eq_true, mem_pick_iff, getElem?_indexedFrom, Option.map_eq_some_iff]
  constructor
  · rintro ⟨_, ⟨j, r, hr, ⟨o, ho, rfl⟩, hf⟩, hm⟩
    exact ⟨j, o, r, ho, hr, hf, hm⟩
  · rintro ⟨j, o, r, ho, hr, hf, hm⟩
    exact ⟨_, ⟨j, r, hr, ⟨o, ho, rfl⟩, hf⟩, hm⟩

theorem isMem_of_pickHidden (f : Role → Bool) (hs : List (HOp × Role)) :
    (pickHidden f hs).any isMem = true ↔ ∃ (b : Option Txt) (i : Option (Option Txt × Txt)) (sc : Int) (off : Bool) (r : Role), (HOp.mem b i sc off, r) ∈ hs ∧ f r = true := by
  simp only [pickHidden, List.any_map, List.any_filter, List.any_eq_true, Function.comp, Bool.and_eq_true]
  constructor
  · rintro ⟨⟨h, r⟩, hm, hf, hi⟩
    cases h with
    | mem b i sc off => exact ⟨b, i, sc, off, r, hm, hf⟩
    | _ => cases hi
  · rintro ⟨b, i, sc, off, r, hm, hf⟩
    exact ⟨_, hm, hf, rfl⟩

/-- **has_load_iff**: `HAS_LD` is set iff a memory operand is read — an explicit memory operand whose entry
    operand is a source (alone or together with destination), or a hidden memory operand that is a source. -/
theorem has_load_iff (e : IsaEntry) (ops : List Opnd) (hz : (e.brk && adjEq ops) = false) :
    hasLoad (applyEntry e ops) = true ↔
      (∃ (j : Nat) (o : Opnd) (r : Role), ops[j]? = some o ∧ e.roles[j]? = some r ∧ r.src = true ∧ isMemP o.p = true) ∨
      (∃ (b : Option Txt) (i : Option (Option Txt × Txt)) (sc : Int) (off : Bool) (r : Role), (HOp.mem b i sc off, r) ∈ e.hidden ∧ r.src = true) := by
  have hs : (fun r => isSrc r || isSrcDst r) = Role.src := funext fun ⟨s, d⟩ => by cases s <;> cases d <;> rfl
  -- `hidSrc`, `hidSrcDst` are the same tests as `isSrc`, `isSrcDst` (only `hidDst` differs from `isDst`)
  have hh : (fun r => hidSrc r || hidSrcDst r) = Role.src := hs
  -- the lists read are `src ++ src_dst`: regroup into the explicit and the hidden operands picked by `r.src`
  simp only [hasLoad, applyEntry, hz, Bool.false_eq_true, if_false, List.any_append]
  rw [bor_bor_bor_comm, any_pick_or, any_pickHidden_or, hs, hh, Bool.or_eq_true, indexed, isMem_of_pick, isMem_of_pickHidden]

/-- **has_store_iff**: `HAS_ST` is set iff a memory operand is written — an explicit memory operand whose entry
    operand is a destination, or a hidden memory operand that lands in `destination` / `src_dst`
    (i.e. is not a pure source). -/
theorem has_store_iff (e : IsaEntry) (ops : List Opnd) (hz : (e.brk && adjEq ops) = false) :
    hasStore (applyEntry e ops) = true ↔
      (∃ (j : Nat) (o : Opnd) (r : Role), ops[j]? = some o ∧ e.roles[j]? = some r ∧ r.dst = true ∧ isMemP o.p = true) ∨
      (∃ (b : Option Txt) (i : Option (Option Txt × Txt)) (sc : Int) (off : Bool) (r : Role), (HOp.mem b i sc off, r) ∈ e.hidden ∧ (r.src = false ∨ r.dst = true)) := by
  have hs : (fun r => isDst r || isSrcDst r) = Role.dst := funext fun ⟨s, d⟩ => by cases s <;> cases d <;> rfl
  have hh : (fun r => hidDst r || hidSrcDst r) = fun r => !r.src || r.dst := funext fun ⟨s, d⟩ => by cases s <;> cases d <;> rfl
  simp only [hasStore, applyEntry, hz, Bool.false_eq_true, if_false, List.any_append]
  rw [bor_bor_bor_comm, any_pick_or, any_pickHidden_or, hs, hh, Bool.or_eq_true, indexed, isMem_of_pick, isMem_of_pickHidden]
  simp only [Bool.or_eq_true, Bool.not_eq_true']

/-- the flags are computed after the write-back step, which adds registers only -/
theorem has_load_store_writeback (s : Sem) :
    hasLoad (writeBack s) = hasLoad s ∧ hasStore (writeBack s) = hasStore s := by
  have hwb : ∀ l : List SemOp, (l.filterMap wbOf).any isMem = false := by
    intro l
    rw [List.any_eq_false]
    intro y hy
    obtain ⟨x, _, hx⟩ := List.mem_filterMap.mp hy
    obtain ⟨_, _, _, _, _, _, _, _, rfl⟩ := wbOf_eq_some hx
    exact Bool.false_ne_true
  simp [hasLoad, hasStore, writeBack, List.any_append, hwb]

/-- a line without an instruction has no roles and no flags -/
theorem no_instruction (isa : Isa) (db : List IsaEntry) (ops : List Opnd) :
    assignSrcDst isa db none ops = { sem := { src := [], dst := [], srcDst := [] }, hasLd := false, hasSt := false } := rfl

theorem preIndexed_none (b : Bool) (t : Track) (ops : List Opnd)
    (h : ∀ o ∈ ops, ∀ m, o.p = .mem m → m.pre = false) : preIndexed b t ops = .ok t := by
  rw [← List.append_nil ops, preIndexed_append b t h]
  rfl

theorem mem_dedupKeys {α : Type} (l : List (Txt × α)) (x : Txt × α) (h : x ∈ dedupKeys l) : x ∈ l := by
  induction l with
  | nil => simp [dedupKeys] at h
  | cons a as ih =>
    obtain ⟨k, v⟩ := a
    simp only [dedupKeys, List.mem_cons, List.mem_filter] at h
    rcases h with h | h
    · simp [h]
    · exact List.mem_cons_of_mem _ (ih h.1)

/-- **unknown change**: for an instruction whose ISA entry has no `operation` (or that has no entry) and that has
    no pre-indexed memory operand, every reported destination register is reported as `None`
    ("changed beyond reconstruction"). -/
theorem reg_changes_unknown (isa : Isa) (db : List IsaEntry) (name : Txt) (ops : List Opnd) (sem : Sem)
    (hop : (lookup isa db name (ops.map (·.p))).bind (·.operation) = none)
    (hpre : ∀ o ∈ ops, ∀ m, o.p = .mem m → m.pre = false) :
    regChanges isa db (some name) ops sem false = .ok (dedupKeys ((destNames sem).map fun r => (r, none))) := by
  rw [regChanges_eq_of_operation_none _ _ _ _ _ hop, preIndexed_none _ _ _ hpre]
  rfl

/-- … and so no destination register without operation carries a value -/
theorem reg_changes_unknown_none (isa : Isa) (db : List IsaEntry) (name : Txt) (ops : List Opnd) (sem : Sem)
    (hop : (lookup isa db name (ops.map (·.p))).bind (·.operation) = none)
    (hpre : ∀ o ∈ ops, ∀ m, o.p = .mem m → m.pre = false) (l : List (Txt × Option OpState))
    (hl : regChanges isa db (some name) ops sem false = .ok l) :
    ∀ r c, (r, c) ∈ l → c = none ∧ r ∈ destNames sem := by
  rw [reg_changes_unknown isa db name ops sem hop hpre] at hl
  injection hl with hl
  subst hl
  intro r c hm
  have := mem_dedupKeys _ _ hm
  simp only [List.mem_map, Prod.mk.injEq] at this
  obtain ⟨r', h1, h2, h3⟩ := this
  subst h2
  exact ⟨h3.symm, h1⟩

/-- **with an operation**: the reported change of a destination register is the state of its operand after running
    the entry's program on `op1 …` (registers start at value 0 under their own name, immediates carry their value) -/
theorem reg_changes_program (isa : Isa) (db : List IsaEntry) (name : Txt) (ops : List Opnd) (sem : Sem)
    (e : IsaEntry) (p : Prog) (hl : lookup isa db name (ops.map (·.p)) = some e) (hp : e.operation = some p)
    (hpre : ∀ o ∈ ops, ∀ m, o.p = .mem m → m.pre = false) :
    regChanges isa db (some name) ops sem false =
      match bindOperands 0 e.roles ops {} with
      | .error err => .error err
      | .ok t =>
        match exec t.state p with
        | .error err => .error err
        | .ok s => .ok (dedupKeys ((destNames sem).map fun r => (r, changeOf { t with state := s } r))) := by
  simp only [regChanges, Bool.false_eq_true, if_false, hl, Option.bind_some, hp, Option.isSome_some,
    preIndexed_none _ _ _ hpre]
  cases bindOperands 0 e.roles ops {} with
  | error err => rfl
  | ok t =>
    dsimp only
    cases exec t.state p with
    | error err => rfl
    | ok s => rfl

/-- **post-indexed query**: the first memory operand with a base and a post-index value `v` reports
    `base = base + v`; nothing else is reported -/
theorem reg_changes_post (isa : Isa) (db : List IsaEntry) (name : Txt) (sem : Sem) (pre : List Opnd) (o : Opnd)
    (rest : List Opnd) (m : PMem) (b : PReg) (v : Int)
    (hpre : ∀ x ∈ pre, ∀ m', x.p = .mem m' → m'.post = false)
    (ho : o.p = .mem m) (hb : m.base = some b) (hpost : m.post = true) (hv : o.postVal = .int v) :
    regChanges isa db (some name) (pre ++ o :: rest) sem true =
      .ok [(fullName b.pfx b.name, some { name := some (fullName b.pfx b.name), value := some v })] := by
  rw [regChanges_eq_postChange, postChange_append hpre, postChange]
  simp only [ho, hb, hpost, hv, valInt]

/-- no post-indexed memory operand: the post-indexed query reports nothing -/
theorem reg_changes_post_none (isa : Isa) (db : List IsaEntry) (name : Txt) (sem : Sem) (ops : List Opnd)
    (h : ∀ x ∈ ops, ∀ m', x.p = .mem m' → m'.post = false) :
    regChanges isa db (some name) ops sem true = .ok [] := by
  rw [regChanges_eq_postChange, ← List.append_nil ops, postChange_append h]
  rfl

/-- **post-index by a register** (`ld1 {v0.4s}, [x0], x1`, `st1 {v0.16b}, [x2], x3`: `post_indexed` is the parser's
    dictionary WITHOUT a `"value"` key, `Val.absent`): the post-indexed query reports the base register as changed by an
    unknown amount, `{base: None}`, and nothing else — for EVERY base register `b` and EVERY such operand `o` (the
    index register is not read by the query at all: it is part of the operand's identity `o.key` only, and `o` is
    arbitrary), at any operand position behind operands that are not post-indexed.  In particular the query is not
    an error: `postChange` tests for the key before it reads `post_indexed["value"]`. -/
theorem reg_changes_post_register (isa : Isa) (db : List IsaEntry) (name : Txt) (sem : Sem) (pre : List Opnd) (o : Opnd)
    (rest : List Opnd) (m : PMem) (b : PReg)
    (hpre : ∀ x ∈ pre, ∀ m', x.p = .mem m' → m'.post = false)
    (ho : o.p = .mem m) (hb : m.base = some b) (hpost : m.post = true) (hv : o.postVal = .absent) :
    regChanges isa db (some name) (pre ++ o :: rest) sem true = .ok [(fullName b.pfx b.name, none)] := by
  rw [regChanges_eq_postChange, postChange_append hpre, postChange]
  simp only [ho, hb, hpost, hv]

/-- **the post-indexed query never raises**: for ALL instructions and operand lists its only failure is a value
    outside the model (`Val.other`: a `"value"` that is not an integer — the parser produces none); `KeyError`,
    `TypeError`, … are unreachable: the one value on which `valInt` answers `KeyError`, `.absent`, never reaches it. -/
theorem reg_changes_post_error (isa : Isa) (db : List IsaEntry) (mn : Option Txt) (ops : List Opnd) (sem : Sem) (e : Err)
    (h : regChanges isa db mn ops sem true = .error e) : e = .unsupported ∧ ∃ o ∈ ops, o.postVal = .other := by
  cases mn with
  | none => cases h
  | some name =>
    rw [regChanges_eq_postChange] at h
    have lift : ∀ {x : Opnd} {xs : List Opnd}, (e = .unsupported ∧ ∃ o ∈ xs, o.postVal = .other) →
        e = .unsupported ∧ ∃ o ∈ x :: xs, o.postVal = .other :=
      fun ⟨h1, o, ho, h2⟩ => ⟨h1, o, List.mem_cons_of_mem _ ho, h2⟩
    fun_induction postChange ops with
    | case1 => cases h
    | case2 => cases h
    | case3 o rest m b e' _ _ _ hna hv =>
      -- a post-index value that is present: only a non-integer raises
      cases hp : o.postVal with
      | other => rw [hp] at hv; cases hv; cases h; exact ⟨rfl, o, List.mem_cons_self, hp⟩
      | absent => exact absurd hp hna
      | _ => rw [hp] at hv; cases hv
    | case4 => cases h
    | case5 _ _ _ _ _ ih => exact lift (ih h)
    | case6 _ _ _ ih => exact lift (ih h)

/-- … in particular no `KeyError: 'value'`, whatever the operands are -/
theorem reg_changes_post_no_key_error (isa : Isa) (db : List IsaEntry) (mn : Option Txt) (ops : List Opnd) (sem : Sem) :
    regChanges isa db mn ops sem true ≠ .error .keyError := by
  intro h
  have := (reg_changes_post_error isa db mn ops sem _ h).1
  cases this

/-- a line without an instruction changes nothing -/
theorem reg_changes_no_instruction (isa : Isa) (db : List IsaEntry) (ops : List Opnd) (sem : Sem) (b : Bool) :
    regChanges isa db none ops sem b = .ok [] := rfl

/-- the program of the entry that `name ops` selects in `db` (empty if there is none) -/
def progOf (isa : Isa) (db : List IsaEntry) (name : Txt) (ops : List POperand) : Prog :=
  ((lookup isa db name ops).bind (·.operation)).getD []

def nAdd : Txt := [97, 100, 100]          -- "add"
def nAddq : Txt := [97, 100, 100, 113]    -- "addq"
def nSub : Txt := [115, 117, 98]          -- "sub"
def nInc : Txt := [105, 110, 99]          -- "inc"
def nDec : Txt := [100, 101, 99]          -- "dec"
def nMov : Txt := [109, 111, 118]         -- "mov"
def nAdds : Txt := [97, 100, 100, 115]    -- "adds"
def nXor : Txt := [120, 111, 114]         -- "xor"
def nLdr : Txt := [108, 100, 114]         -- "ldr"
def nFoo : Txt := [102, 111, 111]         -- "foo" (no entry)
def rax : Txt := [114, 97, 120]
def rbx : Txt := [114, 98, 120]
def tInt : Txt := [105, 110, 116]         -- "int"
def tX : Txt := [120]                     -- "x"

/-- an x86 general purpose register operand -/
def pX86 (n : Txt) : POperand := .reg { name := n }
/-- an AArch64 `x<n>` register operand -/
def pA64 (n : Txt) : POperand := .reg { name := n, pfx := some tX }
/-- `$imm` (x86: no immediate type) / `#imm` (AArch64: type "int") -/
def pImmX86 : POperand := .imm none true false
def pImmA64 : POperand := .imm (some tInt) true false

/-- **op_add_imm** (x86 `add $n, %reg`): `op2['value'] += op1['value']` — for ALL immediates `n`, start values
    `v` and names, the destination operand ends at `v + n` under its own name. -/
theorem op_add_imm (nm : Option Txt) (v n : Int) :
    exec [(1, ⟨none, some n⟩), (2, ⟨nm, some v⟩)] (progOf .x86 Gen.isaDbX86 nAdd [pImmX86, pX86 rax]) =
      .ok [(1, ⟨none, some n⟩), (2, ⟨nm, some (v + n)⟩)] := by
  have h : progOf .x86 Gen.isaDbX86 nAdd [pImmX86, pX86 rax] = [.setValue 2 (.add (.val 2) (.val 1))] := by decide +kernel
  rw [h]
  rfl

/-- **op_sub_imm** (x86 `sub $n, %reg`): the destination ends at `v - n`. -/
theorem op_sub_imm (nm : Option Txt) (v n : Int) :
    exec [(1, ⟨none, some n⟩), (2, ⟨nm, some v⟩)] (progOf .x86 Gen.isaDbX86 nSub [pImmX86, pX86 rax]) =
      .ok [(1, ⟨none, some n⟩), (2, ⟨nm, some (v - n)⟩)] := by
  have h : progOf .x86 Gen.isaDbX86 nSub [pImmX86, pX86 rax] = [.setValue 2 (.sub (.val 2) (.val 1))] := by decide +kernel
  rw [h]
  rfl

/-- **op_inc / op_dec** (x86 `inc %reg`, `dec %reg`): `v + 1`, `v - 1`. -/
theorem op_inc (nm : Option Txt) (v : Int) :
    exec [(1, ⟨nm, some v⟩)] (progOf .x86 Gen.isaDbX86 nInc [pX86 rax]) = .ok [(1, ⟨nm, some (v + 1)⟩)] := by
  have h : progOf .x86 Gen.isaDbX86 nInc [pX86 rax] = [.setValue 1 (.add (.val 1) (.lit 1))] := by decide +kernel
  rw [h]
  rfl

theorem op_dec (nm : Option Txt) (v : Int) :
    exec [(1, ⟨nm, some v⟩)] (progOf .x86 Gen.isaDbX86 nDec [pX86 rax]) = .ok [(1, ⟨nm, some (v - 1)⟩)] := by
  have h : progOf .x86 Gen.isaDbX86 nDec [pX86 rax] = [.setValue 1 (.sub (.val 1) (.lit 1))] := by decide +kernel
  rw [h]
  rfl

/-- **op_mov** (x86 `mov %src, %dst`): the destination takes over the source's name AND value (a register copy
    is tracked as "dst = src + its change", never as an unknown). -/
theorem op_mov_x86 (ns nd : Txt) (vs vd : Option Int) :
    exec [(1, ⟨some ns, vs⟩), (2, ⟨some nd, vd⟩)] (progOf .x86 Gen.isaDbX86 nMov [pX86 rax, pX86 rbx]) =
      .ok [(1, ⟨some ns, vs⟩), (2, ⟨some ns, vs⟩)] := by
  have h : progOf .x86 Gen.isaDbX86 nMov [pX86 rax, pX86 rbx] = [.setName 2 1, .setValue 2 (.val 1)] := by decide +kernel
  rw [h]
  rfl

/-- **op_add_imm (AArch64 `add xd, xn, #imm`)**: `op1 = (name of op2, value of op2 + imm)`. -/
theorem op_add_imm_a64 (nd nn : Txt) (vd : Option Int) (v n : Int) :
    exec [(1, ⟨some nd, vd⟩), (2, ⟨some nn, some v⟩), (3, ⟨none, some n⟩)]
        (progOf .a64 Gen.isaDbA64 nAdd [pA64 [48], pA64 [49], pImmA64]) =
      .ok [(1, ⟨some nn, some (v + n)⟩), (2, ⟨some nn, some v⟩), (3, ⟨none, some n⟩)] := by
  have h : progOf .a64 Gen.isaDbA64 nAdd [pA64 [48], pA64 [49], pImmA64] =
      [.setValue 1 (.add (.val 2) (.val 3)), .setName 1 2] := by decide +kernel
  rw [h]
  rfl

theorem op_sub_imm_a64 (nd nn : Txt) (vd : Option Int) (v n : Int) :
    exec [(1, ⟨some nd, vd⟩), (2, ⟨some nn, some v⟩), (3, ⟨none, some n⟩)]
        (progOf .a64 Gen.isaDbA64 nSub [pA64 [48], pA64 [49], pImmA64]) =
      .ok [(1, ⟨some nn, some (v - n)⟩), (2, ⟨some nn, some v⟩), (3, ⟨none, some n⟩)] := by
  have h : progOf .a64 Gen.isaDbA64 nSub [pA64 [48], pA64 [49], pImmA64] =
      [.setValue 1 (.sub (.val 2) (.val 3)), .setName 1 2] := by decide +kernel
  rw [h]
  rfl

theorem op_mov_a64 (nd ns : Txt) (vd vs : Option Int) :
    exec [(1, ⟨some nd, vd⟩), (2, ⟨some ns, vs⟩)] (progOf .a64 Gen.isaDbA64 nMov [pA64 [48], pA64 [49]]) =
      .ok [(1, ⟨some ns, vs⟩), (2, ⟨some ns, vs⟩)] := by
  have h : progOf .a64 Gen.isaDbA64 nMov [pA64 [48], pA64 [49]] = [.setName 1 2, .setValue 1 (.val 2)] := by decide +kernel
  rw [h]
  rfl

/-! ## end to end on the shipped databases, for ALL immediates -/

def isFlagH : HOp × Role → Bool
  | (.flag _, _) => true
  | _ => false

/-- the lookup result is an entry with these roles and this program, no idiom flag, flag-only hidden operands -/
def entryIs (r : Option IsaEntry) (roles : List Role) (op : Option Prog) : Bool :=
  match r with
  | some e => e.roles == roles && e.operation == op && !e.brk && e.hidden.all isFlagH
  | none => false

theorem entryIs_spec (r : Option IsaEntry) (roles : List Role) (op : Option Prog) (h : entryIs r roles op = true) :
    ∃ e, r = some e ∧ e.roles = roles ∧ e.operation = op ∧ e.brk = false ∧ e.hidden.all isFlagH = true := by
  cases r with
  | none => simp [entryIs] at h
  | some e =>
    simp only [entryIs, Bool.and_eq_true, beq_iff_eq, Bool.not_eq_true'] at h
    exact ⟨e, rfl, h.1.1.1, h.1.1.2, h.1.2, h.2⟩

theorem destName_pickHidden_flags (f : Role → Bool) (hs : List (HOp × Role)) (h : hs.all isFlagH = true) :
    (pickHidden f hs).filterMap destName = [] := by
  rw [List.filterMap_eq_nil_iff]
  intro x hx
  simp only [pickHidden, List.mem_map, List.mem_filter] at hx
  obtain ⟨⟨hd, r⟩, ⟨hm, _⟩, rfl⟩ := hx
  have := List.all_eq_true.mp h _ hm
  cases hd with
  | flag n => rfl
  | _ => cases this

/-- destinations reported for an entry without idiom whose hidden operands are flags: the explicit ones -/
theorem destNames_entry (e : IsaEntry) (ops : List Opnd) (hb : e.brk = false) (hf : e.hidden.all isFlagH = true) :
    destNames (applyEntry e ops) =
      (pick isDst e.roles (indexed ops)).filterMap destName ++ (pick isSrcDst e.roles (indexed ops)).filterMap destName := by
  simp [destNames, applyEntry, hb, List.filterMap_append, destName_pickHidden_flags _ _ hf]

/-- without a memory operand among the explicit operands the write-back step changes nothing -/
theorem writeBack_noMem (e : IsaEntry) (ops : List Opnd) (h : ∀ o ∈ ops, isMemP o.p = false) :
    writeBack (applyEntry e ops) = applyEntry e ops := by
  have key : ∀ x, (x ∈ (applyEntry e ops).src ∨ x ∈ (applyEntry e ops).dst) → wbOf x = none := by
    intro x hx
    cases x with
    | op i o => exact wbOf_op_of_not_mem (h o (List.mem_of_getElem? (op_mem_applyEntry hx)))
    | hid _ => rfl
    | wb _ _ _ _ _ => rfl
  rw [writeBack, List.filterMap_eq_nil_iff.mpr fun x hx => key x (.inl hx),
    List.filterMap_eq_nil_iff.mpr fun x hx => key x (.inr hx), List.append_nil, List.append_nil]

def oImmX86 (n : Int) : Opnd := { p := pImmX86, key := [36], val := .int n }
def oImmA64 (n : Int) : Opnd := { p := pImmA64, key := [35], val := .int n }
def oX86 (nm : Txt) : Opnd := { p := pX86 nm, key := nm }
def oA64 (nm : Txt) : Opnd := { p := pA64 nm, key := 120 :: nm }

/-- **`addq $n, %rax`** (AT&T suffix fall-back to the entry `add imm, gpr` of isa/x86.yml): for every immediate
    `n` the analysis reports `rax = rax + n` — roles from `assign_src_dst`, change from `get_reg_changes`. -/
theorem x86_addq_imm_changes (n : Int) :
    regChanges .x86 Gen.isaDbX86 (some nAddq) [oImmX86 n, oX86 rax]
        (assignSrcDst .x86 Gen.isaDbX86 (some nAddq) [oImmX86 n, oX86 rax]).sem false =
      .ok [(rax, some ⟨some rax, some n⟩)] := by
  have hk : entryIs (lookup .x86 Gen.isaDbX86 nAddq [pImmX86, pX86 rax]) [⟨true, false⟩, ⟨true, true⟩]
      (some [.setValue 2 (.add (.val 2) (.val 1))]) = true := by decide +kernel
  obtain ⟨e, hl, hr, hp, hb, hf⟩ := entryIs_spec _ _ _ hk
  have hl' : lookup .x86 Gen.isaDbX86 nAddq ([oImmX86 n, oX86 rax].map (·.p)) = some e := hl
  have hnm : ∀ o ∈ [oImmX86 n, oX86 rax], isMemP o.p = false := noMem_of_any rfl
  rw [assignSrcDst_sem, (roles_spec_writeback _ _ _).1, roles_entry_direct _ _ _ _ e hl',
    reg_changes_program .x86 Gen.isaDbX86 nAddq _ _ e _ hl' hp (pre_false_of_noMem hnm), destNames_entry e _ hb hf, hr]
  -- what is left evaluates to `rax ↦ 0 + n`
  exact congrArg (fun x => Except.ok [(rax, some (OpState.mk (some rax) (some x)))]) (Int.zero_add n)

/-! ## AArch64: the lookup never reads a register's number, so the statements hold for ALL registers -/

def renameR (f : Txt → Txt) (r : PReg) : PReg := { r with name := f r.name }

/-- the same operand with other register numbers -/
def renameP (f : Txt → Txt) : POperand → POperand
  | .reg r => .reg (renameR f r)
  | .mem m => .mem { m with base := m.base.map (renameR f), index := m.index.map (renameR f) }
  | o => o

theorem checkOperand_a64_rename (f : Txt → Txt) (e : EOperand) (o : POperand) :
    Match.checkOperand .a64 e (renameP f o) = Match.checkOperand .a64 e o := by
  cases o with
  | reg r => cases e <;> rfl
  | mem m =>
    cases e with
    | mem b off i s pre post =>
      simp only [renameP, Match.checkOperand, Match.checkA64, Match.a64MemType]
      cases m.base <;> cases m.index <;> rfl
    | _ => rfl
  | _ => rfl

theorem matchOperands_a64_rename (f : Txt → Txt) (es : List EOperand) (os : List POperand) :
    Match.matchOperands .a64 es (os.map (renameP f)) = Match.matchOperands .a64 es os := by
  induction es generalizing os with
  | nil => cases os <;> simp [Match.matchOperands]
  | cons e es ih =>
    cases os with
    | nil => simp [Match.matchOperands]
    | cons o os => simp [Match.matchOperands, checkOperand_a64_rename, ih]

/-- **the AArch64 lookup is blind to register numbers** (only prefix, shape and lanes are compared) -/
theorem lookup_a64_rename (f : Txt → Txt) (db : List IsaEntry) (name : Txt) (os : List POperand) :
    lookup .a64 db name (os.map (renameP f)) = lookup .a64 db name os := by
  have h : ∀ n, getInstruction .a64 db n (os.map (renameP f)) = getInstruction .a64 db n os := by
    intro n
    simp [getInstruction, Match.entryMatches, matchOperands_a64_rename]
  simp [lookup, h]

/-- **`add xd, xn, #imm` for ALL registers and ALL immediates** (isa/aarch64.yml): the destination is reported as
    `xn + imm` — under the SOURCE register's name, also when `d = n` (pointer increment). -/
theorem a64_add_imm_changes_all (d s : Txt) (n : Int) :
    regChanges .a64 Gen.isaDbA64 (some nAdd) [oA64 d, oA64 s, oImmA64 n]
        (assignSrcDst .a64 Gen.isaDbA64 (some nAdd) [oA64 d, oA64 s, oImmA64 n]).sem false =
      .ok [(120 :: d, some ⟨some (120 :: s), some n⟩)] := by
  have hk : entryIs (lookup .a64 Gen.isaDbA64 nAdd [pA64 [48], pA64 [49], pImmA64])
      [⟨false, true⟩, ⟨true, false⟩, ⟨true, false⟩]
      (some [.setValue 1 (.add (.val 2) (.val 3)), .setName 1 2]) = true := by decide +kernel
  rw [← lookup_a64_rename (fun t => if t = [48] then d else s)] at hk
  obtain ⟨e, hl, hr, hp, hb, hf⟩ := entryIs_spec _ _ _ hk
  have hl' : lookup .a64 Gen.isaDbA64 nAdd ([oA64 d, oA64 s, oImmA64 n].map (·.p)) = some e := hl
  have hnm : ∀ o ∈ [oA64 d, oA64 s, oImmA64 n], isMemP o.p = false := noMem_of_any rfl
  rw [assignSrcDst_sem, semOf_a64, roles_entry_direct _ _ _ _ e hl', writeBack_noMem e _ hnm,
    reg_changes_program .a64 Gen.isaDbA64 nAdd _ _ e _ hl' hp (pre_false_of_noMem hnm), destNames_entry e _ hb hf, hr]
  -- plain evaluation of binding, program and report; it stops at the look-up of `xd` in the name table, which holds
  -- `xd ↦ op1` whether or not `xs` is the same register
  simp [bindOperands, oImmA64, oA64, pImmA64, pA64, valInt, nameGet, nameSet, statePut, fullName, exec, step, eval,
    IsaOp.get, IsaOp.set, arith, pick, indexed, indexedFrom, isDst, isSrcDst, destName, dedupKeys, changeOf, tX,
    show Gen.opIndexBase = 1 from rfl, show Gen.regInitValue = 0 from rfl]
  by_cases hds : d = s <;> simp [hds, nameGet]

/-- **`add x1, x1, #n`** (isa/aarch64.yml): for every immediate `n` the analysis reports `x1 = x1 + n`
    (the register is source and destination; it is tracked through its destination operand). -/
theorem a64_add_imm_changes (n : Int) :
    regChanges .a64 Gen.isaDbA64 (some nAdd) [oA64 [49], oA64 [49], oImmA64 n]
        (assignSrcDst .a64 Gen.isaDbA64 (some nAdd) [oA64 [49], oA64 [49], oImmA64 n]).sem false =
      .ok [(120 :: [49], some ⟨some (120 :: [49]), some n⟩)] :=
  a64_add_imm_changes_all [49] [49] n

/-! ## post-index by a register: `ld1 {vV.4s}, [xB], xI` for ALL registers -/

def nLd1 : Txt := [108, 100, 49]         -- "ld1"
def nSt1 : Txt := [115, 116, 49]         -- "st1"
def tV : Txt := [118]                     -- "v"

/-- `vN.4s` (a one-element register list is expanded to its member by the parser) -/
def pV4s (n : Txt) : POperand := .reg { name := n, pfx := some tV, shape := some [115], lanes := some [52] }
def oV4s (n : Txt) : Opnd := { p := pV4s n, key := 118 :: n }
/-- `[xB], xI`: post-indexed by the register `xI` — `post_indexed` is a dictionary without `"value"`;
    the index register shows in the operand's identity only -/
def pMemPost (b : Txt) : POperand :=
  .mem { base := some { name := b, pfx := some tX }, offset := .none, index := none, scale := 1, pre := false, post := true }
def oMemPostReg (b i : Txt) : Opnd := { p := pMemPost b, key := 109 :: (b ++ 44 :: i), postVal := .absent }

/-- **`ld1 {vV.4s}, [xB], xI` for ALL registers V, B, I** (isa/aarch64.yml has no entry for `ld1`: default roles):
    the vector register is the destination, the memory operand the source (`HAS_LD`), and the base `xB` is appended
    to `src_dst` with the post-index mark — it is read AND written; the post-indexed query reports `xB` as changed by an unknown amount
    (`{xB: None}`, never an error); the full query leaves the base out and reports the loaded register as unknown. -/
theorem a64_ld1_post_register_all (v b i : Txt) :
    assignSrcDst .a64 Gen.isaDbA64 (some nLd1) [oV4s v, oMemPostReg b i] =
      { sem := { src := [.op 1 (oMemPostReg b i)], dst := [.op 0 (oV4s v)],
                 srcDst := [.wb 1 { name := b, pfx := some tX } false true .absent] },
        hasLd := true, hasSt := false } ∧
    regChanges .a64 Gen.isaDbA64 (some nLd1) [oV4s v, oMemPostReg b i]
        (assignSrcDst .a64 Gen.isaDbA64 (some nLd1) [oV4s v, oMemPostReg b i]).sem true = .ok [(120 :: b, none)] ∧
    regChanges .a64 Gen.isaDbA64 (some nLd1) [oV4s v, oMemPostReg b i]
        (assignSrcDst .a64 Gen.isaDbA64 (some nLd1) [oV4s v, oMemPostReg b i]).sem false = .ok [(118 :: v, none)] := by
  have hk : lookup .a64 Gen.isaDbA64 nLd1 [pV4s [48], pMemPost [49]] = none ∧
      lookup .a64 Gen.isaDbA64 nLd1 (substituteMem [pV4s [48], pMemPost [49]]) = none := by
    constructor <;> decide +kernel
  have h1 : lookup .a64 Gen.isaDbA64 nLd1 ([oV4s v, oMemPostReg b i].map (·.p)) = none :=
    (lookup_a64_rename (fun t => if t = [48] then v else b) Gen.isaDbA64 nLd1 [pV4s [48], pMemPost [49]]).trans hk.1
  have h2 : lookup .a64 Gen.isaDbA64 nLd1 (substituteMem ([oV4s v, oMemPostReg b i].map (·.p))) = none :=
    (lookup_a64_rename (fun t => if t = [48] then v else b) Gen.isaDbA64 nLd1
      (substituteMem [pV4s [48], pMemPost [49]])).trans hk.2
  have hsem : semOf .a64 Gen.isaDbA64 nLd1 [oV4s v, oMemPostReg b i] =
      { src := [.op 1 (oMemPostReg b i)], dst := [.op 0 (oV4s v)],
        srcDst := [.wb 1 { name := b, pfx := some tX } false true .absent] } := by
    rw [semOf_a64, roles_default_iff _ _ _ _ h1 h2, roles_spec_default_a64 (oV4s v) [oMemPostReg b i] (List.cons_ne_nil _ _)]
    rfl
  rw [assignSrcDst_some, hsem]
  refine ⟨rfl, ?_, ?_⟩
  · exact (regChanges_eq_postChange ..).trans rfl
  · exact (regChanges_eq_of_operation_none _ _ _ _ _ (by rw [h1]; rfl)).trans rfl

theorem preIndexed_append_pre (t : Track) (pre rest : List Opnd)
    (h : ∀ x ∈ pre, ∀ m', x.p = .mem m' → m'.pre = false) :
    preIndexed false t (pre ++ rest) = preIndexed false t rest :=
  preIndexed_append false t h rest

/-- **pre-indexed access** (`ldr x1, [x2, #v]!`, entry without operation): the base register is reported as
    `base = base + v`, with the offset's own sign; every other destination register is unknown. -/
theorem reg_changes_pre_indexed (isa : Isa) (db : List IsaEntry) (name : Txt) (sem : Sem) (pre : List Opnd) (o : Opnd)
    (rest : List Opnd) (m : PMem) (b : PReg) (v : Int)
    (hop : (lookup isa db name ((pre ++ o :: rest).map (·.p))).bind (·.operation) = none)
    (hpre : ∀ x ∈ pre ++ rest, ∀ m', x.p = .mem m' → m'.pre = false)
    (ho : o.p = .mem m) (hp : m.pre = true) (hb : m.base = some b) (hv : o.off = .imm (.int v)) :
    regChanges isa db (some name) (pre ++ o :: rest) sem false =
      .ok (dedupKeys ((destNames sem).map fun r =>
        (r, if fullName b.pfx b.name = r then some { name := some (fullName b.pfx b.name), value := some v } else none))) := by
  have hch : ∀ r, changeOf (Track.mk [(fullName b.pfx b.name, Gen.preIndexedOp)]
        [(Gen.preIndexedOp, OpState.mk (some (fullName b.pfx b.name)) (some v))]) r =
      if fullName b.pfx b.name = r then some (OpState.mk (some (fullName b.pfx b.name)) (some v)) else none := by
    intro r
    by_cases hr : fullName b.pfx b.name = r
    · simp [changeOf, nameGet, IsaOp.get, hr]
    · simp [changeOf, nameGet, hr]
  rw [regChanges_eq_of_operation_none _ _ _ _ _ hop,
    preIndexed_append_pre _ _ _ fun x hx => hpre x (List.mem_append_left _ hx), preIndexed]
  simp only [ho, hp, if_true, hb, hv, valInt, Bool.false_eq_true, if_false]
  rw [preIndexed_none _ _ _ fun x hx => hpre x (List.mem_append_right _ hx)]
  simp only [hch]

/-! ## `get_reg_changes` cannot hit its "pre-indexed instruction has operation set" error on the shipped databases -/

theorem arith_ne_valueError (f : Int → Int → Int) (a b : Option Int) : arith f a b ≠ .error .valueError := by
  cases a <;> cases b <;> nofun

theorem eval_ne_valueError (s : State) (e : Expr) : eval s e ≠ .error .valueError := by
  fun_induction eval s e with
  | case1 => nofun
  | case2 => nofun
  | case3 => nofun
  | case4 _ _ _ he iha => exact error_ne iha he
  | case5 _ _ _ _ _ he _ ihb => exact error_ne ihb he
  | case6 => exact arith_ne_valueError _ _ _
  | case7 _ _ _ he iha => exact error_ne iha he
  | case8 _ _ _ _ _ he _ ihb => exact error_ne ihb he
  | case9 => exact arith_ne_valueError _ _ _

theorem step_ne_valueError (s : State) (st : Stmt) : step s st ≠ .error .valueError := by
  cases st with
  | setValue n e =>
    rw [step]
    split
    · next he => exact error_ne (eval_ne_valueError s e) he
    · split <;> nofun
  | setName n m =>
    rw [step]
    split
    · nofun
    · split
      · nofun
      · split <;> nofun

theorem exec_ne_valueError (s : State) (p : Prog) : exec s p ≠ .error .valueError := by
  induction p generalizing s with
  | nil => nofun
  | cons st rest ih =>
    rw [exec]
    split
    · next he => exact error_ne (step_ne_valueError s st) he
    · exact ih _

theorem valInt_ne_valueError (v : Val) : valInt v ≠ .error .valueError := by
  cases v <;> nofun

theorem bindOperands_ne_valueError (i : Nat) (roles : List Role) (ops : List Opnd) (t : Track) :
    bindOperands i roles ops t ≠ .error .valueError := by
  fun_induction bindOperands i roles ops t with
  | case1 => nofun
  | case2 => assumption
  | case3 => exact error_ne (valInt_ne_valueError _) ‹_›
  | case4 => assumption
  | case5 => assumption

theorem preIndexed_false_ne_valueError (t : Track) (ops : List Opnd) : preIndexed false t ops ≠ .error .valueError := by
  fun_induction preIndexed false t ops with
  | case1 => nofun
  | case2 => contradiction  -- the branch that raises ValueError needs `hasOperation = true`
  | case3 => nofun
  | case4 => exact error_ne (valInt_ne_valueError _) ‹_›
  | case5 => assumption
  | case6 => nofun
  | case7 => assumption
  | case8 => assumption

def regOrImm : EOperand → Bool
  | .reg _ _ _ => true
  | .imm _ => true
  | _ => false

/-- every `operation` of the two databases sits on an entry whose operand patterns are registers and immediates
    only, so a (pre-indexed) memory form never selects an entry with an operation -/
def opEntryOk (e : IsaEntry) : Bool :=
  e.operation.isNone || e.e.operands.all regOrImm

theorem db_operations_on_register_forms :
    (Gen.isaDbX86.all opEntryOk) = true ∧ (Gen.isaDbA64.all opEntryOk) = true := by
  constructor <;> decide +kernel

/-- a register or immediate pattern never matches a memory operand -/
theorem matchOperands_noMem (isa : Isa) (es : List EOperand) (os : List POperand)
    (h : Match.matchOperands isa es os = true) (hes : es.all regOrImm = true) : os.any isMemP = false := by
  fun_induction Match.matchOperands isa es os with
  | case1 => rfl
  | case2 e es o os ih =>
    rw [Bool.and_eq_true] at h
    rw [List.all_cons, Bool.and_eq_true] at hes
    rw [List.any_cons, ih h.2 hes.2, Bool.or_false]
    cases o with
    | mem m =>
      obtain ⟨b, off, i, s, pre, post, rfl⟩ := Match.checkOperand_mem isa e m h.1
      cases hes.1
    | _ => rfl
  | case3 => cases h

theorem getInstruction_match (isa : Isa) (db : List IsaEntry) (name : Txt) (ops : List POperand) (e : IsaEntry)
    (h : getInstruction isa db name ops = some e) : Match.matchOperands isa e.e.operands ops = true :=
  (getInstruction_some isa db name ops e h).2

theorem lookup_match (isa : Isa) (db : List IsaEntry) (name : Txt) (ops : List POperand) (e : IsaEntry)
    (h : lookup isa db name ops = some e) : Match.matchOperands isa e.e.operands ops = true :=
  (lookup_some isa db name ops e h).2

theorem opEntryOk_spec (e : IsaEntry) (p : Prog) (h : opEntryOk e = true) (hp : e.operation = some p) :
    e.e.operands.all regOrImm = true := by
  rw [opEntryOk, hp] at h
  exact h

/-- **no ValueError**: in a database whose operations sit on register/immediate forms only (both shipped databases,
    `db_operations_on_register_forms`), the full query never raises "ISA information for pre_indexed instruction has
    operation set": an instruction that selects an entry with an operation has no memory operand at all. -/
theorem reg_changes_no_value_error (isa : Isa) (db : List IsaEntry) (hdb : db.all opEntryOk = true)
    (name : Txt) (ops : List Opnd) (sem : Sem) :
    regChanges isa db (some name) ops sem false ≠ .error .valueError := by
  cases hl : lookup isa db name (ops.map (·.p)) with
  | none =>
    rw [regChanges_eq_of_operation_none _ _ _ _ _ (by rw [hl]; rfl)]
    split
    · next he => exact error_ne (preIndexed_false_ne_valueError _ _) he
    · nofun
  | some e =>
    cases hp : e.operation with
    | none =>
      rw [regChanges_eq_of_operation_none _ _ _ _ _ (by rw [hl]; exact hp)]
      split
      · next he => exact error_ne (preIndexed_false_ne_valueError _ _) he
      · nofun
    | some p =>
      -- the entry takes registers and immediates only, so no operand is a (pre-indexed) memory operand
      have hnm := matchOperands_noMem isa _ _ (lookup_match isa db name _ e hl)
        (opEntryOk_spec e p (List.all_eq_true.mp hdb e (lookup_some isa db name _ e hl).1) hp)
      have hpre := pre_false_of_noMem (noMem_of_any hnm)
      rw [reg_changes_program isa db name ops sem e p hl hp hpre]
      split
      · next he => exact error_ne (bindOperands_ne_valueError _ _ _ _) he
      · split
        · next he => exact error_ne (exec_ne_valueError _ _) he
        · nofun

/-- … instantiated with the two shipped databases -/
theorem shipped_no_value_error (name : Txt) (ops : List Opnd) (sem : Sem) :
    regChanges .x86 Gen.isaDbX86 (some name) ops sem false ≠ .error .valueError ∧
    regChanges .a64 Gen.isaDbA64 (some name) ops sem false ≠ .error .valueError :=
  ⟨reg_changes_no_value_error _ _ db_operations_on_register_forms.1 _ _ _,
   reg_changes_no_value_error _ _ db_operations_on_register_forms.2 _ _ _⟩

/-! ## non-vacuity: the hypotheses are satisfiable, and the shipped databases give the expected roles -/

-- for the `decide`d examples below that compare `regChanges` results
deriving instance DecidableEq for Except

def rdx : Txt := [114, 100, 120]
def rsp : Txt := [114, 115, 112]
def xmm1 : Txt := [120, 109, 109, 49]
def xmm2 : Txt := [120, 109, 109, 50]
def xmm3 : Txt := [120, 109, 109, 51]
def nVxorpd : Txt := [118, 120, 111, 114, 112, 100]   -- "vxorpd"
def nPush : Txt := [112, 117, 115, 104]               -- "push"
def nAddqMem : Txt := nAddq

/-- a hand-made entry: operand 0 source, operand 1 source+destination, one hidden flag written, idiom flag set -/
def exEntry : IsaEntry :=
  { e := { name := nFoo, operands := [] }, roles := [⟨true, false⟩, ⟨true, true⟩],
    hidden := [(.flag [67, 70], ⟨false, true⟩)], brk := true }

/-- `(%rdx)` -/
def oMemRdx : Opnd :=
  { p := .mem { base := some { name := rdx }, offset := .none, index := none, scale := 1, pre := false, post := false },
    key := [109] }
/-- `[x2], #8` (post-indexed) and `[x2, #8]!` (pre-indexed) -/
def oMemPost : Opnd :=
  { p := .mem { base := some { name := [50], pfx := some tX }, offset := .none, index := none, scale := 1, pre := false, post := true },
    key := [109], postVal := .int 8 }
def oMemPre : Opnd :=
  { p := .mem { base := some { name := [50], pfx := some tX }, offset := .imm false, index := none, scale := 1, pre := true, post := false },
    key := [110], off := .imm (.int 8) }

-- roles_spec / roles_spec_hidden / roles_partition: different operands, so the idiom does not apply
example : (exEntry.brk && adjEq [oX86 rax, oX86 rbx]) = false := by decide
example : SemOp.op 0 (oX86 rax) ∈ (applyEntry exEntry [oX86 rax, oX86 rbx]).src ∧
    SemOp.op 1 (oX86 rbx) ∈ (applyEntry exEntry [oX86 rax, oX86 rbx]).srcDst ∧
    SemOp.hid (.flag [67, 70]) ∈ (applyEntry exEntry [oX86 rax, oX86 rbx]).dst := by decide
example : occ 1 (applyEntry exEntry [oX86 rax, oX86 rbx]).src + occ 1 (applyEntry exEntry [oX86 rax, oX86 rbx]).dst +
    occ 1 (applyEntry exEntry [oX86 rax, oX86 rbx]).srcDst = 1 := by decide
-- roles_spec_zero_idiom / roles_partition_zero_idiom: equal operands
example : exEntry.brk = true ∧ adjEq [oX86 rax, oX86 rax] = true := by decide
example : applyEntry exEntry [oX86 rax, oX86 rax] =
    { src := [], dst := [.op 0 (oX86 rax), .op 1 (oX86 rax), .hid (.flag [67, 70])], srcDst := [] } := by decide
-- the shipped x86 database: `vxorpd %xmm1, %xmm1, %xmm1` writes without reading, `vxorpd %xmm1, %xmm2, %xmm3` reads two
example : (assignSrcDst .x86 Gen.isaDbX86 (some nVxorpd) [oX86 xmm1, oX86 xmm1, oX86 xmm1]).sem =
    { src := [], dst := [.op 0 (oX86 xmm1), .op 1 (oX86 xmm1), .op 2 (oX86 xmm1)], srcDst := [] } := by decide +kernel
example : (assignSrcDst .x86 Gen.isaDbX86 (some nVxorpd) [oX86 xmm1, oX86 xmm2, oX86 xmm3]).sem =
    { src := [.op 0 (oX86 xmm1), .op 1 (oX86 xmm2)], dst := [.op 2 (oX86 xmm3)], srcDst := [] } := by decide +kernel
-- hidden operands: `push %rax` reads rax, writes memory at (%rsp) and updates rsp; HAS_ST, no HAS_LD
example : assignSrcDst .x86 Gen.isaDbX86 (some nPush) [oX86 rax] =
    { sem := { src := [.op 0 (oX86 rax)], dst := [.hid (.mem (some rsp) none 1 false)], srcDst := [.hid (.reg none rsp)] },
      hasLd := false, hasSt := true } := by decide +kernel
-- roles_entry_wildcard: `addq (%rdx), %rax` has no entry of its own; the register form `add gpr, gpr` decides
example : lookup .x86 Gen.isaDbX86 nAddq ([oMemRdx, oX86 rax].map (·.p)) = none ∧
    (lookup .x86 Gen.isaDbX86 nAddq (substituteMem ([oMemRdx, oX86 rax].map (·.p)))).isSome = true := by
  constructor <;> decide +kernel
example : ((assignSrcDst .x86 Gen.isaDbX86 (some nAddq) [oMemRdx, oX86 rax]).sem.src.take 1,
    (assignSrcDst .x86 Gen.isaDbX86 (some nAddq) [oMemRdx, oX86 rax]).sem.srcDst,
    (assignSrcDst .x86 Gen.isaDbX86 (some nAddq) [oMemRdx, oX86 rax]).hasLd,
    (assignSrcDst .x86 Gen.isaDbX86 (some nAddq) [oMemRdx, oX86 rax]).hasSt) =
    ([.op 0 oMemRdx], [.op 1 (oX86 rax)], true, false) := by decide +kernel
-- roles_default_iff + roles_spec_default_x86 / _a64 / _single: a mnemonic without entry
example : (assignSrcDst .x86 Gen.isaDbX86 (some nFoo) [oX86 rax, oX86 rbx, oX86 rdx]).sem =
    { src := [.op 0 (oX86 rax), .op 1 (oX86 rbx)], dst := [.op 2 (oX86 rdx)], srcDst := [] } := by decide +kernel
example : (assignSrcDst .a64 Gen.isaDbA64 (some nFoo) [oA64 [48], oA64 [49], oA64 [50]]).sem =
    { src := [.op 1 (oA64 [49]), .op 2 (oA64 [50])], dst := [.op 0 (oA64 [48])], srcDst := [] } := by decide +kernel
example : (assignSrcDst .a64 Gen.isaDbA64 (some nFoo) [oA64 [48]]).sem =
    { src := [.op 0 (oA64 [48])], dst := [], srcDst := [] } := by decide +kernel
-- roles_spec_writeback / writeback_register / reg_changes_post: `ldr x1, [x2], #8`
example : (assignSrcDst .a64 Gen.isaDbA64 (some nLdr) [oA64 [49], oMemPost]) =
    { sem := { src := [.op 1 oMemPost], dst := [.op 0 (oA64 [49])],
               srcDst := [.wb 1 { name := [50], pfx := some tX } false true (.int 8)] },
      hasLd := true, hasSt := false } := by decide +kernel
example : regChanges .a64 Gen.isaDbA64 (some nLdr) [oA64 [49], oMemPost]
      (assignSrcDst .a64 Gen.isaDbA64 (some nLdr) [oA64 [49], oMemPost]).sem true =
    .ok [(120 :: [50], some ⟨some (120 :: [50]), some 8⟩)] := by decide +kernel
-- … and the full query leaves the post-indexed base out, the loaded register is unknown (reg_changes_unknown)
example : regChanges .a64 Gen.isaDbA64 (some nLdr) [oA64 [49], oMemPost]
      (assignSrcDst .a64 Gen.isaDbA64 (some nLdr) [oA64 [49], oMemPost]).sem false =
    .ok [(120 :: [49], none)] := by decide +kernel
-- pre-indexed `ldr x1, [x2, #8]!`: the base is reported with the offset, the loaded register is unknown
example : regChanges .a64 Gen.isaDbA64 (some nLdr) [oA64 [49], oMemPre]
      (assignSrcDst .a64 Gen.isaDbA64 (some nLdr) [oA64 [49], oMemPre]).sem false =
    .ok [(120 :: [49], none), (120 :: [50], some ⟨some (120 :: [50]), some 8⟩)] := by decide +kernel
-- reg_changes_post_register / a64_ld1_post_register_all: `ld1 {v0.4s}, [x0], x1` on the shipped database — the base x0 is
-- written back (src_dst, post-index mark), the post-indexed query answers `{x0: None}` and is not an error
example : (assignSrcDst .a64 Gen.isaDbA64 (some nLd1) [oV4s [48], oMemPostReg [48] [49]]) =
    { sem := { src := [.op 1 (oMemPostReg [48] [49])], dst := [.op 0 (oV4s [48])],
               srcDst := [.wb 1 { name := [48], pfx := some tX } false true .absent] },
      hasLd := true, hasSt := false } := (a64_ld1_post_register_all [48] [48] [49]).1
example : regChanges .a64 Gen.isaDbA64 (some nLd1) [oV4s [48], oMemPostReg [48] [49]]
      (assignSrcDst .a64 Gen.isaDbA64 (some nLd1) [oV4s [48], oMemPostReg [48] [49]]).sem true =
    .ok [(120 :: [48], none)] := (a64_ld1_post_register_all [48] [48] [49]).2.1
-- `st1 {v0.4s}, [x2], x3` (no entry either; the code's default roles put the vector register into `destination`)
example : regChanges .a64 Gen.isaDbA64 (some nSt1) [oV4s [48], oMemPostReg [50] [51]]
      (assignSrcDst .a64 Gen.isaDbA64 (some nSt1) [oV4s [48], oMemPostReg [50] [51]]).sem true =
    .ok [(120 :: [50], none)] := by decide +kernel
-- the hypotheses of reg_changes_post_register at a later operand position: `ldr x1, [x2], x9` behind a register
example : (∀ x ∈ [oA64 [49]], ∀ m', x.p = .mem m' → m'.post = false) ∧ (oMemPostReg [50] [57]).postVal = .absent := by
  constructor
  · intro x hx m' hm; simp [oA64, pA64] at hx; subst hx; cases hm
  · rfl
-- a plain subscript `post_indexed["value"]` on that operand's dictionary would be a `KeyError` (the case `postChange` guards)
example : valInt (oMemPostReg [48] [49]).postVal = .error .keyError := rfl
-- reg_changes_post_error: a `"value"` that is not an integer is the only failure of the post-indexed query
example : regChanges .a64 Gen.isaDbA64 (some nLd1) [oV4s [48], { oMemPostReg [48] [49] with postVal := .other }] {} true =
    .error .unsupported := by decide +kernel
-- reg_changes_no_value_error needs its hypothesis: an operation on a memory form does raise for a pre-indexed access
def badDb : List IsaEntry :=
  [{ e := { name := [76, 68, 82], operands := [.reg none (some tX) none, .mem (.str [42]) (.str [42]) (.str [42]) (.str [42]) (.str [42]) (.str [42])] },
     roles := [⟨false, true⟩, ⟨true, false⟩], operation := some [.setValue 1 (.lit 0)] }]
example : badDb.all opEntryOk = false ∧
    regChanges .a64 badDb (some nLdr) [oA64 [49], oMemPre] (assignSrcDst .a64 badDb (some nLdr) [oA64 [49], oMemPre]).sem false =
      .error .valueError := by
  constructor <;> decide +kernel
-- the operation theorems at concrete values
example : regChanges .x86 Gen.isaDbX86 (some nAddq) [oImmX86 (-8), oX86 rax]
      (assignSrcDst .x86 Gen.isaDbX86 (some nAddq) [oImmX86 (-8), oX86 rax]).sem false =
    .ok [(rax, some ⟨some rax, some (-8)⟩)] := x86_addq_imm_changes (-8)
-- `movq %rax, %rbx`: the copy is tracked under the source's name
example : regChanges .x86 Gen.isaDbX86 (some [109, 111, 118, 113]) [oX86 rax, oX86 rbx]
      (assignSrcDst .x86 Gen.isaDbX86 (some [109, 111, 118, 113]) [oX86 rax, oX86 rbx]).sem false =
    .ok [(rbx, some ⟨some rax, some 0⟩)] := by decide +kernel
-- an immediate that is a symbol (value None): the arithmetic raises, as `exec` does in the implementation
example : regChanges .x86 Gen.isaDbX86 (some nAddq) [{ oImmX86 0 with val := .none }, oX86 rax]
      (assignSrcDst .x86 Gen.isaDbX86 (some nAddq) [{ oImmX86 0 with val := .none }, oX86 rax]).sem false =
    .error .typeError := by decide +kernel

end OsacaVerif.Props.C03Roles
