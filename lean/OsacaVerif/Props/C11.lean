import OsacaVerif.Model.Marker
import OsacaVerif.Spec.KernelSelect
import OsacaVerif.Lemmas.PyInt
import OsacaVerif.Lemmas.Marker
/-
  C11 — Kernel selection is exact and non-instruction lines are transparent (selection part).

  `Marker.reduceToSection`, `Marker.getLineRange`, `Marker.selectLines`, `Marker.parseFileNums` are the
  models of `reduce_to_section`, `get_line_range`, the `--lines` filter of `inspect` and the line
  numbering of `parse_file`; every literal in them is regenerated from the source (`Gen.MarkerConsts`).
  The marker convention, the positional "between" and the set-theoretic denotation of `--lines` come from
  `Spec.KernelSelect`; the vocabulary of the statements (`MarkerMov`, `StartMarker`, `Inert`, `Quiet`, …) is
  defined below on top of it.  `NoBytesAfter` is phrased with the model's own `hasDirective` and `matchBytes`.
-/
namespace OsacaVerif.Props.C11
open OsacaVerif OsacaVerif.Text OsacaVerif.PyInt OsacaVerif.Marker OsacaVerif.Spec.KernelSelect

/-! ### the literals of the source are those of the convention -/

/-- the arguments a `find_marked_kernel_*` function passes agree with the convention of its ISA -/
def Agree (c : Cfg) (m : MarkerConv) : Prop :=
  c.movInstr = m.movs ∧ c.movReg = m.reg ∧ c.vals = [m.startVal, m.endVal] ∧ c.nop = m.nop ∧
  c.reverse = !m.immFirst ∧ c.comments = true ∧ m.startVal ≠ m.endVal ∧ m.nop ≠ []

instance (c : Cfg) (m : MarkerConv) : Decidable (Agree c m) := by unfold Agree; infer_instance

/-- x86: `mov`/`movl`, `ebx`, 111/222, `100,103,144`, immediate first, comment markers enabled -/
theorem x86_agree : Agree x86Cfg x86Marker := by decide +kernel
/-- AArch64: `mov`, `x1`, 111/222, `213,3,32,31`, immediate second, comment markers enabled -/
theorem a64_agree : Agree a64Cfg a64Marker := by decide +kernel

/-- comment marker texts, directive name, `int(x, 0)`, the index arithmetic (`i + 1`, `i + 1 +
    line_count`, `i`), the look-ahead distance, the operand positions and the ISA names of the source
    are what the model's structure and the specification assume -/
theorem shape_consts :
    Gen.commentStart = commentBegin ∧ Gen.commentEnd = commentEnd ∧ Gen.byteDirName = byteDirective ∧
    Gen.byteIntBase = 0 ∧ Gen.startOffComment = 1 ∧ Gen.endOffComment = 0 ∧ Gen.startOffBytes = 1 ∧
    Gen.endOffBytes = 0 ∧ Gen.lookAhead = 1 ∧ Gen.matchBytesOff = 1 ∧ Gen.srcIdx = 0 ∧ Gen.srcIdxRev = 1 ∧
    Gen.dstIdx = 1 ∧ Gen.dstIdxRev = 0 ∧ Gen.valIdxStart = 0 ∧ Gen.valIdxEnd = 1 ∧ Gen.isaLowered = true ∧
    Gen.x86IsaName = [120, 56, 54] ∧ Gen.a64IsaName = [97, 97, 114, 99, 104, 54, 52] ∧
    commentBegin ≠ commentEnd := by decide +kernel

/-- `--lines`: `:` becomes `-`, items are separated by `,`, a range is `start-end` with both ends
    included; `parse_file` splits at LF and numbers from 1 -/
theorem lines_consts :
    Gen.lrReplaceFrom = 58 ∧ Gen.lrReplaceTo = 45 ∧ Gen.lrListSep = 44 ∧ Gen.lrRangeSep = 45 ∧
    Gen.lrIdxStart = 0 ∧ Gen.lrIdxEnd = 1 ∧ Gen.lrEndInc = 1 ∧ Gen.pfSep = 10 ∧ Gen.pfFirstLine = 1 ∧
    Gen.pfStartLineDefault = 0 := by decide +kernel

/-! ### vocabulary: markers, look-alikes, quiet segments -/

/-- the marker move: an accepted mnemonic, the immediate `val` and the marker register in the
    operand order of the ISA -/
def MarkerMov (m : MarkerConv) (val : Int) (l : Line) : Prop :=
  (∃ mn, l.mnem = some mn ∧ mn ∈ m.movs) ∧
  l.ops[if m.immFirst then 0 else 1]? = some (.imm (some val)) ∧
  l.ops[if m.immFirst then 1 else 0]? = some (.reg m.reg)

/-- a line without mnemonic (label, directive, comment) that is not itself a comment marker -/
def PlainLine (l : Line) : Prop :=
  l.mnem = none ∧ l.comment ≠ some commentBegin ∧ l.comment ≠ some commentEnd

/-- specification of "the nop bytes on one or on several `.byte` lines": every line is a `.byte`
    directive whose parameters are integer literals (`int(x, 0)`: decimal, `0x`, `0o`, `0b`), every line
    is needed (fewer bytes than the nop's before it), together they start with the nop bytes -/
def byteRunS (nop : List Int) : List Line → List Int → Bool
  | [], acc => acc.take nop.length == nop
  | l :: rest, acc =>
    (match l.dir with | some d => d.name == byteDirective | none => false) &&
    decide (acc.length < nop.length) &&
    match allIntsS (dirParams l) with
    | some vs => byteRunS nop rest (acc ++ vs)
    | none => false
where
  allIntsS : List (Option Txt) → Option (List Int)
    | [] => some []
    | p :: ps =>
      match p.bind pyInt0, allIntsS ps with
      | some v, some vs => some (v :: vs)
      | _, _ => none

theorem allIntsS_eq (ps : List (Option Txt)) : byteRunS.allIntsS ps = allInts ps := by
  induction ps with
  | nil => rfl
  | cons p ps ih =>
    have hb : byteInt p = p.bind pyInt0 := by
      cases p <;> simp [byteInt, show Gen.byteIntBase = 0 from rfl]
    simp only [byteRunS.allIntsS, allInts, ih, hb]
    cases p.bind pyInt0 <;> cases allInts ps <;> rfl

theorem byteRunS_eq (nop : List Int) (bl : List Line) (acc : List Int) :
    byteRunS nop bl acc = byteRun nop bl acc := by
  induction bl generalizing acc with
  | nil => rfl
  | cons l rest ih =>
    have hd : (match l.dir with | some d => d.name == byteDirective | none => false) = isByteDir l := by
      unfold isByteDir; cases l.dir <;> rfl
    simp only [byteRunS, byteRun, hd, allIntsS_eq]
    cases allInts (dirParams l) <;> simp [ih]

/-- a start marker in one of the documented styles -/
inductive StartMarker (m : MarkerConv) : List Line → Prop
  /-- a comment-only line `OSACA-BEGIN` -/
  | comment (l : Line) (h1 : l.mnem = none) (h2 : l.comment = some commentBegin) : StartMarker m [l]
  /-- the marker move of the start value followed by the nop bytes -/
  | bytes (mv : Line) (bl : List Line) (hm : MarkerMov m m.startVal mv) (hne : bl ≠ [])
      (hb : byteRunS m.nop bl [] = true) (hp : ∀ l ∈ bl, PlainLine l) : StartMarker m (mv :: bl)

/-- an end marker in one of the documented styles.  Unlike `StartMarker.bytes` nothing is asked of the
    `.byte` lines themselves: with a start already found the scan returns at the marker move and never
    reaches them. -/
inductive EndMarker (m : MarkerConv) : List Line → Prop
  | comment (l : Line) (h1 : l.mnem = none) (h2 : l.comment = some commentEnd) : EndMarker m [l]
  | bytes (mv : Line) (bl : List Line) (hm : MarkerMov m m.endVal mv) (hne : bl ≠ [])
      (hb : byteRunS m.nop bl [] = true) : EndMarker m (mv :: bl)

/-- a line that cannot be (the first line of) a marker, whatever follows it: a line without mnemonic
    whose comment is not a marker text; an instruction that is not the marker move; the marker move
    with another value or into another register (or whose operands are of another kind) -/
def Inert (m : MarkerConv) (l : Line) : Prop :=
  match l.mnem with
  | none => l.comment ≠ some commentBegin ∧ l.comment ≠ some commentEnd
  | some mn => mn ∉ m.movs ∨
      ∃ src dst, l.ops[if m.immFirst then 0 else 1]? = some src ∧
        l.ops[if m.immFirst then 1 else 0]? = some dst ∧
        (dst ≠ .reg m.reg ∨ (src ≠ .imm (some m.startVal) ∧ src ≠ .imm (some m.endVal)))

/-- a two-operand instruction that is not followed by the marker bytes: the next line is no directive
    at all, or `match_bytes` (the model's `matchBytes`) reports a miss on the lines that follow -/
def NoBytesAfter (m : MarkerConv) (l : Line) (rest : List Line) : Prop :=
  l.mnem.isSome ∧ (l.ops[0]?).isSome ∧ (l.ops[1]?).isSome ∧
  (hasDirective rest = false ∨ matchBytes rest m.nop = .miss)

/-- a segment free of markers (decoys of all three kinds allowed), given the lines after it -/
def Quiet (m : MarkerConv) : List Line → List Line → Prop
  | [], _ => True
  | l :: b, follow => (Inert m l ∨ NoBytesAfter m l (b ++ follow)) ∧ Quiet m b follow

/-! ### single-line facts -/

theorem opsMatch_iff (c : Cfg) (src dst : Opd) (w : Int) :
    opsMatch c src dst (some w) = true ↔ src = .imm (some w) ∧ dst = .reg c.movReg := by
  rw [opsMatch_eq, decide_eq_true_eq]

theorem trigger_plain (c : Cfg) (l : Line) (rest : List Line) (h1 : l.mnem = none)
    (h2 : l.comment ≠ some commentBegin) (h3 : l.comment ≠ some commentEnd) :
    trigger c l rest = .none := by
  unfold trigger
  rw [h1]
  have e1 : (l.comment == some Gen.commentStart) = false := beq_false_of_ne h2
  have e2 : (l.comment == some Gen.commentEnd) = false := beq_false_of_ne h3
  simp only [e1, e2, Bool.false_eq_true, if_false, ite_self]

/-- **look-alikes are not markers** (first two kinds: another value, another register, another
    mnemonic, non-marker comments): such a line triggers nothing whatever follows it -/
theorem decoy_not_marker (c : Cfg) (m : MarkerConv) (hag : Agree c m) (l : Line) (hi : Inert m l)
    (rest : List Line) : trigger c l rest = .none := by
  obtain rfl := eq_convCfg hag
  unfold Inert at hi
  cases hm : l.mnem with
  | none =>
    rw [hm] at hi
    exact trigger_plain _ l rest hm hi.1 hi.2
  | some mn =>
    rw [hm] at hi
    by_cases hc : mn ∈ m.movs ∧ hasDirective rest = true
    · rcases hi with h | ⟨src, dst, hs, hd, hne⟩
      · exact absurd hc.1 h
      · have n0 : ¬(src = .imm (some m.startVal) ∧ dst = .reg m.reg) := fun h =>
          hne.elim (· h.2) (·.1 h.1)
        have n1 : ¬(src = .imm (some m.endVal) ∧ dst = .reg m.reg) := fun h =>
          hne.elim (· h.2) (·.2 h.1)
        rw [trigger_conv_mov m l rest mn src dst hm hc hs hd, if_neg n0, if_neg n1]
    · exact trigger_conv_nomov m l rest mn hm hc

/-- **look-alikes are not markers** (third kind): the marker move itself, not followed by the nop
    bytes, triggers nothing -/
theorem mov_without_bytes (c : Cfg) (m : MarkerConv) (hag : Agree c m) (l : Line) (rest : List Line)
    (h : NoBytesAfter m l rest) : trigger c l rest = .none := by
  obtain rfl := eq_convCfg hag
  obtain ⟨hmn, h0, h1, hnb⟩ := h
  obtain ⟨mn, hm⟩ := Option.isSome_iff_exists.mp hmn
  by_cases hc : mn ∈ m.movs ∧ hasDirective rest = true
  · obtain ⟨a, ha⟩ := Option.isSome_iff_exists.mp h0
    obtain ⟨b, hb⟩ := Option.isSome_iff_exists.mp h1
    have hmiss : matchBytes rest m.nop = .miss := hnb.resolve_left (by simp [hc.2])
    have hops : ∃ src dst, l.ops[if m.immFirst then 0 else 1]? = some src ∧
        l.ops[if m.immFirst then 1 else 0]? = some dst := by
      cases m.immFirst
      · exact ⟨b, a, hb, ha⟩
      · exact ⟨a, b, ha, hb⟩
    obtain ⟨src, dst, hs, hd⟩ := hops
    rw [trigger_conv_mov m l rest mn src dst hm hc hs hd, hmiss]
    simp only [ite_self]
  · exact trigger_conv_nomov m l rest mn hm hc

theorem quiet_quietSeg (c : Cfg) (m : MarkerConv) (hag : Agree c m) (seg follow : List Line)
    (h : Quiet m seg follow) : quietSeg c seg follow = true := by
  induction seg with
  | nil => rfl
  | cons l b ih =>
    obtain ⟨hl, hb⟩ := h
    simp only [quietSeg, Bool.and_eq_true, beq_iff_eq]
    refine ⟨?_, ih hb⟩
    cases hl with
    | inl hi => exact decoy_not_marker c m hag l hi _
    | inr hn => exact mov_without_bytes c m hag l _ hn

theorem inert_quiet (m : MarkerConv) (seg follow : List Line) (h : ∀ l ∈ seg, Inert m l) :
    Quiet m seg follow := by
  induction seg with
  | nil => trivial
  | cons l b ih =>
    exact ⟨Or.inl (h l (by simp)), ih (fun x hx => h x (List.mem_cons_of_mem _ hx))⟩

/-! ### markers are recognised -/

/-- the scan sees a start marker: its first line sets `index_start` to the line after the marker, its
    other lines trigger nothing -/
def IsStart (c : Cfg) (sm follow : List Line) : Prop :=
  ∃ h t, sm = h :: t ∧ trigger c h (t ++ follow) = .start sm.length ∧ quietSeg c t follow = true

/-- the scan sees an end marker: its first line sets `index_end` to its own index -/
def IsEnd (c : Cfg) (em follow : List Line) : Prop :=
  ∃ h t, em = h :: t ∧ trigger c h (t ++ follow) = .stop 0

theorem hasDirective_run (nop : List Int) (bl follow : List Line) (acc : List Int) (hne : bl ≠ [])
    (hb : byteRun nop bl acc = true) : hasDirective (bl ++ follow) = true := by
  cases bl with
  | nil => exact absurd rfl hne
  | cons l rest =>
    simp only [byteRun, Bool.and_eq_true, isByteDir] at hb
    cases hd : l.dir with
    | none => simp [hd] at hb
    | some d => simp [hasDirective, hd]

/-- what the marker move followed by a complete byte run triggers -/
theorem trigger_markerMov (c : Cfg) (m : MarkerConv) (hag : Agree c m) (val : Int) (mv : Line)
    (bl follow : List Line) (hm : MarkerMov m val mv) (hne : bl ≠ [])
    (hb : byteRunS m.nop bl [] = true) :
    trigger c mv (bl ++ follow) =
      if val = m.startVal then .start (1 + bl.length)
      else if val = m.endVal then .stop 0 else .none := by
  obtain rfl := eq_convCfg hag
  obtain ⟨⟨mn, hmn, hmem⟩, hs, hd⟩ := hm
  rw [byteRunS_eq] at hb
  rw [trigger_conv_mov m mv _ mn _ _ hmn ⟨hmem, hasDirective_run m.nop bl follow [] hne hb⟩ hs hd,
    matchBytes_run m.nop bl follow hb]
  simp

theorem plain_quietSeg (c : Cfg) (bl follow : List Line) (hp : ∀ l ∈ bl, PlainLine l) :
    quietSeg c bl follow = true := by
  induction bl with
  | nil => rfl
  | cons l rest ih =>
    simp only [quietSeg, Bool.and_eq_true, beq_iff_eq]
    obtain ⟨h1, h2, h3⟩ := hp l (by simp)
    exact ⟨trigger_plain c l _ h1 h2 h3, ih (fun x hx => hp x (List.mem_cons_of_mem _ hx))⟩

/-- every documented start-marker style is recognised, whatever follows the marker -/
theorem startMarker_isStart (c : Cfg) (m : MarkerConv) (hag : Agree c m) (sm : List Line)
    (h : StartMarker m sm) (follow : List Line) : IsStart c sm follow := by
  cases h with
  | comment l h1 h2 =>
    obtain rfl := eq_convCfg hag
    exact ⟨l, [], rfl, by rw [trigger_conv_none m l _ h1, if_pos h2]; rfl, rfl⟩
  | bytes mv bl hm hne hb hp =>
    refine ⟨mv, bl, rfl, ?_, plain_quietSeg c bl follow hp⟩
    rw [trigger_markerMov c m hag m.startVal mv bl follow hm hne hb, if_pos rfl, List.length_cons, Nat.add_comm]

/-- every documented end-marker style is recognised, whatever follows the marker -/
theorem endMarker_isEnd (c : Cfg) (m : MarkerConv) (hag : Agree c m) (em : List Line)
    (h : EndMarker m em) (follow : List Line) : IsEnd c em follow := by
  cases h with
  | comment l h1 h2 =>
    obtain rfl := eq_convCfg hag
    exact ⟨l, [], rfl, by rw [trigger_conv_none m l _ h1, if_neg (by rw [h2]; decide), if_pos h2]⟩
  | bytes mv bl hm hne hb =>
    refine ⟨mv, bl, rfl, ?_⟩
    rw [trigger_markerMov c m hag m.endVal mv bl follow hm hne hb]
    have : m.endVal ≠ m.startVal := fun e => hag.2.2.2.2.2.2.1 e.symm
    simp [this]

/-! ### the selection theorems -/

/-- scan of a five-part file whose prologue contains no end marker (it may contain further start
    markers: the *last* start marker before the first end marker counts), in terms of the scan's events -/
theorem marked_exact_sem (c : Cfg) (pro sm body em epi : List Line)
    (hpro : noStopSeg c pro (sm ++ (body ++ (em ++ epi))) = true)
    (hsm : IsStart c sm (body ++ (em ++ epi)))
    (hbody : quietSeg c body (em ++ epi) = true)
    (hem : IsEnd c em epi) :
    findMarkedSection c (pro ++ (sm ++ (body ++ (em ++ epi)))) =
      some (some (pro.length + sm.length), some (pro.length + sm.length + body.length)) := by
  obtain ⟨s', hs'⟩ := scan_noStop c pro _ hpro 0 none
  obtain ⟨h, t, rfl, htr, hq⟩ := hsm
  obtain ⟨h', t', rfl, htr'⟩ := hem
  rw [findMarkedSection, hs', List.cons_append, scan_start c _ _ h _ s' htr, scan_quiet c t _ hq,
    scan_quiet c body _ hbody, List.cons_append, scan_stop c _ _ h' _ _ htr']
  simp only [Option.isSome_some, if_true, List.length_cons, Nat.zero_add, Nat.add_zero, Nat.add_assoc,
    Nat.add_left_comm 1]

/-- **marked_exact** (∀ prologue, body, epilogue; ∀ marker style; both ISAs through `Agree`): for
    `file = prologue ++ start ++ body ++ end ++ epilogue` with prologue and body free of markers — decoy
    moves of other values, into other registers, or not followed by the nop bytes are allowed — and an
    arbitrary epilogue, the selected kernel is exactly `body`. -/
theorem marked_exact (c : Cfg) (m : MarkerConv) (hag : Agree c m) (pro sm body em epi : List Line)
    (hpro : Quiet m pro (sm ++ (body ++ (em ++ epi))))
    (hsm : StartMarker m sm)
    (hbody : Quiet m body (em ++ epi))
    (hem : EndMarker m em) :
    reduceWith c (pro ++ (sm ++ (body ++ (em ++ epi)))) = some body := by
  unfold reduceWith
  rw [marked_exact_sem c pro sm body em epi
    (quiet_noStop c _ _ (quiet_quietSeg c m hag _ _ hpro))
    (startMarker_isStart c m hag sm hsm _)
    (quiet_quietSeg c m hag _ _ hbody)
    (endMarker_isEnd c m hag em hem _)]
  simp only [Option.map_some]
  rw [slice_body]

/-- the same through `reduce_to_section(kernel, isa)` for x86 (`isa` in any case: `isa.lower()`) -/
theorem marked_exact_x86 (isa : Txt) (hisa : lower isa = [120, 56, 54]) (pro sm body em epi : List Line)
    (hpro : Quiet x86Marker pro (sm ++ (body ++ (em ++ epi)))) (hsm : StartMarker x86Marker sm)
    (hbody : Quiet x86Marker body (em ++ epi)) (hem : EndMarker x86Marker em) :
    reduceToSection (pro ++ (sm ++ (body ++ (em ++ epi)))) isa = .ok body :=
  reduceToSection_of_isa _ isa x86Cfg _ (.inl ⟨hisa, rfl⟩)
    (marked_exact x86Cfg x86Marker x86_agree pro sm body em epi hpro hsm hbody hem)

/-- the same for AArch64 -/
theorem marked_exact_a64 (isa : Txt) (hisa : lower isa = [97, 97, 114, 99, 104, 54, 52])
    (pro sm body em epi : List Line)
    (hpro : Quiet a64Marker pro (sm ++ (body ++ (em ++ epi)))) (hsm : StartMarker a64Marker sm)
    (hbody : Quiet a64Marker body (em ++ epi)) (hem : EndMarker a64Marker em) :
    reduceToSection (pro ++ (sm ++ (body ++ (em ++ epi)))) isa = .ok body :=
  reduceToSection_of_isa _ isa a64Cfg _ (.inr ⟨hisa, rfl⟩)
    (marked_exact a64Cfg a64Marker a64_agree pro sm body em epi hpro hsm hbody hem)

/-- the result is the positional "between" of the specification -/
theorem marked_exact_between (c : Cfg) (m : MarkerConv) (hag : Agree c m) (pro sm body em epi : List Line)
    (hpro : Quiet m pro (sm ++ (body ++ (em ++ epi)))) (hsm : StartMarker m sm)
    (hbody : Quiet m body (em ++ epi)) (hem : EndMarker m em) :
    reduceWith c (pro ++ (sm ++ (body ++ (em ++ epi)))) =
      some (between (pro ++ (sm ++ (body ++ (em ++ epi)))) pro.length sm.length body.length) := by
  rw [marked_exact c m hag pro sm body em epi hpro hsm hbody hem, between, ← List.append_assoc,
    ← List.length_append, List.drop_left, List.take_left]

/-- **no_marker_whole**: without any marker the whole file is the kernel -/
theorem no_marker_whole (c : Cfg) (m : MarkerConv) (hag : Agree c m) (lines : List Line)
    (h : Quiet m lines []) : reduceWith c lines = some lines := by
  unfold reduceWith findMarkedSection
  rw [scan_quiet_nil c lines (quiet_quietSeg c m hag lines [] h) 0 none none rfl]
  simp [slice]

/-- only a start marker: from the line after it to the end of the file -/
theorem start_only (c : Cfg) (m : MarkerConv) (hag : Agree c m) (pro sm rest : List Line)
    (hpro : Quiet m pro (sm ++ rest)) (hsm : StartMarker m sm) (hrest : Quiet m rest []) :
    reduceWith c (pro ++ (sm ++ rest)) = some rest := by
  unfold reduceWith findMarkedSection
  rw [scan_quiet c pro _ (quiet_quietSeg c m hag _ _ hpro)]
  obtain ⟨h, t, hsmeq, htr, hq⟩ := startMarker_isStart c m hag sm hsm rest
  subst hsmeq
  rw [List.cons_append, scan_start c _ _ h _ none htr, scan_quiet c t _ hq, scan_quiet_nil c rest (quiet_quietSeg c m hag _ _ hrest) _ _ none rfl]
  simp only [Option.map_some, slice, Option.getD_some, Option.getD_none, List.take_length, Nat.zero_add,
    ← List.cons_append, ← List.append_assoc, ← List.length_append, List.drop_left]

/-- only an end marker (and no start marker after it either): from the beginning of the file to the
    line before the end marker -/
theorem end_only (c : Cfg) (m : MarkerConv) (hag : Agree c m) (pro em epi : List Line)
    (hpro : Quiet m pro (em ++ epi)) (hem : EndMarker m em)
    (hepi : ∀ h t, em = h :: t → Quiet m (t ++ epi) []) :
    reduceWith c (pro ++ (em ++ epi)) = some pro := by
  unfold reduceWith findMarkedSection
  rw [scan_quiet c pro _ (quiet_quietSeg c m hag _ _ hpro)]
  obtain ⟨h, t, hemeq, htr⟩ := endMarker_isEnd c m hag em hem epi
  subst hemeq
  rw [List.cons_append, scan_stop c _ _ h _ none htr, if_neg (by simp), scan_quiet_nil c (t ++ epi) (quiet_quietSeg c m hag _ _ (hepi h t rfl)) _ none _ rfl]
  simp only [Option.map_some, slice, Option.getD_some, Option.getD_none, List.drop_zero, Nat.zero_add,
    Nat.add_zero, List.take_left]

/-- **noise lines are transparent for the selection** (∀ positions, ∀ noise): inserting lines without a
    mnemonic that are not marker comments (comments, labels, directives; blank lines never reach the parsed
    file, see `blank_line_transparent`) into a body of inert lines leaves the selection exact, and the
    instructions selected are the same as without the insertion. -/
theorem noise_transparent_select (c : Cfg) (m : MarkerConv) (hag : Agree c m)
    (pro sm b1 noise b2 em epi : List Line)
    (hpro : Quiet m pro (sm ++ ((b1 ++ (noise ++ b2)) ++ (em ++ epi)))) (hsm : StartMarker m sm)
    (hb1 : ∀ l ∈ b1, Inert m l) (hb2 : ∀ l ∈ b2, Inert m l)
    (hnoise : ∀ l ∈ noise, l.mnem = none ∧ l.comment ≠ some commentBegin ∧ l.comment ≠ some commentEnd)
    (hem : EndMarker m em) :
    reduceWith c (pro ++ (sm ++ ((b1 ++ (noise ++ b2)) ++ (em ++ epi)))) = some (b1 ++ (noise ++ b2)) ∧
    (b1 ++ (noise ++ b2)).filter (fun l => l.mnem.isSome) = (b1 ++ b2).filter (fun l => l.mnem.isSome) := by
  constructor
  · apply marked_exact c m hag pro sm _ em epi hpro hsm _ hem
    apply inert_quiet
    intro l hl
    simp only [List.mem_append] at hl
    rcases hl with h | h | h
    · exact hb1 l h
    · obtain ⟨h1, h2, h3⟩ := hnoise l h
      unfold Inert; rw [h1]; exact ⟨h2, h3⟩
    · exact hb2 l h
  · rw [List.filter_append, List.filter_append, List.filter_append,
      (List.filter_eq_nil_iff (l := noise)).mpr fun l hl => by simp [(hnoise l hl).1], List.nil_append]

/-! ### `--lines` -/

/-- the character map of `line_str.replace(":", "-")` -/
def colonToDash (c : Nat) : Nat := if c = Gen.lrReplaceFrom then Gen.lrReplaceTo else c

/-- a rendered item after the replacement -/
def itemPiece : Item → Txt
  | .single n => natDigits n
  | .range a b _ => natDigits a ++ 45 :: natDigits b

theorem natDigits_not_mem (n x : Nat) (hx : x = 44 ∨ x = 45 ∨ x = 58) : x ∉ natDigits n := by
  intro h
  have := natDigits_dig n x h
  omega

theorem map_colonToDash_digits (n : Nat) : (natDigits n).map colonToDash = natDigits n := by
  rw [List.map_congr_left (g := id)]
  · simp
  · intro c hc
    have := natDigits_dig n c hc
    have h58 : Gen.lrReplaceFrom = 58 := rfl
    simp only [colonToDash, h58, id]
    rw [if_neg (by omega)]

theorem render_replaced (it : Item) : it.render.map colonToDash = itemPiece it := by
  cases it with
  | single n => exact map_colonToDash_digits n
  | range a b colon =>
    simp only [Item.render, itemPiece, List.map_append, List.map_cons, map_colonToDash_digits]
    cases colon <;> rfl

theorem itemPiece_no_comma (it : Item) : 44 ∉ itemPiece it := by
  cases it with
  | single n => exact natDigits_not_mem n 44 (by simp)
  | range a b colon =>
    simp only [itemPiece, List.mem_append, List.mem_cons]
    intro h
    rcases h with h | h | h
    · exact natDigits_not_mem a 44 (by simp) h
    · omega
    · exact natDigits_not_mem b 44 (by simp) h

theorem pieceRange_item (it : Item) :
    pieceRange (itemPiece it) = some (it.denote.map (fun (n : Nat) => (n : Int))) := by
  have h45 : Gen.lrRangeSep = 45 := rfl
  have hd : ∀ n, 45 ∉ natDigits n := fun n => natDigits_not_mem n 45 (by simp)
  unfold pieceRange
  cases it with
  | single n =>
    rw [if_neg (by rw [h45, List.contains_iff_mem]; exact hd n)]
    simp [itemPiece, pyInt10_natDigits, Item.denote]
  | range a b colon =>
    rw [if_pos (by rw [h45, List.contains_iff_mem]; simp [itemPiece])]
    simp only [itemPiece, h45, splitOn_append_sep 45 _ _ (hd a), splitOn_no_sep 45 _ (hd b),
      show Gen.lrIdxStart = 0 from rfl, show Gen.lrIdxEnd = 1 from rfl, List.getElem?_cons_zero,
      List.getElem?_cons_succ, pyInt10_natDigits, show Gen.lrEndInc = 1 from rfl, rangeInt_nat]
    rfl

/-- **lines_denotation** (∀ `--lines` specifications: any non-empty list of single numbers and
    inclusive `a-b` / `a:b` ranges, any sizes): `get_line_range` of the rendered string is exactly the
    denotation — every named number, ranges with both ends included, in the order written. -/
theorem lines_denotation (items : List Item) (hne : items ≠ []) :
    getLineRange (renderSpec items) = some ((denoteAll items).map (fun (n : Nat) => (n : Int))) := by
  have hmap : (renderSpec items).map colonToDash = joinWith 44 (items.map itemPiece) := by
    rw [renderSpec, map_joinWith, List.map_map]
    exact congrArg _ (List.map_congr_left fun it _ => render_replaced it)
  have hno : ∀ p ∈ items.map itemPiece, 44 ∉ p := by
    simp only [List.mem_map]
    rintro _ ⟨it, _, rfl⟩
    exact itemPiece_no_comma it
  show collect ((splitOn 44 ((renderSpec items).map colonToDash)).map pieceRange) = _
  rw [hmap, splitOn_joinWith 44 _ (by simpa using hne) hno, List.map_map,
    List.map_congr_left (f := pieceRange ∘ itemPiece) (g := some ∘ fun it => it.denote.map fun (n : Nat) => (n : Int))
      fun it _ => pieceRange_item it,
    ← List.map_map, collect_somes, denoteAll, List.flatMap_def, List.map_flatten, List.map_map]
  rfl

theorem mem_denoteAll (items : List Item) (n : Nat) : n ∈ denoteAll items ↔ Named items n := by
  simp only [denoteAll, Named, List.mem_flatMap]
  refine exists_congr fun it => and_congr_right fun _ => ?_
  cases it with
  | single m => simp [Item.denote]
  | range a b colon => simp only [Item.denote, List.mem_range'_1]; omega

/-- the `--lines` filter keeps exactly the lines whose number is in the range, in file order -/
theorem select_lines_spec (r : List Int) (kernel : List Line) :
    (selectLines r kernel).Sublist kernel ∧
    ∀ l, l ∈ selectLines r kernel ↔ l ∈ kernel ∧ (l.num : Int) ∈ r := by
  unfold selectLines
  refine ⟨List.filter_sublist, ?_⟩
  intro l
  simp [List.mem_filter]

/-- **select_lines_exact** (∀ specifications, ∀ files): `--lines` selects exactly the lines whose
    number is named by the specification — nothing else, nothing twice, in file order. -/
theorem select_lines_exact (items : List Item) (hne : items ≠ []) (kernel : List Line) :
    ∃ r, getLineRange (renderSpec items) = some r ∧ (selectLines r kernel).Sublist kernel ∧
      ∀ l, l ∈ selectLines r kernel ↔ l ∈ kernel ∧ Named items l.num := by
  refine ⟨_, lines_denotation items hne, (select_lines_spec _ kernel).1, ?_⟩
  intro l
  rw [(select_lines_spec _ kernel).2 l, mem_map_natCast, mem_denoteAll]

/-- a range that names the lines of `body` and none of the lines around it selects `body` -/
theorem select_segment (r : List Int) (pro body epi : List Line)
    (hp : ∀ l ∈ pro, (l.num : Int) ∉ r) (hb : ∀ l ∈ body, (l.num : Int) ∈ r)
    (he : ∀ l ∈ epi, (l.num : Int) ∉ r) : selectLines r (pro ++ (body ++ epi)) = body := by
  rw [selectLines, List.filter_append, List.filter_append,
    (List.filter_eq_nil_iff (l := pro)).mpr fun l hl => by simpa using hp l hl,
    (List.filter_eq_nil_iff (l := epi)).mpr fun l hl => by simpa using he l hl,
    (List.filter_eq_self (l := body)).mpr fun l hl => by simpa using hb l hl,
    List.nil_append, List.append_nil]

/-- **three ways, same kernel** (selection level): for a marked file whose body carries the line
    numbers `a … b` (everything before it smaller, everything after it larger), the markers, `--lines
    a-b` (or `a:b`) and the body alone as a file select the same lines. -/
theorem three_ways_select (c : Cfg) (m : MarkerConv) (hag : Agree c m) (pro sm body em epi : List Line)
    (hpro : Quiet m pro (sm ++ (body ++ (em ++ epi)))) (hsm : StartMarker m sm)
    (hbody : Quiet m body (em ++ epi)) (hem : EndMarker m em) (halone : Quiet m body [])
    (a b : Nat) (colon : Bool)
    (hb : ∀ l ∈ body, a ≤ l.num ∧ l.num ≤ b) (hlo : ∀ l ∈ pro ++ sm, l.num < a)
    (hhi : ∀ l ∈ em ++ epi, b < l.num) :
    let file := pro ++ (sm ++ (body ++ (em ++ epi)))
    reduceWith c file = some body ∧
    (∃ r, getLineRange (renderSpec [.range a b colon]) = some r ∧ selectLines r file = body) ∧
    reduceWith c body = some body := by
  refine ⟨marked_exact c m hag pro sm body em epi hpro hsm hbody hem,
    ⟨_, lines_denotation [.range a b colon] (by simp), ?_⟩, no_marker_whole c m hag body halone⟩
  rw [← List.append_assoc]
  apply select_segment
  all_goals
    intro l hl
    simp only [mem_map_natCast, mem_denoteAll, Named, List.mem_singleton, exists_eq_left]
  · exact fun h => Nat.not_le_of_gt (hlo l hl) h.1
  · exact hb l hl
  · exact fun h => Nat.not_le_of_gt (hhi l hl) h.2

/-! ### which lines exist and how they are numbered (`parse_file`) -/

theorem numberFrom_texts (start i : Nat) (ts : List Txt) :
    (numberFrom start i ts).map (·.2) = ts.filter (fun t => !isBlank t) := by
  induction ts generalizing i with
  | nil => rfl
  | cons t ts ih =>
    rw [numberFrom]
    by_cases hb : isBlank t = true
    · simp [hb, ih]
    · simp [hb, ih]

/-- a line's number is its position in the file (counted from `pfFirstLine + start`) -/
theorem number_is_position (start i : Nat) (ts : List Txt) :
    ∀ p ∈ numberFrom start i ts, ∃ k, ts[k]? = some p.2 ∧ p.1 = i + k + Gen.pfFirstLine + start := by
  induction ts generalizing i with
  | nil => intro p hp; cases hp
  | cons t ts ih =>
    have step : ∀ q ∈ numberFrom start (i + 1) ts,
        ∃ k, (t :: ts)[k]? = some q.2 ∧ q.1 = i + k + Gen.pfFirstLine + start := fun q hq =>
      let ⟨k, hk, hn⟩ := ih (i + 1) q hq
      ⟨k + 1, hk, by rw [hn, Nat.add_assoc i, Nat.add_comm 1]⟩
    rw [numberFrom]
    split
    · exact step
    · intro p hp
      rcases List.mem_cons.mp hp with rfl | h
      · exact ⟨0, rfl, rfl⟩
      · exact step p h

theorem numberFrom_lower (start i : Nat) (ts : List Txt) :
    ∀ p ∈ numberFrom start i ts, i + Gen.pfFirstLine + start ≤ p.1 := by
  intro p hp
  obtain ⟨k, _, h⟩ := number_is_position start i ts p hp
  omega

theorem numbers_increasing (start i : Nat) (ts : List Txt) :
    ((numberFrom start i ts).map (·.1)).Pairwise (· < ·) := by
  induction ts generalizing i with
  | nil => simp [numberFrom]
  | cons t ts ih =>
    rw [numberFrom]
    split
    · exact ih (i + 1)
    · simp only [List.map_cons, List.pairwise_cons, List.mem_map]
      refine ⟨?_, ih (i + 1)⟩
      rintro n ⟨p, hp, rfl⟩
      have := numberFrom_lower start (i + 1) ts p hp
      omega

/-- **blank lines are transparent** (∀ files, ∀ positions): inserting a whitespace-only line changes
    no line's text and drops no line (the numbers are the positions, `number_is_position`). -/
theorem blank_line_transparent (start : Nat) (xs ys : List Txt) (b : Txt) (hb : isBlank b = true) :
    (numberFrom start 0 (xs ++ b :: ys)).map (·.2) = (numberFrom start 0 (xs ++ ys)).map (·.2) := by
  rw [numberFrom_texts, numberFrom_texts, List.filter_append, List.filter_append, List.filter_cons]
  simp [hb]

/-- the line numbers `parse_file` hands out are strictly increasing -/
theorem parseFileNums_wf (content : Txt) :
    ((parseFileNums content).map (·.1)).Pairwise (· < ·) := numbers_increasing _ 0 _

/-! ### executable checkers for the vocabulary (used by the non-vacuity examples) -/

def inertB (m : MarkerConv) (l : Line) : Bool :=
  match l.mnem with
  | none => l.comment != some commentBegin && l.comment != some commentEnd
  | some mn => !m.movs.contains mn ||
      match l.ops[if m.immFirst then 0 else 1]?, l.ops[if m.immFirst then 1 else 0]? with
      | some src, some dst =>
        dst != .reg m.reg || (src != .imm (some m.startVal) && src != .imm (some m.endVal))
      | _, _ => false

def noBytesAfterB (m : MarkerConv) (l : Line) (rest : List Line) : Bool :=
  l.mnem.isSome && (l.ops[0]?).isSome && (l.ops[1]?).isSome &&
  (!hasDirective rest || matchBytes rest m.nop == .miss)

def quietB (m : MarkerConv) : List Line → List Line → Bool
  | [], _ => true
  | l :: b, follow => (inertB m l || noBytesAfterB m l (b ++ follow)) && quietB m b follow

def markerMovB (m : MarkerConv) (val : Int) (l : Line) : Bool :=
  (match l.mnem with | some mn => m.movs.contains mn | none => false) &&
  l.ops[if m.immFirst then 0 else 1]? == some (.imm (some val)) &&
  l.ops[if m.immFirst then 1 else 0]? == some (.reg m.reg)

def plainB (l : Line) : Bool :=
  l.mnem.isNone && l.comment != some commentBegin && l.comment != some commentEnd

theorem inertB_sound (m : MarkerConv) (l : Line) (h : inertB m l = true) : Inert m l := by
  unfold inertB at h
  unfold Inert
  cases hm : l.mnem with
  | none => rw [hm] at h; simpa using h
  | some mn =>
    rw [hm] at h
    simp only [Bool.or_eq_true, Bool.not_eq_true', List.contains_eq_mem, decide_eq_false_iff_not] at h
    refine h.imp id fun h => ?_
    split at h
    · exact ⟨_, _, ‹_›, ‹_›, by simpa using h⟩
    · cases h

theorem noBytesAfterB_sound (m : MarkerConv) (l : Line) (rest : List Line)
    (h : noBytesAfterB m l rest = true) : NoBytesAfter m l rest := by
  unfold noBytesAfterB at h
  simp only [Bool.and_eq_true, Bool.or_eq_true, Bool.not_eq_true', beq_iff_eq] at h
  exact ⟨h.1.1.1, h.1.1.2, h.1.2, h.2⟩

theorem quietB_sound (m : MarkerConv) (seg follow : List Line) (h : quietB m seg follow = true) :
    Quiet m seg follow := by
  induction seg with
  | nil => trivial
  | cons l b ih =>
    simp only [quietB, Bool.and_eq_true, Bool.or_eq_true] at h
    refine ⟨?_, ih h.2⟩
    cases h.1 with
    | inl hi => exact Or.inl (inertB_sound m l hi)
    | inr hn => exact Or.inr (noBytesAfterB_sound m l _ hn)

theorem markerMovB_sound (m : MarkerConv) (val : Int) (l : Line) (h : markerMovB m val l = true) :
    MarkerMov m val l := by
  unfold markerMovB at h
  simp only [Bool.and_eq_true, beq_iff_eq] at h
  refine ⟨?_, h.1.2, h.2⟩
  cases hm : l.mnem with
  | none => rw [hm] at h; simp at h
  | some mn => rw [hm] at h; exact ⟨mn, rfl, by simpa using h.1.1⟩

theorem plainB_sound (l : Line) (h : plainB l = true) : PlainLine l := by
  unfold plainB at h
  simp only [Bool.and_eq_true, Option.isNone_iff_eq_none, bne_iff_ne, ne_eq] at h
  exact ⟨h.1.1, h.1.2, h.2⟩

/-! ### non-vacuity: concrete files of both ISAs satisfy the hypotheses, and the model computes the
    stated result on them -/

namespace Ex
def ins (n : Nat) (mn : Txt) (ops : List Opd) : Line := ⟨n, some mn, none, none, ops⟩
def cmt (n : Nat) (t : Txt) : Line := ⟨n, none, some t, none, []⟩
def dir (n : Nat) (name : Txt) (ps : List Txt) (c : Option Txt := none) : Line :=
  ⟨n, none, c, some ⟨name, ps.map some⟩, []⟩
def mov : Txt := [109, 111, 118]
def movl : Txt := [109, 111, 118, 108]
def addl : Txt := [97, 100, 100, 108]
def ebx : Txt := [101, 98, 120]
def eax : Txt := [101, 97, 120]
def x1 : Txt := [120, 49]
def x2 : Txt := [120, 50]
def byte : Txt := [98, 121, 116, 101]
def p2align : Txt := [112, 50, 97, 108, 105, 103, 110]
def isaX86 : Txt := [88, 56, 54]          -- "X86": any case
def isaA64 : Txt := [65, 65, 114, 99, 104, 54, 52]  -- "AArch64"

/-- x86 prologue with all three kinds of decoys: other value, other register, no bytes after -/
def pro : List Line := [
  ins 1 movl [.imm (some 112), .reg ebx], dir 2 byte [[49, 48, 48], [49, 48, 51], [49, 52, 52]],
  ins 3 movl [.imm (some 111), .reg eax], dir 4 byte [[49, 48, 48], [49, 48, 51], [49, 52, 52]],
  ins 5 movl [.imm (some 111), .reg ebx], ins 6 addl [.imm (some 1), .reg eax],
  ins 7 movl [.imm (some 111), .reg ebx], dir 8 byte [[49, 48, 48], [49, 48, 51], [49, 52, 53]],
  cmt 9 [79, 83, 65, 67, 65, 45, 66, 69, 71, 73, 78, 88]]
/-- `mov $111, %ebx` / `.byte 0x64` / `.byte 103,144` (hex and decimal, two lines) -/
def sm : List Line := [ins 10 mov [.imm (some 111), .reg ebx], dir 11 byte [[48, 120, 54, 52]],
  dir 12 byte [[49, 48, 51], [49, 52, 52]] (some [109])]
/-- the body starts with a `.byte` line of its own and ends with a bare marker move -/
def body : List Line := [dir 13 byte [[55]], ins 14 addl [.imm (some 1), .reg eax],
  dir 15 p2align [[52]], ins 16 movl [.imm (some 222), .reg ebx]]
def emC : List Line := [cmt 17 commentEnd]
def emB : List Line := [ins 17 movl [.imm (some 222), .reg ebx], dir 18 byte [[49, 48, 48]],
  dir 19 byte [[49, 48, 51]], dir 20 byte [[49, 52, 52]]]
/-- the epilogue is arbitrary: here it contains both kinds of markers again -/
def epi : List Line := [cmt 21 commentBegin, ins 22 addl [.imm (some 1), .reg eax], cmt 23 commentEnd]

example : Quiet x86Marker pro (sm ++ (body ++ (emC ++ epi))) := quietB_sound _ _ _ (by decide +kernel)
example : Quiet x86Marker body (emC ++ epi) := quietB_sound _ _ _ (by decide +kernel)
example : Quiet x86Marker body (emB ++ epi) := quietB_sound _ _ _ (by decide +kernel)
example : Quiet x86Marker body [] := quietB_sound _ _ _ (by decide +kernel)
example : StartMarker x86Marker sm :=
  .bytes _ _ (markerMovB_sound _ _ _ (by decide +kernel)) (by simp) (by decide +kernel)
    (fun l hl => plainB_sound l (by revert l; decide +kernel))
example : StartMarker x86Marker [cmt 10 commentBegin] := .comment _ rfl rfl
example : EndMarker x86Marker emC := .comment _ rfl rfl
example : EndMarker x86Marker emB :=
  .bytes _ _ (markerMovB_sound _ _ _ (by decide +kernel)) (by simp) (by decide +kernel)
/-- and the model really computes `body` (directly, without the theorem) -/
example : reduceToSection (pro ++ (sm ++ (body ++ (emC ++ epi)))) isaX86 = .ok body := by decide +kernel
example : reduceToSection (pro ++ (sm ++ (body ++ (emB ++ epi)))) isaX86 = .ok body := by decide +kernel
example : reduceToSection (pro ++ body) isaX86 = .ok (pro ++ body) := by decide +kernel

/-- AArch64: `mov x1, #111` / `.byte 213,3,32,31`; immediate is the second operand -/
def smA : List Line := [ins 3 mov [.reg x1, .imm (some 111)],
  dir 4 byte [[50, 49, 51], [51], [51, 50], [51, 49]]]
def proA : List Line := [ins 1 mov [.reg x2, .imm (some 111)], dir 2 byte [[50, 49, 51], [51], [51, 50], [51, 49]]]
def bodyA : List Line := [ins 5 mov [.reg x1, .reg x2], ins 6 mov [.reg x1, .imm (some 5)]]
def emA : List Line := [ins 7 mov [.reg x1, .imm (some 222)], dir 8 byte [[48, 120, 100, 53], [51]],
  dir 9 byte [[51, 50], [51, 49]]]
example : Quiet a64Marker proA (smA ++ (bodyA ++ (emA ++ []))) := quietB_sound _ _ _ (by decide +kernel)
example : Quiet a64Marker bodyA (emA ++ []) := quietB_sound _ _ _ (by decide +kernel)
example : StartMarker a64Marker smA :=
  .bytes _ _ (markerMovB_sound _ _ _ (by decide +kernel)) (by simp) (by decide +kernel)
    (fun l hl => plainB_sound l (by revert l; decide +kernel))
example : EndMarker a64Marker emA :=
  .bytes _ _ (markerMovB_sound _ _ _ (by decide +kernel)) (by simp) (by decide +kernel)
example : reduceToSection (proA ++ (smA ++ (bodyA ++ (emA ++ [])))) isaA64 = .ok bodyA := by decide +kernel
-- the x86 marker is not an AArch64 marker (operand order, register)
example : reduceToSection (pro ++ (sm ++ (body ++ (emC ++ epi)))) isaA64 ≠ .ok body := by decide +kernel

-- decoys, one by one
example : Inert x86Marker (ins 1 movl [.imm (some 112), .reg ebx]) := inertB_sound _ _ (by decide +kernel)
example : Inert x86Marker (ins 1 movl [.imm (some 111), .reg eax]) := inertB_sound _ _ (by decide +kernel)
example : ¬ Inert x86Marker (ins 1 movl [.imm (some 111), .reg ebx]) := by
  intro h
  rcases h with h | ⟨src, dst, hs, hd, h⟩
  · exact h (by decide)
  · simp only [x86Marker, ins, if_true] at hs hd
    injection hs with hs; injection hd with hd
    subst hs; subst hd
    rcases h with h | h
    · exact h rfl
    · exact h.1 rfl

-- `--lines`
example : renderSpec [.single 7, .range 10 12 false, .range 3 4 true] =
    [55, 44, 49, 48, 45, 49, 50, 44, 51, 58, 52] := by decide +kernel   -- "7,10-12,3:4"
example : denoteAll [.single 7, .range 10 12 false, .range 3 4 true] = [7, 10, 11, 12, 3, 4] := by
  decide +kernel
example : getLineRange [55, 44, 49, 48, 45, 49, 50, 44, 51, 58, 52] = some [7, 10, 11, 12, 3, 4] := by
  decide +kernel
example : getLineRange [55, 44, 44, 56] = none := by decide +kernel        -- "7,,8": ValueError
example : natDigits 1234 = [49, 50, 51, 52] ∧ natDigits 0 = [48] := by decide +kernel
example : (selectLines [14, 15, 16] (pro ++ (sm ++ (body ++ (emC ++ epi))))).map (·.num) = [14, 15, 16] := by
  decide +kernel

-- numbering: blank lines are skipped but counted
example : parseFileNums [97, 10, 32, 9, 10, 10, 98, 10] = [(1, [97]), (4, [98])] := by decide +kernel
example : pyInt0 [48, 120, 54, 52] = some 100 ∧ pyInt0 [48, 49] = none ∧ pyInt0 [49, 95, 48] = some 10 ∧
    pyInt10 [32, 43, 48, 55, 32] = some 7 := by decide +kernel
end Ex

end OsacaVerif.Props.C11
