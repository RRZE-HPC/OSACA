import OsacaVerif.Gen.DbAll
import OsacaVerif.Lemmas.WellFormed
import OsacaVerif.Model.Sanity
/-
  C15 — Every shipped model entry is well-formed and can be costed.

  `Gen.Db_<arch>` (regenerated from the YAML files on every run) carries, per shipped model, the port
  list and every distinct raw value the costing code consumes, together with the kernel-decided
  theorem `Db_<arch>.wf`.  The theorems below lift that to: costing any of them cannot raise, and
  yields the exactly feasible uniform split (C01).
-/
namespace OsacaVerif.Props.C15
open OsacaVerif OsacaVerif.Text OsacaVerif.Ports OsacaVerif.Spec OsacaVerif.Sanity

/-- every value of every shipped model is well-formed (table, regenerated per run) -/
theorem shipped_all_wf : ∀ d ∈ Gen.allDbs, dbWF d = true := by
  have h := Gen.allDbs_wf
  rw [List.all_eq_true] at h
  exact h

/-- all micro-op lists a shipped model can hand to the costing code -/
def costedValues (d : Db) : List Y :=
  d.ppValues ++ d.loadRows ++ d.storeRows ++ [d.loadDefault, d.storeDefault]

theorem costedValues_wf (d : Db) (h : dbWF d = true) : ∀ y ∈ costedValues d, wfPPY d.ports y = true := by
  intro y hy
  simp only [dbWF, Bool.and_eq_true, List.all_eq_true] at h
  obtain ⟨⟨⟨⟨⟨h1, _⟩, h3⟩, h4⟩, h5⟩, h6⟩ := h
  simp only [costedValues, List.mem_append, List.mem_cons, List.not_mem_nil, or_false] at hy
  rcases hy with ((hy | hy) | hy) | hy | hy
  · exact h1 y hy
  · exact h3 y hy
  · exact h4 y hy
  · rw [hy]; exact h5
  · rw [hy]; exact h6

/-- **a well-formed list can always be costed** (∀ port lists, ∀ raw lists; re-export) -/
theorem wf_costable (ports : List Txt) (l : List Y) (h : wfPPY ports (.list l) = true) :
    ∃ us, resolveList ports (.list l) = .ok us ∧ WFUops ports.length us ∧
      averageY ports (.list l) = .ok (uniform ports.length us) ∧
      Feasible 0 ports.length us (uniform ports.length us) :=
  Spec.wf_costable ports l h

/-- **C15 for the shipped models**: costing any micro-op list of any shipped model — instruction
    form, load/store table row or default; for alternatives: each alternative — never raises and
    returns an exactly feasible split. -/
theorem shipped_costable (d : Db) (hd : d ∈ Gen.allDbs) (y : Y) (hy : y ∈ costedValues d) :
    (∀ l, y = .list l → ∃ us, averageY d.ports y = .ok (uniform d.ports.length us) ∧
        Feasible 0 d.ports.length us (uniform d.ports.length us)) ∧
    (∀ kv, y = .map kv → ∀ e ∈ kv, ∃ l us, e.2 = .list l ∧
        averageY d.ports (.list l) = .ok (uniform d.ports.length us) ∧
        Feasible 0 d.ports.length us (uniform d.ports.length us)) := by
  have hw := costedValues_wf d (shipped_all_wf d hd) y hy
  constructor
  · intro l hl; subst hl
    obtain ⟨us, _, _, h3, h4⟩ := Spec.wf_costable d.ports l hw
    exact ⟨us, h3, h4⟩
  · intro kv hkv e he; subst hkv
    obtain ⟨l, hl, hwl⟩ := wf_alternatives d.ports kv hw e he
    obtain ⟨us, _, _, h3, h4⟩ := Spec.wf_costable d.ports l hwl
    exact ⟨l, us, hl, h3, h4⟩

/-- throughput and latency of every shipped form are absent or non-negative numbers -/
theorem shipped_nums_wf (d : Db) (hd : d ∈ Gen.allDbs) : ∀ y ∈ d.numValues, wfNumY y = true := by
  have h := shipped_all_wf d hd
  simp only [dbWF, Bool.and_eq_true, List.all_eq_true] at h
  exact h.1.1.1.1.2

/-- `--db-check` counters = number of forms whose field is absent (∀ form lists) -/
theorem counts_spec (forms : List FormNums) :
    sanityCounts forms =
      { noTp := (forms.filter (fun f => isNull f.tp)).length,
        noLat := (forms.filter (fun f => isNull f.lat)).length,
        noPP := (forms.filter (fun f => isNull f.pp)).length } := by
  -- one step of one counter; the three counters do not interact
  have step : ∀ (b : Bool) (c : Nat) (f : FormNums) (l : List FormNums),
      (if b then c + 1 else c) + l.length = c + (if b then f :: l else l).length := by
    intro b c f l
    cases b
    · rfl
    · exact Nat.add_right_comm c 1 _
  have gen : ∀ (c : Counts), forms.foldl (fun c f =>
      ({ noTp := if isNull f.tp then c.noTp + 1 else c.noTp,
         noLat := if isNull f.lat then c.noLat + 1 else c.noLat,
         noPP := if isNull f.pp then c.noPP + 1 else c.noPP } : Counts)) c =
      { noTp := c.noTp + (forms.filter (fun f => isNull f.tp)).length,
        noLat := c.noLat + (forms.filter (fun f => isNull f.lat)).length,
        noPP := c.noPP + (forms.filter (fun f => isNull f.pp)).length } := by
    induction forms with
    | nil => intro c; rfl
    | cons f fs ih =>
      intro c
      rw [List.foldl_cons, ih, step _ _ f, step _ _ f, step _ _ f]
      simp only [List.filter_cons]
  rw [sanityCounts, gen]
  simp only [Nat.zero_add]

-- non-vacuity: the tables are not empty, and a malformed list is rejected by the predicate
example : Gen.allDbs.length ≥ 1 ∧ (Gen.allDbs.all fun d => !d.ppValues.isEmpty) = true := by decide +kernel
example : wfPPY [[48], [49]] (.list [.list [.num 1, .list [.str [54, 55]]]]) = false := by decide +kernel
example : wfPPY [[48], [49]] (.list [.list [.num 1, .str [48, 49]]]) = true := by decide +kernel
example : wfPPY [[48], [49]] (.list [.list [.num 1, .str [48], .str [49]]]) = false := by decide +kernel
example : wfPPY [[48], [49]] (.list [.num 1, .list [.str [48]]]) = false := by decide +kernel

end OsacaVerif.Props.C15
