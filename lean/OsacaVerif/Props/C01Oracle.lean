import OsacaVerif.Lemmas.FeasibleOracle
/-
  C01/C02/C15 — the executable search oracle means what the declarative spec says.

  `Spec.checkFeasible` (run by the driver on the implementation's vectors) enumerates only the
  subsets of the *used* ports; `Spec.Feasible` quantifies over every duplicate-free port set.
  Here: the check returns `none` exactly on feasible vectors (∀ ε ≥ 0, ∀ port counts, ∀ micro-op
  lists, ∀ vectors), and `Spec.lowerBound` is the maximum of confined(S)/|S| over the non-empty
  port sets.
-/
namespace OsacaVerif.Props.C01Oracle
open OsacaVerif OsacaVerif.Ports OsacaVerif.Spec

/-- the clauses the executable check tests, as propositions -/
theorem checkFeasible_none_iff (ε : Rat) (n : Nat) (us : List Uop) (v : List Rat) :
    checkFeasible ε n us v = none ↔
      v.length = n ∧ (∀ p < n, -ε ≤ v.getD p 0) ∧
      (∀ p < n, (∀ u ∈ us, p ∉ u.ports) → v.getD p 0 = 0) ∧
      totalAmount us - ε * n ≤ v.sum ∧ v.sum ≤ totalAmount us + ε * n ∧
      (∀ S ∈ sublists (usedPorts us), confined us S - ε * S.length ≤ sumOn v S) := by
  -- `ite_some_eq_none` peels one clause off per `if`; the other lemmas turn the Boolean tests
  -- into propositions
  simp only [checkFeasible, ite_some_eq_none, and_true, bne_iff_ne, ne_eq, Decidable.not_not,
    List.any_eq_true, List.all_eq_true, List.mem_range, List.contains_eq_mem, Bool.and_eq_true,
    Bool.or_eq_true, Bool.not_eq_eq_eq_not, Bool.not_true, decide_eq_true_eq,
    decide_eq_false_iff_not, not_exists, not_and, not_or, not_lt, and_assoc]

/-- **soundness of the executable oracle** (∀ ε, ∀ n, ∀ micro-op lists, ∀ vectors): when
    `checkFeasible` reports no failing clause, the vector is `Feasible ε` in the declarative sense —
    in particular the Hall inequality holds for *every* duplicate-free port set, not only for the
    enumerated subsets of the used ports. Neither well-formedness of the micro-ops nor `0 ≤ ε` is
    needed: for ε < 0 the two total clauses contradict each other unless `n = 0`. -/
theorem checkFeasible_sound_all (ε : Rat) (n : Nat) (us : List Uop) (v : List Rat)
    (h : checkFeasible ε n us v = none) : Feasible ε n us v := by
  obtain ⟨h1, h2, h3, h4, h5, h6⟩ := (checkFeasible_none_iff ε n us v).mp h
  -- the two total clauses leave room only if `0 ≤ ε * n`
  have hε : 0 ≤ ε * n := neg_le_self_iff.mp (by
    have := h4.trans h5
    rwa [sub_eq_add_neg, add_le_add_iff_left] at this)
  exact ⟨h1, h2, h3, h4, h5, hall_of_used ε n hε us v h3 h6⟩

theorem checkFeasible_sound (ε : Rat) (hε : 0 ≤ ε) (n : Nat) (us : List Uop) (v : List Rat)
    (h : checkFeasible ε n us v = none) : Feasible ε n us v :=
  checkFeasible_sound_all ε n us v h

/-- soundness stated under `0 ≤ ε` and `WFUops`; the proof needs neither -/
theorem checkFeasible_sound' (ε : Rat) (hε : 0 ≤ ε) (n : Nat) (us : List Uop) (v : List Rat)
    (_hw : WFUops n us) : checkFeasible ε n us v = none → Feasible ε n us v :=
  checkFeasible_sound ε hε n us v

/-- micro-ops whose ports lie inside the port list (the part of `WFUops` completeness needs) -/
def PortsBounded (n : Nat) (us : List Uop) : Prop := ∀ u ∈ us, ∀ p ∈ u.ports, p < n

instance (n : Nat) (us : List Uop) : Decidable (PortsBounded n us) := by
  unfold PortsBounded; infer_instance

theorem WFUops.portsBounded {n : Nat} {us : List Uop} (hw : WFUops n us) : PortsBounded n us :=
  fun u hu => (hw u hu).2.2.2

/-- **completeness of the executable oracle**: every feasible vector passes the check (the
    enumerated sets are duplicate-free sets of ports below `n` because the micro-ops' ports are). -/
theorem checkFeasible_complete (ε : Rat) (n : Nat) (us : List Uop) (v : List Rat)
    (hb : PortsBounded n us) (h : Feasible ε n us v) : checkFeasible ε n us v = none := by
  rw [checkFeasible_none_iff]
  refine ⟨h.len, h.nonneg, h.support, h.totalLo, h.totalHi, ?_⟩
  intro S hS
  have hsub : S.Sublist (usedPorts us) := (mem_sublists _ _).mp hS
  exact h.hall S (hsub.nodup (nodup_usedPorts us)) fun p hp => lt_of_mem_usedPorts hb (hsub.subset hp)

/-- **the oracle decides feasibility** (∀ ε ≥ 0, well-formed micro-ops) -/
theorem checkFeasible_iff (ε : Rat) (hε : 0 ≤ ε) (n : Nat) (us : List Uop) (v : List Rat)
    (hw : WFUops n us) : checkFeasible ε n us v = none ↔ Feasible ε n us v :=
  ⟨checkFeasible_sound ε hε n us v, checkFeasible_complete ε n us v (WFUops.portsBounded hw)⟩

/-! ### the exact lower bound (C02) -/

/-- **`lowerBound` dominates every port set** (∀ micro-op lists): for every non-empty
    duplicate-free set `S` of used ports (in any order), confined(S)/|S| ≤ lowerBound. -/
theorem lowerBound_ge (us : List Uop) (S : List Nat) (hne : S ≠ []) (hS : S.Nodup)
    (hsub : ∀ p ∈ S, p ∈ usedPorts us) : confined us S / S.length ≤ lowerBound us := by
  have hperm : (restrict us S).Perm S := by
    refine (restrict_perm us S hS).trans ?_
    rw [List.filter_eq_self.mpr (by intro p hp; simpa using hsub p hp)]
  have hne' : restrict us S ≠ [] := by
    intro h; rw [h] at hperm; exact hne hperm.symm.eq_nil
  have hmem : restrict us S ∈ (sublists (usedPorts us)).filter (· ≠ []) :=
    List.mem_filter.mpr ⟨restrict_mem_sublists us S, decide_eq_true hne'⟩
  have := (le_foldl_max _ 0).2 _
    (List.mem_map_of_mem (f := fun S : List Nat => confined us S / S.length) hmem)
  rwa [← lowerBound_eq_foldl_max, confined_restrict, hperm.length_eq] at this

theorem lowerBound_nonneg (us : List Uop) : 0 ≤ lowerBound us :=
  lowerBound_eq_foldl_max us ▸ (le_foldl_max _ 0).1

/-- **`lowerBound` is attained** (or is 0): it equals confined(S)/|S| for some non-empty
    duplicate-free set `S` of used ports. -/
theorem lowerBound_attained (us : List Uop) :
    lowerBound us = 0 ∨ ∃ S : List Nat, S ≠ [] ∧ S.Nodup ∧ (∀ p ∈ S, p ∈ usedPorts us) ∧
      lowerBound us = confined us S / S.length := by
  rw [lowerBound_eq_foldl_max]
  refine (foldl_max_mem _ 0).imp_right fun h => ?_
  obtain ⟨S, hS, h⟩ := List.mem_map.mp h
  obtain ⟨hS1, hS2⟩ := List.mem_filter.mp hS
  have hsub : S.Sublist (usedPorts us) := (mem_sublists _ _).mp hS1
  exact ⟨S, of_decide_eq_true hS2, hsub.nodup (nodup_usedPorts us), fun p hp => hsub.subset hp,
    h.symm⟩

/-- `lowerBound us` is the maximum of 0 and confined(S)/|S| over the
    non-empty duplicate-free sets of used ports. -/
theorem lowerBound_spec (us : List Uop) :
    0 ≤ lowerBound us ∧
    (∀ S : List Nat, S ≠ [] → S.Nodup → (∀ p ∈ S, p ∈ usedPorts us) →
      confined us S / S.length ≤ lowerBound us) ∧
    (lowerBound us = 0 ∨ ∃ S : List Nat, S ≠ [] ∧ S.Nodup ∧ (∀ p ∈ S, p ∈ usedPorts us) ∧
      lowerBound us = confined us S / S.length) :=
  ⟨lowerBound_nonneg us, lowerBound_ge us, lowerBound_attained us⟩

theorem amount_nonneg_of_wf {n : Nat} {us : List Uop} (hw : WFUops n us) :
    ∀ u ∈ us, 0 ≤ u.amount := fun u hu => mul_nonneg (hw u hu).2.1 (hw u hu).1

theorem confined_nonneg {n : Nat} {us : List Uop} (hw : WFUops n us) (S : List Nat) :
    0 ≤ confined us S := by
  unfold confined
  apply List.sum_nonneg
  intro x hx
  obtain ⟨u, hu, rfl⟩ := List.mem_map.mp hx
  exact amount_nonneg_of_wf hw u (List.mem_filter.mp hu).1

/-- for well-formed micro-ops the bound holds for **every** non-empty duplicate-free port set, used
    or not: unused ports only enlarge |S| -/
theorem lowerBound_ge_all (n : Nat) (us : List Uop) (hw : WFUops n us) (S : List Nat) (hne : S ≠ [])
    (hS : S.Nodup) : confined us S / S.length ≤ lowerBound us := by
  by_cases hr : restrict us S = []
  · -- no used port in S: nothing is confined to S
    have h0 : confined us S = 0 := by
      rw [← confined_restrict, hr, confined, List.filter_eq_nil_iff.mpr, List.map_nil, List.sum_nil]
      intro u hu hall
      obtain ⟨p, hp⟩ := List.exists_mem_of_ne_nil _ (hw u hu).2.2.1
      exact absurd (of_decide_eq_true (List.all_eq_true.mp hall p hp)) List.not_mem_nil
    rw [h0, zero_div]
    exact lowerBound_nonneg us
  · have h1 := lowerBound_ge us (restrict us S) hr ((nodup_usedPorts us).filter _)
      fun p hp => ((mem_restrict us S p).mp hp).1
    rw [confined_restrict] at h1
    exact le_trans (div_le_div_of_nonneg_left (confined_nonneg hw S)
      (Nat.cast_pos.mpr (List.length_pos_iff.mpr hr))
      (Nat.cast_le.mpr (length_restrict_le us S hS))) h1

-- non-vacuity: a feasible and an infeasible vector, the bound of a 3-micro-op instruction
example : checkFeasible 0 3 [⟨1, [0, 1], 1⟩, ⟨2, [1], 1⟩] [1/2, 5/2, 0] = none := by decide +kernel
example : checkFeasible 0 3 [⟨1, [0, 1], 1⟩, ⟨2, [1], 1⟩] [2, 1, 0] = some "hall" := by
  decide +kernel
example : Feasible 0 3 [⟨1, [0, 1], 1⟩, ⟨2, [1], 1⟩] [1/2, 5/2, 0] :=
  checkFeasible_sound 0 (by decide) 3 _ _ (by decide +kernel)
example : PortsBounded 3 [⟨1, [0, 1], 1⟩, ⟨2, [1], 1⟩] := by decide +kernel
example : lowerBound [⟨1, [0, 1], 1⟩, ⟨2, [1], 1⟩, ⟨1/2, [0, 1, 2], 2⟩] = 2 := by decide +kernel
example : usedPorts [⟨1, [0, 1], 1⟩, ⟨2, [1], 1⟩, ⟨1/2, [2, 1, 0], 2⟩] = [0, 1, 2] := by
  decide +kernel

end OsacaVerif.Props.C01Oracle
