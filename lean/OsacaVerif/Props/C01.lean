import OsacaVerif.Gen.Consts
import OsacaVerif.Lemmas.Balance
/-
  C01 — Port pressure is a feasible split of each instruction's micro-ops.

  * uniform scheduling: `average_port_pressure`'s loop = closed form = exactly feasible;
  * optimised scheduling: every run of the balancer that consists of guarded moves (checked on the
    recorded trace of the real run) keeps the vector feasible up to ½·INC per micro-op, with the
    total exact — for any number of moves and passes;
  * kernel totals: column sums over exactly the lines with throughput ≠ 0.
-/
namespace OsacaVerif.Props.C01
open OsacaVerif OsacaVerif.Text OsacaVerif.Ports OsacaVerif.Spec OsacaVerif.Balance

/-- the loop of `average_port_pressure` computes the closed-form uniform split (∀ inputs) -/
theorem average_eq_uniform (n : Nat) (us : List Uop) (h : ∀ u ∈ us, ∀ p ∈ u.ports, p < n) :
    average n us = uniform n us := Ports.average_eq_uniform n us h

/-- **uniform scheduling is exactly feasible** (ε = 0): ∀ port counts, ∀ micro-op lists with
    non-negative cycles/multipliers and non-empty admissible port sets. -/
theorem uniform_feasible (n : Nat) (us : List Uop) (hw : WFUops n us) :
    Feasible 0 n us (average n us) := by
  rw [average_eq_uniform n us (fun u hu => (hw u hu).2.2.2)]
  exact Spec.uniform_feasible n us hw

/-- the balancer starts from the uniform split -/
theorem pressure_init (n : Nat) (us : List Uop) : pressure n (Balance.init n us) = uniform n us :=
  Balance.pressure_init n us

/-- lower bound a cell may reach during balancing: −½·INC (INC regenerated from the source) -/
def lo : Rat := -(Gen.balanceInc / 2)

theorem lo_nonpos : lo ≤ 0 := by decide +kernel

/-- **optimised scheduling** (∀ port models, ∀ micro-op lists, ∀ sequences of guarded moves — any
    length, any interleaving over micro-ops, one pass or several): the resulting vector is feasible
    up to ½·INC per micro-op; its total is exact. -/
theorem steps_feasible (n : Nat) (us : List Uop) (hw : WFUops n us) (ms : List Move) (x : Decomp)
    (hrun : run lo us (Balance.init n us) ms = some x) :
    Feasible (Gen.balanceInc / 2 * us.length) n us (pressure n x) := by
  have hinv := run_inv lo n us (fun u hu => (hw u hu).2.2.2) ms _ x (init_inv lo lo_nonpos n us hw) hrun
  have := feasible_of_inv lo lo_nonpos n us x hinv
  rwa [lo, neg_neg] at this

/-- composition path (C08): a vector obtained by scaling with a multiplier is the uniform split of
    the micro-ops carrying that multiplier -/
theorem uniform_mult (n : Nat) (m : Rat) (us : List Uop) :
    uniform n (us.map fun u => { u with mult := m * u.mult }) = scale m (uniform n us) := by
  simp only [uniform, scale, List.map_map]
  apply List.map_congr_left
  intro p _
  simp only [Function.comp_def, share]
  rw [← List.sum_map_mul_left]
  congr 1
  apply List.map_congr_left
  intro u _
  ring

/-! ### kernel totals -/

theorem length_addVec (a b : List Rat) (h : a.length = b.length) : (addVec a b).length = a.length := by
  induction a generalizing b with
  | nil => rfl
  | cons x xs ih =>
    cases b with
    | nil => exact absurd h (Nat.succ_ne_zero _)
    | cons y ys => rw [addVec, List.length_cons, List.length_cons, ih ys (Nat.succ.inj h)]

theorem getD_addVec (a b : List Rat) (h : a.length = b.length) (p : Nat) :
    (addVec a b).getD p 0 = a.getD p 0 + b.getD p 0 := by
  induction a generalizing b p with
  | nil =>
    rw [List.length_eq_zero_iff.mp h.symm]
    exact (add_zero _).symm
  | cons x xs ih =>
    cases b with
    | nil => exact absurd h (Nat.succ_ne_zero _)
    | cons y ys =>
      cases p with
      | zero => rfl
      | succ p => exact ih ys (Nat.succ.inj h) p

theorem foldl_addVec (n : Nat) (acc : List Rat) (ls : List Line) (hacc : acc.length = n)
    (hl : ∀ l ∈ ls, l.pressure.length = n) (p : Nat) :
    (ls.foldl (fun a l => addVec a l.pressure) acc).length = n ∧
    (ls.foldl (fun a l => addVec a l.pressure) acc).getD p 0 =
      acc.getD p 0 + (ls.map (·.pressure.getD p 0)).sum := by
  induction ls generalizing acc with
  | nil => exact ⟨hacc, (add_zero _).symm⟩
  | cons l ls ih =>
    have hal : acc.length = l.pressure.length := hacc.trans (hl l List.mem_cons_self).symm
    obtain ⟨i1, i2⟩ := ih (addVec acc l.pressure) ((length_addVec acc l.pressure hal).trans hacc)
      fun l' hl' => hl l' (List.mem_cons_of_mem _ hl')
    refine ⟨i1, ?_⟩
    rw [List.foldl_cons, List.map_cons, List.sum_cons, i2, getD_addVec acc l.pressure hal, add_assoc]

/-- **kernel totals** (∀ kernels whose lines carry a pressure vector of the model's length):
    before rounding, column `p` of `get_throughput_sum` is the sum of the pressure values of exactly
    the lines whose throughput differs from the skip value; all other lines never contribute. -/
theorem colSums_spec (skip : Rat) (n : Nat) (k : List Line) (hl : ∀ l ∈ k, l.pressure.length = n)
    (hne : (k.filter (·.tp != skip)) ≠ []) (p : Nat) :
    (colSumsExact skip k).length = n ∧
    (colSumsExact skip k).getD p 0 = ((k.filter (·.tp != skip)).map (·.pressure.getD p 0)).sum := by
  cases hf : k.filter (·.tp != skip) with
  | nil => exact absurd hf hne
  | cons l ls =>
    have hmem : ∀ l' ∈ l :: ls, l'.pressure.length = n := by
      intro l' hl'
      have : l' ∈ k.filter (·.tp != skip) := by rw [hf]; exact hl'
      exact hl l' (List.mem_filter.mp this).1
    obtain ⟨h1, h2⟩ := foldl_addVec n l.pressure ls (hmem l List.mem_cons_self)
      (fun l' hl' => hmem l' (List.mem_cons_of_mem _ hl')) p
    simp only [colSumsExact, hf]
    exact ⟨h1, h2⟩

/-- lines whose throughput equals the skip value can be removed or inserted without changing the totals -/
theorem colSums_ignores_skipped (skip : Rat) (digits : Nat) (k : List Line) :
    colSums skip digits k = colSums skip digits (k.filter (·.tp != skip)) := by
  simp [colSums, colSumsExact, List.filter_filter]

-- non-vacuity
example : WFUops 3 [⟨1, [0, 1], 1⟩, ⟨2, [1], 1⟩, ⟨1/2, [0, 1, 2], 2⟩] := by decide +kernel
example : average 3 [⟨1, [0, 1], 1⟩, ⟨2, [1], 1⟩] = [1/2, 5/2, 0] := by decide +kernel
example : (run lo [⟨1, [0, 1], 1⟩] (Balance.init 2 [⟨1, [0, 1], 1⟩])
    [⟨0, 0, 1, 1/100⟩, ⟨0, 0, 1, 1/100⟩]).map (pressure 2) = some [48/100, 52/100] := by decide +kernel
example : colSums 0 2 [⟨1, [1/3, 1]⟩, ⟨0, [5, 5]⟩, ⟨1/2, [1/3, 0]⟩] = [67/100, 1] := by decide +kernel
example : roundHalfEven (5/1000) 2 = 0 ∧ roundHalfEven (15/1000) 2 = 2/100 ∧
    roundHalfEven (-5/1000) 2 = 0 ∧ roundHalfEven (251/1000) 2 = 25/100 := by decide +kernel

end OsacaVerif.Props.C01
