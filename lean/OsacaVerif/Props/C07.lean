import OsacaVerif.Lemmas.Lookup
import OsacaVerif.Lemmas.Live
import OsacaVerif.Gen.Sigs
/-
  C07 — Instruction-form lookup is sound and complete for operand kinds.

  `Match.*` is the model of `MachineModel.get_instruction` / `_match_operands` / `_check_operands` …
  (every literal regenerated from the source: `Gen.MatchConsts`, `Gen.RegTables`), `Spec.KindAgree` the
  property's vocabulary, `Spec.liveOperand` / `Spec.instantiate` "an instruction written with operands of
  exactly the kinds an entry declares", `Gen.Sigs` the operand signatures of every shipped model.
-/
namespace OsacaVerif.Props.C07
open OsacaVerif OsacaVerif.Text OsacaVerif.Operand OsacaVerif.Match OsacaVerif.Spec
open OsacaVerif.Lemmas.KindAgree OsacaVerif.Lemmas.Lookup OsacaVerif.Lemmas.Live

/-- every entry of the database is inside the entry schema -/
def SchemaDb (db : List Entry) : Prop := ∀ e ∈ db, e.operands.all schemaOperand = true

/-- **the operand test decides kind agreement** (∀ ISAs, ∀ schema-valid entry operands, ∀ operands the
    parsers can produce): register class / width prefix / vector shape, immediate type, label,
    condition, memory addressing shape, wildcards. -/
theorem check_iff_kind (isa : Isa) (e : EOperand) (o : POperand)
    (ho : parserOperand o = true) (he : schemaOperand e = true) :
    checkOperand isa e o = true ↔ KindAgree isa e o := by
  rw [check_eq_kind isa e o ho he]
  exact kindAgreeB_iff isa e o

/-- operand lists: equal count and agreement at every position (∀ lengths) -/
theorem match_iff_agree (isa : Isa) (es : List EOperand) (os : List POperand)
    (ho : os.all parserOperand = true) (he : es.all schemaOperand = true) :
    matchOperands isa es os = true ↔ OperandsAgree isa es os := by
  rw [matchOperands_eq isa es os ho he]
  exact kindAgreeAll_iff isa es os

/-- a different operand count never matches -/
theorem count_mismatch (isa : Isa) (es : List EOperand) (os : List POperand) (h : es.length ≠ os.length) :
    matchOperands isa es os = false :=
  Bool.eq_false_iff.mpr fun hm => h (matchOperands_length isa es os hm)

theorem entry_iff_spec (isa : Isa) (name : Txt) (ops : List POperand) (e : Entry)
    (ho : ops.all parserOperand = true) (he : e.operands.all schemaOperand = true) :
    entryMatches isa name ops e = true ↔ SpecMatches isa name ops e := by
  rw [entryMatches_eq isa name ops e ho he]
  exact specMatchesB_iff isa name ops e

/-- **soundness**: whatever `get_instruction` returns is an entry of the model with the same mnemonic
    (case-insensitively), the same operand count, and agreeing in kind at every operand — an entry is
    never applied to an instruction with a different operand kind or count. -/
theorem lookup_sound (isa : Isa) (db : List Entry) (name : Txt) (ops : List POperand) (e : Entry)
    (ho : ops.all parserOperand = true) (hdb : SchemaDb db)
    (h : getInstruction isa db name ops = some e) :
    e ∈ db ∧ e.name = upper name ∧ e.operands.length = ops.length ∧ OperandsAgree isa e.operands ops := by
  have hm : e ∈ db := List.mem_of_find?_eq_some h
  have hp : entryMatches isa name ops e = true := List.find?_some h
  obtain ⟨h1, h2⟩ := (entry_iff_spec isa name ops e ho (hdb e hm)).mp hp
  exact ⟨hm, h1, operandsAgree_length h2, h2⟩

/-- **first match**: the returned entry is preceded (in post-expansion file order) only by entries
    that do not agree -/
theorem lookup_first (isa : Isa) (db : List Entry) (name : Txt) (ops : List POperand) (e : Entry)
    (ho : ops.all parserOperand = true) (hdb : SchemaDb db)
    (h : getInstruction isa db name ops = some e) :
    ∃ pre post, db = pre ++ e :: post ∧ ∀ x ∈ pre, ¬ SpecMatches isa name ops x := by
  obtain ⟨_, pre, post, e1, e2⟩ := List.find?_eq_some_iff_append.mp h
  refine ⟨pre, post, e1, ?_⟩
  intro x hx hs
  have hxdb : x ∈ db := by rw [e1]; simp [hx]
  have := e2 x hx
  rw [(entry_iff_spec isa name ops x ho (hdb x hxdb)).mpr hs] at this
  cases this

/-- **completeness**: if some entry agrees in mnemonic, count and every kind, the first such entry in
    file order is returned (∀ databases, any number of duplicate / shadowing entries) -/
theorem lookup_complete_first (isa : Isa) (pre post : List Entry) (e : Entry) (name : Txt) (ops : List POperand)
    (ho : ops.all parserOperand = true) (hdb : SchemaDb (pre ++ e :: post))
    (h1 : ∀ x ∈ pre, ¬ SpecMatches isa name ops x) (h2 : SpecMatches isa name ops e) :
    getInstruction isa (pre ++ e :: post) name ops = some e := by
  refine List.find?_eq_some_iff_append.mpr ⟨(entry_iff_spec isa name ops e ho (hdb e (by simp))).mpr h2, pre, post, rfl, ?_⟩
  intro x hx
  have hxdb : x ∈ pre ++ e :: post := by simp [hx]
  cases hb : entryMatches isa name ops x with
  | false => rfl
  | true => exact absurd ((entry_iff_spec isa name ops x ho (hdb x hxdb)).mp hb) (h1 x hx)

/-- … and `None` exactly when no entry agrees -/
theorem lookup_none_iff (isa : Isa) (db : List Entry) (name : Txt) (ops : List POperand)
    (ho : ops.all parserOperand = true) (hdb : SchemaDb db) :
    getInstruction isa db name ops = none ↔ ∀ x ∈ db, ¬ SpecMatches isa name ops x := by
  unfold getInstruction
  rw [List.find?_eq_none]
  exact ⟨fun h x hx hs => h x hx ((entry_iff_spec isa name ops x ho (hdb x hx)).mpr hs),
    fun h x hx hb => h x hx ((entry_iff_spec isa name ops x ho (hdb x hx)).mp hb)⟩

/-- the index the driver reports for the model is the index its oracle reports (so a disagreement
    between implementation and oracle is a disagreement with the model, and vice versa) -/
theorem lookupIdx_eq_oracle (isa : Isa) (db : List Entry) (name : Txt) (ops : List POperand)
    (ho : ops.all parserOperand = true) (hdb : SchemaDb db) :
    lookupIdx isa db name ops = specLookupIdx isa db name ops := by
  have : db.findIdx (entryMatches isa name ops) = db.findIdx (specMatchesB isa name ops) := by
    induction db with
    | nil => rfl
    | cons e es ih =>
      have he := hdb e (by simp)
      have hes : SchemaDb es := fun x hx => hdb x (by simp [hx])
      simp only [List.findIdx_cons, entryMatches_eq isa name ops e ho he, ih hes]
  simp only [lookupIdx, specLookupIdx, this]

/-- the mnemonic is compared case-insensitively -/
theorem lookup_case_insensitive (isa : Isa) (db : List Entry) (n n' : Txt) (ops : List POperand)
    (h : upper n = upper n') : getInstruction isa db n ops = getInstruction isa db n' ops := by
  have : entryMatches isa n ops = entryMatches isa n' ops := by
    funext e; simp only [entryMatches, h]
  simp only [getInstruction, this]

/-- **the documented fall-backs**: the full mnemonic is tried first; only if that finds nothing, the
    mnemonic without one trailing AT&T size suffix (x86) / cut at its first '.' (AArch64) is tried;
    nothing else is. -/
theorem fallback_spec (isa : Isa) (db : List Entry) (name : Txt) (ops : List POperand) :
    (∀ e, getInstruction isa db name ops = some e → lookupWithFallbacks isa db name ops = some e) ∧
    (getInstruction isa db name ops = none → ∀ alt, IsFallback isa name alt →
        lookupWithFallbacks isa db name ops = getInstruction isa db alt ops) ∧
    (getInstruction isa db name ops = none → (¬ ∃ alt, IsFallback isa name alt) →
        lookupWithFallbacks isa db name ops = none) := by
  refine ⟨?_, ?_, ?_⟩
  · intro e h; simp [lookupWithFallbacks, h]
  · intro h alt ha
    have := (fallbackName_iff isa name alt).mpr ha
    simp [lookupWithFallbacks, h, this]
  · intro h hn
    cases hf : fallbackName isa name with
    | none => simp [lookupWithFallbacks, h, hf]
    | some alt => exact absurd ⟨alt, (fallbackName_iff isa name alt).mp hf⟩ hn

/-- the alternative mnemonic is unique -/
theorem fallback_unique (isa : Isa) (name a b : Txt) (ha : IsFallback isa name a) (hb : IsFallback isa name b) :
    a = b := by
  have h1 := (fallbackName_iff isa name a).mpr ha
  have h2 := (fallbackName_iff isa name b).mpr hb
  rw [h1] at h2
  exact Option.some.inj h2

/-! ### an instruction written with exactly the kinds an entry declares -/

/-- **self match** (∀ entries with any number of live operands, ∀ ways of filling in register numbers
    and wildcards): the instance is matched by the entry and lies in the parsers' domain -/
theorem self_match (isa : Isa) (es : List EOperand) (cs : List Choice) (h : es.all (liveOperand isa) = true) :
    matchOperands isa es (instantiateAll isa es cs) = true ∧
    (instantiateAll isa es cs).all (parserOperandIsa isa) = true := by
  induction es generalizing cs with
  | nil => simp [instantiateAll, matchOperands]
  | cons e es ih =>
    simp only [List.all_cons, Bool.and_eq_true] at h
    -- a missing choice is the default one
    have hc : instantiateAll isa (e :: es) cs = instantiate isa e (cs.headD {}) :: instantiateAll isa es cs.tail := by
      cases cs <;> rfl
    obtain ⟨h1, h2⟩ := live_instance isa e (cs.headD {}) h.1
    obtain ⟨h3, h4⟩ := ih cs.tail h.2
    rw [hc, matchOperands, List.all_cons, h1, h2, h3, h4]
    exact ⟨rfl, rfl⟩

/-- **never unknown** (∀ databases, ∀ live entries in them): the instruction written from an entry's own
    pattern is found — by that entry or by an earlier one that also agrees in every kind -/
theorem never_unknown (isa : Isa) (db : List Entry) (e : Entry) (he : e ∈ db) (hn : e.name = upper e.name)
    (hl : liveEntry isa e = true) (cs : List Choice) :
    ∃ e', getInstruction isa db e.name (instantiateAll isa e.operands cs) = some e' := by
  have hm := (self_match isa e.operands cs hl).1
  have hme : entryMatches isa e.name (instantiateAll isa e.operands cs) e = true := by
    simp only [entryMatches, hm, Bool.and_true, beq_iff_eq]
    exact hn
  cases h : getInstruction isa db e.name (instantiateAll isa e.operands cs) with
  | some e' => exact ⟨e', rfl⟩
  | none =>
    exact absurd hme (List.find?_eq_none.mp h e he)

/-! ### loading: names are upper-cased -/

theorem upperC_idem (c : Nat) : upperC (upperC c) = upperC c := by
  unfold upperC
  by_cases h : 97 ≤ c ∧ c ≤ 122
  · have h2 : ¬ (97 ≤ c - 32 ∧ c - 32 ≤ 122) := by omega
    simp only [h, and_self, if_true, h2, if_false]
  · simp only [h, if_false]

theorem upper_idem (t : Txt) : upper (upper t) = upper t := by
  simp [upper, List.map_map, Function.comp_def, upperC_idem]

theorem formToEntry_upper (i : Nat) (n : Txt) (kv : List (Y × Y)) (e : Entry)
    (h : formToEntry i n kv = some e) : e.name = upper e.name := by
  unfold formToEntry at h
  split at h
  · split at h
    · simp only [Option.some.injEq] at h
      rw [← h]; simp [upper_idem]
    · simp at h
  · simp at h

theorem sequenceOpt_mem {α : Type} (l : List (Option α)) (r : List α) (h : sequenceOpt l = some r) :
    ∀ x ∈ r, some x ∈ l := by
  fun_induction sequenceOpt l generalizing r with
  | case1 => cases h; nofun
  | case2 v xs ih =>
    obtain ⟨r', hr', rfl⟩ := Option.map_eq_some_iff.mp h
    intro x hx
    rcases List.mem_cons.mp hx with rfl | hx
    · exact List.mem_cons_self
    · exact List.mem_cons_of_mem _ (ih r' hr' x hx)
  | case3 => cases h

theorem singles_upper (i : Nat) (forms : List Y) : ∀ e, some e ∈ singles i forms → e.name = upper e.name := by
  fun_induction singles i forms with
  | case1 => nofun
  | case2 i kv rest n hn ih =>
    intro e he
    rcases List.mem_cons.mp he with he | he
    · exact formToEntry_upper _ _ _ e he.symm
    · exact ih e he
  | case3 i kv rest l hl ih => exact ih
  | case4 i kv rest h1 h2 ih => exact fun e he => ih e ((List.mem_cons.mp he).resolve_left nofun)
  | case5 i f rest h ih => exact fun e he => ih e ((List.mem_cons.mp he).resolve_left nofun)

theorem aliases_upper (i : Nat) (forms : List Y) : ∀ e, some e ∈ aliases i forms → e.name = upper e.name := by
  fun_induction aliases i forms with
  | case1 => nofun
  | case2 i kv rest ns hn ih =>
    intro e he
    rcases List.mem_append.mp he with he | he
    · split at he
      · obtain ⟨n, _, hn⟩ := List.mem_map.mp he
        exact formToEntry_upper _ _ _ e hn
      · cases List.mem_singleton.mp he
    · exact ih e he
  | case3 i kv rest h ih => exact ih
  | case4 i f rest h ih => exact ih

/-- every loaded entry carries an upper-cased mnemonic (so the case-insensitive comparison of
    `get_instruction` is exact) -/
theorem loadEntries_upper (forms : List Y) (db : List Entry) (h : loadEntries forms = some db) :
    ∀ e ∈ db, e.name = upper e.name := by
  intro e he
  have := sequenceOpt_mem _ db h e he
  simp only [List.mem_append] at this
  rcases this with h1 | h1
  · exact singles_upper 0 forms e h1
  · exact aliases_upper 0 forms e h1

/-! ### the shipped models (`Gen.Sigs`: the distinct operand signatures of every shipped model file) -/

/-- one operand signature is loadable and live (then it is inside the entry schema: `live_schema`) -/
def sigOk (isa : Isa) (y : Y) : Bool :=
  (operandToClass y).any (liveOperand isa)

/-- known finding `dead-entry:scale-null` (m1.yml, v2.yml): memory operands declared with
    `index: ~, scale: ~` — no access without index register has a scale other than 1 -/
def knownDeadA64 (y : Y) : Bool :=
  match operandToClass y with
  | some (.mem _ _ .null .null _ _) => true
  | _ => false

theorem shipped_x86_sigs : Gen.Sigs.x86.all (sigOk .x86) = true := by decide +kernel

theorem shipped_a64_sigs : Gen.Sigs.a64.all (fun y => sigOk .a64 y || knownDeadA64 y) = true := by decide +kernel

/-- **every operand pattern of every shipped x86 model is live**: each of its instances is matched -/
theorem shipped_x86_live (y : Y) (hy : y ∈ Gen.Sigs.x86) :
    ∃ e, operandToClass y = some e ∧ schemaOperand e = true ∧
      ∀ c, checkOperand .x86 e (instantiate .x86 e c) = true :=
  live_signature .x86 y (List.all_eq_true.mp shipped_x86_sigs y hy)

/-- … and of every shipped AArch64 model, except the operands recorded as known finding -/
theorem shipped_a64_live (y : Y) (hy : y ∈ Gen.Sigs.a64) (hk : knownDeadA64 y = false) :
    ∃ e, operandToClass y = some e ∧ schemaOperand e = true ∧
      ∀ c, checkOperand .a64 e (instantiate .a64 e c) = true := by
  have h := List.all_eq_true.mp shipped_a64_sigs y hy
  rw [hk, Bool.or_false] at h
  exact live_signature .a64 y h

/-- the known-dead operands really are dead: no operand of the AArch64 parser's domain matches them -/
theorem known_dead_is_dead (b off pre post : Y) (o : POperand) (ho : parserOperandIsa .a64 o = true) :
    checkOperand .a64 (.mem b off .null .null pre post) o = false := by
  cases o with
  | mem m =>
    simp only [parserOperandIsa, parserOperandA64, Bool.and_eq_true, Bool.or_eq_true, beq_iff_eq] at ho
    have hidx := ho.2.1
    simp only [checkOperand, checkA64, a64MemType]
    have : (a64IndexOk .null m.index && scaleOk .null m.scale) = false := by
      cases hi : m.index with
      | none =>
        have : m.scale = 1 := by
          rcases hidx with h | h
          · exact h
          · simp [hi] at h
        simp [a64IndexOk, scaleOk, this, eqInt, isWild, isStr, scaleUnit_eq]
      | some r => cases hp : r.pfx <;> simp [a64IndexOk, isWild, isStr, hp]
    rw [Bool.and_eq_false_iff] at this
    rcases this with h | h <;> simp [h]
  | wild => rfl
  | imm t hv hi => cases hi <;> simp [checkOperand, checkA64, checkA64Rest]
  | _ => simp [checkOperand, checkA64, checkA64Rest]

/-- the fall-back suffix lists of the two classes that implement them agree -/
theorem gas_suffixes_agree : Gen.gasSuffixesArch = Gen.gasSuffixesIsa := by decide

def ex (s : String) : Txt := ofString s
def xmm : EOperand := .reg (some [120, 109, 109]) none none
def ymm : EOperand := .reg (some [121, 109, 109]) none none
def gpr : EOperand := .reg (some [103, 112, 114]) none none
def anyMem : EOperand := .mem (.str [42]) (.str [42]) (.str [42]) (.str [42]) (.bool false) (.bool false)
def rXmm3 : POperand := .reg { name := [120, 109, 109, 51] }
def rYmm3 : POperand := .reg { name := [121, 109, 109, 51] }
def rRax : POperand := .reg { name := [114, 97, 120] }
def memBaseIdx : POperand :=
  .mem { base := some { name := [114, 97, 120] }, offset := .imm false, index := some { name := [114, 98, 120] },
         scale := 8, pre := false, post := false }
def VADD : Txt := [86, 65, 68, 68]
def vaddq : Txt := [118, 97, 100, 100, 113]

/-- shadowed duplicates: the first of two identical entries supplies the data; a wildcard memory entry;
    a near-miss (`xmm` entry vs `ymm` register) is rejected; the AT&T suffix is dropped only after the
    full mnemonic failed -/
def db0 : List Entry := [
  { name := VADD, operands := [xmm, xmm], raw := 0 },
  { name := VADD, operands := [xmm, xmm], raw := 1 },
  { name := VADD, operands := [anyMem, xmm], raw := 2 },
  { name := VADD, operands := [gpr, gpr], raw := 3 }]

example : (getInstruction .x86 db0 [118, 97, 100, 100] [rXmm3, rXmm3]).map (·.raw) = some 0 ∧
    (getInstruction .x86 db0 VADD [memBaseIdx, rXmm3]).map (·.raw) = some 2 ∧
    (getInstruction .x86 db0 VADD [rXmm3, rYmm3]).map (·.raw) = none ∧
    (getInstruction .x86 db0 VADD [rXmm3]).map (·.raw) = none ∧
    (getInstruction .x86 db0 vaddq [rRax, rRax]).map (·.raw) = none ∧
    (lookupWithFallbacks .x86 db0 vaddq [rRax, rRax]).map (·.raw) = some 3 := by decide +kernel

example : KindAgree .x86 xmm rXmm3 ∧ ¬ KindAgree .x86 xmm rYmm3 ∧ KindAgree .x86 anyMem memBaseIdx := by
  refine ⟨(kindAgreeB_iff _ _ _).mp (by decide +kernel), ?_, (kindAgreeB_iff _ _ _).mp (by decide +kernel)⟩
  intro h
  have := (kindAgreeB_iff _ _ _).mpr h
  revert this
  decide +kernel

example : SchemaDb db0 := by
  intro e he
  simp only [db0, List.mem_cons, List.not_mem_nil, or_false] at he
  rcases he with rfl | rfl | rfl | rfl <;> decide +kernel

example : IsFallback .x86 vaddq [118, 97, 100, 100] := ⟨113, by decide, rfl⟩
example : IsFallback .a64 [102, 97, 100, 100, 46, 115] [102, 97, 100, 100] := ⟨[115], by decide, rfl⟩

example : liveEntry .x86 { name := VADD, operands := [anyMem, xmm] } = true ∧
    instantiateAll .x86 [anyMem, xmm] [{ n := 3, a := 0, b := 1, c := 1, d := 2 }, { n := 7 }] =
      [.mem { base := some { name := [114, 51] }, offset := .imm false, index := none, scale := 4, pre := false,
              post := false }, .reg { name := [120, 109, 109, 55] }] := by decide +kernel

example : Gen.Sigs.x86.length ≥ 10 ∧ Gen.Sigs.a64.length ≥ 10 ∧ (Gen.Sigs.a64.any knownDeadA64 = true ∨ True) :=
  ⟨by decide +kernel, by decide +kernel, .inr trivial⟩

/-- alias lists are expanded at the END of the form list (file order changes) -/
example : (loadEntries [
      .map [(.str k_name, .list [.str [97], .str [98]]), (.str k_operands, .list [])],
      .map [(.str k_name, .str [99]), (.str k_operands, .list [])]]).map (·.map (·.name)) =
    some [[67], [65], [66]] := by decide +kernel

end OsacaVerif.Props.C07
