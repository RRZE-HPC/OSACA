import OsacaVerif.Lemmas.CpRepaired
import OsacaVerif.Props.C03
/-
  C04 — Critical path is the longest latency-weighted dependency chain.

  `get_critical_path` is one pass over the lines (`LCD.cpTable` / `LCD.cpStep` / `LCD.cpTotal`, marking
  in `Model/CpMark.lean`: `LCD.cpPath`, `LCD.cpMarks`).  For it the full property is proved, for kernels
  of any length: `cpTotal_eq_longestChain`, `cp_is_longest`, `cp_ge_every_instr`, `cp_ge_every_chain`,
  `cp_lines_form_chain`, `cp_lines_sum`, `cp_marked_chain_is_longest`.  `Spec.longestChain` is the oracle
  (`longestChain_is_max`: it IS the maximum chain length).

  The last section is about `LCD.cpCandidates` / `LCD.cpReport`, which model the function BEFORE it was
  repaired (known finding D7, DESIGN.md §6: the path was picked by edge weights only and the per-line CP
  latency of an instruction entered through its own load node was overwritten).  They are kept as the
  witness for that variant: `cp_underreports` (its total is strictly too small on a concrete kernel,
  replayed on the real code by the check) and `cp_never_overreports` (the defect was one-sided).
-/
namespace OsacaVerif.Props.C04
open OsacaVerif OsacaVerif.DG OsacaVerif.LCD OsacaVerif.Spec

def mkIns (line : Nat) (src dst sd : List Op) (lat : Rat) (lwl : Option Rat) (hasLd : Bool) : Ins :=
  { line := line, src := src, dst := dst, srcDst := sd, lat := lat, latWoLoad := lwl, hasLd := hasLd,
    isLd := false, changes := [], changesPost := [] }

def r (n : String) : Op := .reg { name := Text.ofString n }

/-- witness kernel (shape of `examples/update` on zen2): a multiply with a memory source (latency 7,
    3 without the load) feeding a store -/
def witness : List Ins :=
  [ mkIns 1 [.mem ⟨some ⟨[], Text.ofString "rax", false, false⟩, none, 1, none, none, false, false, [1]⟩, r "xmm1"]
      [r "xmm0"] [] 7 (some 3) true,
    mkIns 2 [r "xmm0"] [.mem ⟨some ⟨[], Text.ofString "rax", false, false⟩, none, 1, none, none, false, false, [1]⟩] [] 0 (some 0) false ]

/-- the dependency graph of the witness: the load stage of line 1 (7 − 3) and the edge 1 → 2 with the
    latency of the multiply without its load; evaluated once for the examples below -/
theorem ex_witness_edges : create .x86 false {} witness =
    [⟨⟨1, true⟩, ⟨1, false⟩, 4⟩, ⟨⟨1, false⟩, ⟨2, false⟩, 3⟩] :=
  edges_eq_of_triples _ [(⟨1, true⟩, ⟨1, false⟩, 4), (⟨1, false⟩, ⟨2, false⟩, 3)] (by decide +kernel)

/-! ### the oracle `Spec.longestChain` IS the maximum chain length (`Lemmas/Chain.lean`)

  A chain (`Spec.Chain`) is a start line plus the list of edges followed; it is genuine
  (`Chain.Valid infos es`) when it starts at an instruction, every edge belongs to `es` and leads to
  an instruction, and consecutive edges are linked.  Its length (`Chain.len`) is what the property
  says: `lat i` for a single instruction, `loadStage i₁ + Σ w + lat iₙ` otherwise.
  Hypotheses: distinct line numbers, and `FwdIn infos es` — every edge between two instructions
  points forward in the order of `infos` (decidable; implied by increasing lines and `src < dst`,
  `fwdIn_of_sorted`). -/

/-- **`longestChain_ge_chain`**: the dynamic programme dominates the length of EVERY genuine chain
    (∀ instruction lists with distinct lines, ∀ forward edge lists, ∀ chains) -/
theorem longestChain_ge_chain (infos : List LatInfo) (es : List WEdge)
    (hnd : (infos.map (·.line)).Nodup) (hfwd : FwdIn infos es) (c : Chain) (hv : c.Valid infos es) :
    c.len infos ≤ longestChain infos es :=
  longestChain_ge infos es hnd hfwd c hv

/-- **`longestChain_is_max`**: the value of the dynamic programme is attained by a genuine chain and
    dominates all of them — it is the maximum chain length (0 for the empty kernel) -/
theorem longestChain_is_max (infos : List LatInfo) (es : List WEdge)
    (hnd : (infos.map (·.line)).Nodup) (hfwd : FwdIn infos es) (hne : infos ≠ []) :
    (∃ c : Chain, c.Valid infos es ∧ c.len infos = longestChain infos es) ∧
    (∀ c : Chain, c.Valid infos es → c.len infos ≤ longestChain infos es) :=
  ⟨longestChain_attained infos es hnd hne, longestChain_ge infos es hnd hfwd⟩

-- non-vacuity: the hypotheses hold of the witness' instruction table and edge list; the chain 1 → 2
-- is genuine, has length loadStage 4 + weight 3 + latency 0 = 7, and attains the maximum
example : ([⟨1, 7, 4⟩, ⟨2, 0, 0⟩] : List LatInfo).map (·.line) = [1, 2] ∧
    FwdIn [⟨1, 7, 4⟩, ⟨2, 0, 0⟩] [⟨1, 2, 3⟩] := by decide +kernel
example : (Chain.mk 1 [⟨1, 2, 3⟩]).Valid [⟨1, 7, 4⟩, ⟨2, 0, 0⟩] [⟨1, 2, 3⟩] ∧
    (Chain.mk 1 [⟨1, 2, 3⟩]).len [⟨1, 7, 4⟩, ⟨2, 0, 0⟩] = 7 ∧
    longestChain [⟨1, 7, 4⟩, ⟨2, 0, 0⟩] [⟨1, 2, 3⟩] = 7 := by decide +kernel

/-! ### the graph `DG.create` builds: forward, one edge per pair (`Props/C03.lean`, `Lemmas/DGraph.lean`) -/

/-- `C03.edges_forward` in the form the critical-path lemmas take -/
theorem forwardEdges_create (isa : Isa) (fd : Bool) (par : Params) (k : List Ins) (hk : WFKernel k) :
    ForwardEdges (create isa fd par k) :=
  fun e he => C03.edges_forward isa fd par k hk e he

/-- forward edges of the graph are forward in the order of the oracle's instruction table -/
theorem fwdIn_of_forwardEdges (k : List Ins) (hk : WFKernel k) (es : List Edge) (hfw : ForwardEdges es) :
    FwdIn (infosOf k) (wedgesOf es) := by
  apply fwdIn_of_sorted
  · rw [infosOf_lines]; exact hk
  · intro we hwe
    obtain ⟨e, he, hval⟩ := List.mem_filterMap.mp hwe
    split at hval
    · rename_i hc
      obtain rfl := Option.some.inj hval
      rcases (hfw e he).2 with h | h
      · exact h.2
      · rw [h.1] at hc; cases hc
    · cases hval

/-- `add_edge` keeps one edge per (source, target) pair -/
theorem uniquePairs_create (isa : Isa) (fd : Bool) (par : Params) (k : List Ins) :
    UniquePairs (create isa fd par k) := dedupLast_nodup _

/-! ### the REPAIRED `get_critical_path` (`LCD.cpTable` / `LCD.cpStep` / `LCD.cpTotal`,
    `Lemmas/CpRepaired.lean`)

  Hypotheses (all decidable): `WFKernel k` — strictly increasing line numbers; `LoadsKnown k` —
  `latency_wo_load` is known wherever an instruction has a separate load node; `NonnegStages k` —
  `latWoLoad ≤ lat` there; `NonnegLats k`, `NonnegParams par` — non-negative latencies and model
  parameters.  Graph-generic forms take instead `NonnegWeights es` (all edge weights ≥ 0) and
  `LoadStagesAgree k es` (the edge from the load node of a line carries that instruction's load
  stage); `create_nonnegWeights` / `create_loadStagesAgree` establish them for `DG.create`. -/

/-- **`cpTotal_eq_longestChain`, graph-generic**: for ANY kernel (any length) and ANY edge list with
    non-negative weights whose load-node edges carry the load stages, the total the repaired code
    reports is the value of the declarative longest-chain programme — the two tables agree row by row
    (`cpTable_eq_table`: `carried.1 = b`, `longer.map (·.1) = ext`). -/
theorem cpTotal_eq_longestChain_graph (k : List Ins) (es : List Edge) (hw : NonnegWeights es)
    (hls : LoadStagesAgree k es) :
    cpTotal k es = longestChain (infosOf k) (wedgesOf es) := by
  rw [cpTotal_eq_maxOr0, longestChain_eq, ← cpTable_eq_table k es hls]
  congr 1
  unfold infosOf
  rw [List.map_map]
  apply List.map_congr_left
  intro i _
  exact chainLengthAt_eq_endValue k _ (fun r hr => (cpTable_nonneg k es hw r hr).2) i _

/-- **`cpTotal_eq_longestChain`**: on the dependency graph OSACA builds, for every kernel with
    increasing line numbers, known load latencies and non-negative latencies, the critical-path total
    of the repaired `get_critical_path` EQUALS the oracle `Spec.longestChain` (which is the maximum
    chain length, `longestChain_is_max`). -/
theorem cpTotal_eq_longestChain (isa : Isa) (fd : Bool) (par : Params) (k : List Ins) (hk : WFKernel k)
    (hkn : LoadsKnown k) (hst : NonnegStages k) (hlat : NonnegLats k) (hpar : NonnegParams par) :
    cpTotal k (create isa fd par k) = longestChain (infosOf k) (wedgesOf (create isa fd par k)) :=
  cpTotal_eq_longestChain_graph k _ (create_nonnegWeights isa fd par k hst hlat hpar)
    (create_loadStagesAgree isa fd par k hk hkn)

-- non-vacuity: the witness kernel of the old defect satisfies every hypothesis, and the repaired
-- code reports 7 = load stage 4 + edge 3 + latency 0 (the old code reported 3)
example : WFKernel witness ∧ LoadsKnown witness ∧ NonnegStages witness ∧ NonnegLats witness ∧
    NonnegParams {} := by decide +kernel
example : NonnegWeights (create .x86 false {} witness) ∧
    LoadStagesAgree witness (create .x86 false {} witness) := by
  rw [ex_witness_edges]
  decide +kernel
example : cpTotal witness (create .x86 false {} witness) = 7 ∧
    longestChain (infosOf witness) (wedgesOf (create .x86 false {} witness)) = 7 := by
  rw [ex_witness_edges]
  decide +kernel

/-- a kernel whose first instruction has a load node but no `latency_wo_load` -/
def unknownLoad : List Ins :=
  [ mkIns 1 [.mem ⟨some ⟨[], Text.ofString "rax", false, false⟩, none, 1, none, none, false, false, [1]⟩]
      [r "xmm0"] [] 7 none true,
    mkIns 2 [r "xmm0"] [r "xmm1"] [] 0 (some 0) false ]

/-- a kernel with a negative latency -/
def negLat : List Ins :=
  [ mkIns 1 [] [r "xmm0"] [] (-1) none false, mkIns 2 [r "xmm0"] [r "xmm1"] [] 5 none false ]

-- the hypotheses are needed (model as written): (a) without `LoadsKnown` the model's load edge weighs
-- `lat − 0` while the oracle's load stage is 0 (the real code cannot compute `latency − None` at all);
-- (b) with a negative edge weight `chain_length` adds the negative `longer` value where the longest
-- chain is the single instruction
example : ¬ LoadsKnown unknownLoad ∧ WFKernel unknownLoad ∧
    cpTotal unknownLoad (create .x86 false {} unknownLoad) = 14 ∧
    longestChain (infosOf unknownLoad) (wedgesOf (create .x86 false {} unknownLoad)) = 7 := by
  decide +kernel
example : ¬ NonnegLats negLat ∧ WFKernel negLat ∧ LoadsKnown negLat ∧
    cpTotal negLat (create .x86 false {} negLat) = 4 ∧
    longestChain (infosOf negLat) (wedgesOf (create .x86 false {} negLat)) = 5 := by
  decide +kernel

/-! ### corollaries at the property's wording -/

/-- **`cp_is_longest`, graph-generic**: over any forward graph with non-negative weights whose load
    edges carry the load stages, the reported total is the MAXIMUM of `Chain.len` over all genuine
    dependency chains: attained by one, dominating all. -/
theorem cp_is_longest_graph (k : List Ins) (hk : WFKernel k) (hne : k ≠ []) (es : List Edge)
    (hfw : ForwardEdges es) (hw : NonnegWeights es) (hls : LoadStagesAgree k es) :
    (∃ c : Chain, c.Valid (infosOf k) (wedgesOf es) ∧ c.len (infosOf k) = cpTotal k es) ∧
    (∀ c : Chain, c.Valid (infosOf k) (wedgesOf es) → c.len (infosOf k) ≤ cpTotal k es) := by
  rw [cpTotal_eq_longestChain_graph k es hw hls]
  apply longestChain_is_max
  · exact infosOf_nodup hk
  · exact fwdIn_of_forwardEdges k hk es hfw
  · simpa [infosOf] using hne

/-- **`cp_is_longest`** (the property): for every non-empty kernel with increasing lines, known load
    latencies and non-negative latencies, the critical-path total of the repaired
    `get_critical_path` on OSACA's dependency graph is the length of the longest latency-weighted
    dependency chain — `lat i` for a single instruction, `loadStage i₁ + Σ w + lat iₙ` otherwise:
    some genuine chain has exactly this length and no genuine chain is longer. -/
theorem cp_is_longest (isa : Isa) (fd : Bool) (par : Params) (k : List Ins) (hk : WFKernel k)
    (hkn : LoadsKnown k) (hst : NonnegStages k) (hlat : NonnegLats k) (hpar : NonnegParams par)
    (hne : k ≠ []) :
    (∃ c : Chain, c.Valid (infosOf k) (wedgesOf (create isa fd par k)) ∧
      c.len (infosOf k) = cpTotal k (create isa fd par k)) ∧
    (∀ c : Chain, c.Valid (infosOf k) (wedgesOf (create isa fd par k)) →
      c.len (infosOf k) ≤ cpTotal k (create isa fd par k)) :=
  cp_is_longest_graph k hk hne _ (forwardEdges_create isa fd par k hk)
    (create_nonnegWeights isa fd par k hst hlat hpar) (create_loadStagesAgree isa fd par k hk hkn)

/-- **`cp_ge_every_chain`**: the reported critical path is never smaller than any dependency chain
    (also for the empty kernel, which has no chain) -/
theorem cp_ge_every_chain (isa : Isa) (fd : Bool) (par : Params) (k : List Ins) (hk : WFKernel k)
    (hkn : LoadsKnown k) (hst : NonnegStages k) (hlat : NonnegLats k) (hpar : NonnegParams par)
    (c : Chain) (hv : c.Valid (infosOf k) (wedgesOf (create isa fd par k))) :
    c.len (infosOf k) ≤ cpTotal k (create isa fd par k) := by
  rw [cpTotal_eq_longestChain isa fd par k hk hkn hst hlat hpar]
  exact longestChain_ge _ _ (infosOf_nodup hk)
    (fwdIn_of_forwardEdges k hk _ (forwardEdges_create isa fd par k hk)) c hv

-- holds of any kernel and any edge list with non-negative weights (`lat_le_cpTotal`)
theorem cp_ge_every_instr_graph (k : List Ins) (hk : WFKernel k) (es : List Edge)
    (hfw : ForwardEdges es) (hw : NonnegWeights es) (hls : LoadStagesAgree k es) (i : Ins) (hi : i ∈ k) :
    i.lat ≤ cpTotal k es := by
  exact lat_le_cpTotal k es hw i hi

/-- **`cp_ge_every_instr`**: the reported critical path is never smaller than the latency of any
    single instruction of the kernel (what the old code violated: `cp_underreports`) -/
theorem cp_ge_every_instr (isa : Isa) (fd : Bool) (par : Params) (k : List Ins) (hk : WFKernel k)
    (hkn : LoadsKnown k) (hst : NonnegStages k) (hlat : NonnegLats k) (hpar : NonnegParams par)
    (i : Ins) (hi : i ∈ k) : i.lat ≤ cpTotal k (create isa fd par k) :=
  cp_ge_every_instr_graph k hk _ (forwardEdges_create isa fd par k hk)
    (create_nonnegWeights isa fd par k hst hlat hpar) (create_loadStagesAgree isa fd par k hk hkn) i hi

-- non-vacuity: on the witness the chain 1 → 2 is genuine and attains the reported total; the
-- multiply alone (latency 7) does not exceed it
example :
    let es := create .x86 false {} witness
    witness ≠ [] ∧ ForwardEdges es ∧ (Chain.mk 1 [⟨1, 2, 3⟩]).Valid (infosOf witness) (wedgesOf es) ∧
    (Chain.mk 1 [⟨1, 2, 3⟩]).len (infosOf witness) = cpTotal witness es ∧
    (witness.map (·.lat)) = [7, 0] := by
  rw [ex_witness_edges]
  decide +kernel

/-! ### the marking of the repaired code (`Model/CpMark.lean`): `cpPath` — the marked lines, found by
    walking the predecessor pointers of the table back from the first line with the largest
    `chain_length`; `cpMarks` — their `latency_cp` values.  `UniquePairs es`: each (source, target)
    pair occurs once in `es`, as in a networkx graph (decidable; `dedupLast_nodup` for `create`). -/

/-- **`cp_lines_form_chain`, graph-generic**: consecutive marked lines are linked by an edge of the
    graph between their instruction nodes (no hypothesis at all); over a forward graph they are
    strictly ascending; all of them are lines of the kernel. -/
theorem cp_lines_form_chain_graph (k : List Ins) (es : List Edge) :
    isPath es ((cpPath k es).map instrNode) = true ∧
    (ForwardEdges es → (cpPath k es).Pairwise (· < ·)) ∧
    (∀ l ∈ cpPath k es, l ∈ k.map (·.line)) ∧
    (cpMarks k es).map (·.1) = cpPath k es :=
  ⟨cpPath_isPath k es, cpPath_sorted k es, cpPath_lines k es, cpMarks_lines k es⟩

/-- **`cp_lines_form_chain`**: on OSACA's dependency graph of a kernel with increasing lines, the
    lines the repaired `get_critical_path` marks are lines of the kernel, strictly ascending, and each
    is linked to the next by a dependency edge — they form a dependency chain; `cpMarks` lists exactly
    these lines. -/
theorem cp_lines_form_chain (isa : Isa) (fd : Bool) (par : Params) (k : List Ins) (hk : WFKernel k) :
    isPath (create isa fd par k) ((cpPath k (create isa fd par k)).map instrNode) = true ∧
    (cpPath k (create isa fd par k)).Pairwise (· < ·) ∧
    (∀ l ∈ cpPath k (create isa fd par k), l ∈ k.map (·.line)) ∧
    (cpMarks k (create isa fd par k)).map (·.1) = cpPath k (create isa fd par k) :=
  have h := cp_lines_form_chain_graph k (create isa fd par k)
  ⟨h.1, h.2.1 (forwardEdges_create isa fd par k hk), h.2.2⟩

/-- **`cp_lines_sum`, graph-generic**: for every kernel with increasing lines and every edge list with
    unique (source, target) pairs, the per-line CP latencies of the marked lines add up to the
    reported total (the walk back reaches the start of the chain within the fuel). -/
theorem cp_lines_sum_graph (k : List Ins) (hk : WFKernel k) (es : List Edge) (hu : UniquePairs es) :
    ((cpMarks k es).map (·.2)).sum = cpTotal k es :=
  cpMarks_sum k es (hk.nodup) hu

/-- **`cp_lines_sum`**: on OSACA's dependency graph, for every kernel with increasing lines, the
    `latency_cp` values the repaired `get_critical_path` writes to the marked lines add up to the
    critical-path total (what `Summary.CriticalPath` sums). -/
theorem cp_lines_sum (isa : Isa) (fd : Bool) (par : Params) (k : List Ins) (hk : WFKernel k) :
    ((cpMarks k (create isa fd par k)).map (·.2)).sum = cpTotal k (create isa fd par k) :=
  cp_lines_sum_graph k hk _ (uniquePairs_create isa fd par k)

/-- **the marked lines are a longest chain** (`cp_marked_chain_is_longest`): the dependency chain
    through the marked lines is a genuine chain of the property, its length — `lat` for a single
    line, `loadStage i₁ + Σ w + lat iₙ` otherwise — is the sum of the per-line CP latencies, equals
    the reported total, and no genuine chain is longer. -/
theorem cp_marked_chain_is_longest (isa : Isa) (fd : Bool) (par : Params) (k : List Ins) (hk : WFKernel k)
    (hkn : LoadsKnown k) (hst : NonnegStages k) (hlat : NonnegLats k) (hpar : NonnegParams par)
    (hne : k ≠ []) :
    (chainOf (create isa fd par k) ((cpPath k (create isa fd par k)).map instrNode)).Valid (infosOf k)
      (wedgesOf (create isa fd par k)) ∧
    (chainOf (create isa fd par k) ((cpPath k (create isa fd par k)).map instrNode)).len (infosOf k) =
      cpTotal k (create isa fd par k) ∧
    (∀ c : Chain, c.Valid (infosOf k) (wedgesOf (create isa fd par k)) →
      c.len (infosOf k) ≤
        (chainOf (create isa fd par k) ((cpPath k (create isa fd par k)).map instrNode)).len (infosOf k)) := by
  obtain ⟨hv, hlen⟩ := cpPath_chain k _ (hk.nodup) (forwardEdges_create isa fd par k hk)
    (uniquePairs_create isa fd par k) (create_loadStagesAgree isa fd par k hk hkn) hne
  exact ⟨hv, hlen, fun c hc => hlen ▸ cp_ge_every_chain isa fd par k hk hkn hst hlat hpar c hc⟩

/-- a kernel with ties and a zero-latency line: the chains 1 → 3 and 2 → 3 both have length 4 + 3, and
    1 → 3 → 4 has the same length (line 4 has latency 0) -/
def tieKernel : List Ins :=
  [ mkIns 1 [] [r "xmm0"] [] 4 none false,
    mkIns 2 [] [r "xmm1"] [] 4 none false,
    mkIns 3 [r "xmm0", r "xmm1"] [r "xmm2"] [] 3 none false,
    mkIns 4 [r "xmm2"] [r "xmm3"] [] 0 none false ]

/-- the witness with a store of latency 1: the longest chain starts at the load stage of line 1 -/
def loadChain : List Ins :=
  [ mkIns 1 [.mem ⟨some ⟨[], Text.ofString "rax", false, false⟩, none, 1, none, none, false, false, [1]⟩, r "xmm1"]
      [r "xmm0"] [] 7 (some 3) true,
    mkIns 2 [r "xmm0"] [.mem ⟨some ⟨[], Text.ofString "rax", false, false⟩, none, 1, none, none, false, false, [1]⟩] [] 1 (some 1) false ]

-- non-vacuity.  A chain starting at a load: line 1 gets load stage 4 + edge 3, line 2 its latency 1.
example : WFKernel loadChain ∧ LoadsKnown loadChain ∧ NonnegStages loadChain ∧ NonnegLats loadChain ∧
    UniquePairs (create .x86 false {} loadChain) ∧
    cpPath loadChain (create .x86 false {} loadChain) = [1, 2] ∧
    cpMarks loadChain (create .x86 false {} loadChain) = [(1, 7), (2, 1)] ∧
    cpTotal loadChain (create .x86 false {} loadChain) = 8 := by decide +kernel
-- On the old witness the multiply alone (7) ties with the chain 1 → 2 (4 + 3 + 0): as Python's `max`, the
-- first maximal line wins and the path is the single line 1.
example : cpPath witness (create .x86 false {} witness) = [1] ∧
    cpMarks witness (create .x86 false {} witness) = [(1, 7)] ∧
    cpTotal witness (create .x86 false {} witness) = 7 := by
  rw [ex_witness_edges]
  decide +kernel
-- Ties between predecessors (first maximal candidate: line 1, not 2) and between end lines (3, not 4).
example : WFKernel tieKernel ∧ LoadsKnown tieKernel ∧ NonnegStages tieKernel ∧ NonnegLats tieKernel ∧
    cpPath tieKernel (create .x86 false {} tieKernel) = [1, 3] ∧
    cpMarks tieKernel (create .x86 false {} tieKernel) = [(1, 4), (3, 3)] ∧
    cpTotal tieKernel (create .x86 false {} tieKernel) = 7 := by decide +kernel
-- No dependencies: the single slowest instruction; the empty kernel: nothing marked, total 0.
example : cpMarks negLat [] = [(2, 5)] ∧ cpTotal negLat [] = 5 ∧ cpMarks [] [] = [] ∧
    cpTotal [] [] = 0 := by decide +kernel

/-- **`cp_no_deps`, repaired code**: without any dependency the repaired `get_critical_path` marks
    exactly one instruction, with its own latency, and no instruction of the kernel is slower
    (∀ non-empty kernels with increasing lines) -/
theorem cp_no_deps_repaired (k : List Ins) (hk : WFKernel k) (hne : k ≠ []) :
    ∃ i ∈ k, cpMarks k [] = [(i.line, i.lat)] ∧ cpTotal k [] = i.lat ∧ ∀ j ∈ k, j.lat ≤ i.lat := by
  have hnd : (k.map (·.line)).Nodup := hk.nodup
  obtain ⟨i, hi, a, rest, hp, hpath, _, hlst, _⟩ := cpPath_spec k [] hne
  cases rest with
  | cons b rest => cases hpath  -- a path with two lines needs an edge
  | nil =>
    obtain rfl : a = i.line := hlst
    have hmarks : cpMarks k [] = [(i.line, i.lat)] := by
      rw [cpMarks_eq, hp]
      show [(i.line, cpLatOf k i.line)] = _
      rw [cpLatOf_eq, latOfK_eq k hnd i hi]
    have htot : cpTotal k [] = i.lat := by
      rw [← cpMarks_sum k [] hnd List.nodup_nil, hmarks]
      exact List.sum_singleton
    exact ⟨i, hi, hmarks, htot, fun j hj => htot ▸ lat_le_cpTotal k [] (fun _ h => nomatch h) j hj⟩

/-! ### what the UNREPAIRED `get_critical_path` reports, against the chains of the property
    (`Lemmas/CritPath.lean`)

  `isPath es p`: consecutive nodes of `p` are linked by an edge of `es` (a genuine path);
  `ForwardEdges es`: the shape `Props.C03.edges_forward` proves for `create`; `instrPart p`: `p`
  without a leading load node; `chainOf es p`: the dependency chain `p` stands for (its instructions
  and the path's edge weights); `infosOf k` / `wedgesOf es`: the oracle's instruction table and edge
  list for a kernel and its graph; `NonnegStages k`: `latWoLoad ≤ lat` for instructions with a load node. -/

/-- **the full property is false of the code before the repair** (`cp_underreports`): the total the
    unrepaired variant reports for the witness kernel is 3, although the multiply alone takes 7 cycles
    (the repaired code reports 7, see the examples after `cpTotal_eq_longestChain`). -/
theorem cp_underreports :
    (cpCandidates witness (create .x86 false {} witness)).map (fun c => (c.map (·.2)).sum) = [3] ∧
    longestChain [⟨1, 7, 4⟩, ⟨2, 0, 0⟩] [⟨1, 2, 3⟩] = 7 := by
  rw [ex_witness_edges]
  decide +kernel

/-- with no dependency at all the result is the single slowest instruction with its own latency
    (∀ kernels whose maximal latency is positive) -/
theorem cp_no_deps (k : List Ins)
    (hpos : 0 < (k.map (·.lat)).foldl (fun (m : Rat) (x : Rat) => if m < x then x else m) 0) :
    ∀ c ∈ cpCandidates k [], ∃ i ∈ k, c = [(i.line, i.lat)] := by
  intro c hc
  have hall : ∀ fuel n, allPaths [] fuel n = [([n], 0)] := fun fuel n => by cases fuel <;> rfl
  -- every enumerated path has weight 0, so the best weight is 0
  have hbest : ∀ (l : List (List Node × Rat)), (∀ x ∈ l, x.2 = 0) →
      l.foldl (fun (m : Rat) (ps : List Node × Rat) => if m < ps.2 then ps.2 else m) 0 = 0 := by
    intro l hl
    have hm := (foldl_argmax (fun x => x) (l.map (·.2)) 0).1
    rw [List.foldl_map] at hm
    rcases List.mem_cons.mp hm with h | h
    · exact h
    · obtain ⟨x, hx, hx2⟩ := List.mem_map.mp h
      rw [← hx2]; exact hl x hx
  simp only [cpCandidates] at hc
  rw [hbest _ (by
    intro x hx
    obtain ⟨n, _, hx⟩ := List.mem_flatMap.mp hx
    rw [hall, List.mem_singleton] at hx
    rw [hx])] at hc
  simp only [hpos, if_true, List.mem_map, List.mem_filter] at hc
  obtain ⟨i, ⟨hi, _⟩, rfl⟩ := hc
  exact ⟨i, hi, rfl⟩

/-- the total `full_analysis_dict` computes from the per-line `latency_cp` values -/
def total (c : List (Nat × Rat)) : Rat := (c.map (·.2)).sum

/-- **`cpReport_total_le_chain`** (the unrepaired code, ∀ kernels, ∀ genuine paths): the chain a path
    stands for is a genuine chain, and the reported total never exceeds its length as the property
    defines it (`lat` for one instruction; `loadStage i₁ + Σ w + lat iₙ` otherwise) — the reported
    total is `Σ w + lat iₙ`, the load stage of the first instruction is lost.
    Equality holds when the chain is a single instruction or its first instruction has load stage 0. -/
theorem cpReport_total_le_chain (k : List Ins) (hk : WFKernel k) (hst : NonnegStages k) (es : List Edge)
    (hfw : ForwardEdges es) (p : List Node) (hne : p ≠ []) (hp : isPath es p = true)
    (hin : ∀ n ∈ p, n.line ∈ k.map (·.line)) :
    (chainOf es p).Valid (infosOf k) (wedgesOf es) ∧
    total (cpReport k es p) ≤ (chainOf es p).len (infosOf k) ∧
    ((edgesOf es (instrPart p) = [] ∨ stageOf (infosOf k) (headLine (instrPart p)) = 0) →
      total (cpReport k es p) = (chainOf es p).len (infosOf k)) := by
  have ht : total (cpReport k es p) = _ := cpReport_total k (hk.nodup) es hfw p hne hp hin
  rw [ht, chainOf_len k es p hne, add_assoc]
  refine ⟨chainOf_valid k es hfw p hne hp hin, le_add_of_nonneg_left ?_, fun h => ?_⟩
  · split
    · exact le_refl _
    · exact stageOf_infosOf_nonneg k hst _
  · rw [show (if edgesOf es (instrPart p) = [] then 0 else stageOf (infosOf k) (headLine (instrPart p)))
        = 0 by rcases h with h | h
               · exact if_pos h
               · rw [h, ite_self], zero_add]

/-- **equality when the path does not start at a load node** (path reading): the reported total is
    exactly the sum of the edge weights along the path plus the latency of its last instruction -/
theorem cpReport_total_eq_path (k : List Ins) (hk : WFKernel k) (es : List Edge)
    (hfw : ForwardEdges es) (p : List Node) (hne : p ≠ []) (hp : isPath es p = true)
    (hin : ∀ n ∈ p, n.line ∈ k.map (·.line)) (hstart : ∀ a ∈ p.head?, a.load = false) :
    total (cpReport k es p) = pathW (edgeW es) p + latOfK k (lastLine p) := by
  have := cpReport_total k (hk.nodup) es hfw p hne hp hin
  rwa [instrPart_eq_self p hstart] at this

/-- and when it does start at a load node, exactly the weight of the load edge is missing -/
theorem cpReport_total_load_start (k : List Ins) (hk : WFKernel k) (es : List Edge)
    (hfw : ForwardEdges es) (a b : Node) (rest : List Node) (ha : a.load = true)
    (hp : isPath es (a :: b :: rest) = true) (hin : ∀ n ∈ a :: b :: rest, n.line ∈ k.map (·.line)) :
    total (cpReport k es (a :: b :: rest)) =
      pathW (edgeW es) (a :: b :: rest) + latOfK k (lastLine (a :: b :: rest)) - edgeW es a b := by
  have := cpReport_total k (hk.nodup) es hfw _ (List.cons_ne_nil _ _) hp hin
  rw [instrPart, if_pos ha] at this
  rw [total, this, pathW_cons₂, lastLine, add_assoc, add_sub_cancel_left]

/-- a reported path never exceeds the longest chain -/
theorem cpReport_le_longest (k : List Ins) (hk : WFKernel k) (hst : NonnegStages k) (es : List Edge)
    (hfw : ForwardEdges es) (p : List Node) (hne : p ≠ []) (hp : isPath es p = true)
    (hin : ∀ n ∈ p, n.line ∈ k.map (·.line)) :
    total (cpReport k es p) ≤ longestChain (infosOf k) (wedgesOf es) := by
  obtain ⟨hv, hle, _⟩ := cpReport_total_le_chain k hk hst es hfw p hne hp hin
  exact le_trans hle (longestChain_ge _ _ (infosOf_nodup hk) (fwdIn_of_forwardEdges k hk es hfw) _ hv)

/-- every path enumerated by `allPaths` is a genuine path from its start node; its other nodes are
    targets of edges -/
theorem allPaths_spec (es : List Edge) : ∀ (fuel : Nat) (n : Node) (p : List Node) (s : Rat),
    (p, s) ∈ allPaths es fuel n →
      p.head? = some n ∧ isPath es p = true ∧ ∀ m ∈ p, m = n ∨ ∃ e ∈ es, e.dst = m := by
  intro fuel
  induction fuel with
  | zero =>
    intro n p s h
    obtain ⟨rfl, _⟩ := Prod.mk.inj (List.mem_singleton.mp h)
    exact ⟨rfl, rfl, fun m hm => Or.inl (List.mem_singleton.mp hm)⟩
  | succ fuel ih =>
    intro n p s h
    rw [allPaths, List.mem_cons] at h
    rcases h with h | h
    · obtain ⟨rfl, _⟩ := Prod.mk.inj h
      exact ⟨rfl, rfl, fun m hm => Or.inl (List.mem_singleton.mp hm)⟩
    · obtain ⟨⟨m, w⟩, hmw, h⟩ := List.mem_flatMap.mp h
      obtain ⟨⟨p', s'⟩, hp', h⟩ := List.mem_map.mp h
      obtain ⟨rfl, _⟩ := Prod.mk.inj h
      obtain ⟨e, he, hval⟩ := List.mem_filterMap.mp hmw
      split at hval
      · rename_i hsrc
        obtain ⟨rfl, _⟩ := Prod.mk.inj (Option.some.inj hval)
        obtain ⟨hhead, hpath, hnodes⟩ := ih _ p' s' hp'
        cases p' with
        | nil => cases hhead
        | cons m' t =>
          obtain rfl := Option.some.inj hhead
          refine ⟨rfl, (isPath_cons₂ es n _ t).mpr ⟨⟨e, he, beq_iff_eq.mp hsrc, rfl⟩, hpath⟩,
            fun x hx => ?_⟩
          rcases List.mem_cons.mp hx with rfl | hx
          · exact Or.inl rfl
          · rcases hnodes x hx with rfl | h
            · exact Or.inr ⟨e, he, rfl⟩
            · exact Or.inr h
      · cases hval

/-- the nodes the enumeration starts from are nodes of kernel lines -/
theorem nodesOf_line (k : List Ins) (es : List Edge) (n : Node) (h : n ∈ nodesOf k es) :
    n.line ∈ k.map (·.line) := by
  simp only [nodesOf, List.mem_flatMap, List.mem_append, List.mem_singleton] at h
  obtain ⟨i, hi, h | h⟩ := h
  · split at h
    · simp only [List.mem_singleton] at h; subst h; exact List.mem_map.mpr ⟨i, hi, rfl⟩
    · simp at h
  · subst h; exact List.mem_map.mpr ⟨i, hi, rfl⟩

/-- **`cp_never_overreports`, graph-generic form**: for every forward graph over the kernel's lines,
    whatever `get_critical_path` returns (any candidate of the model: any edge-heaviest path, or the
    single slowest instruction) has a total that never exceeds the longest dependency chain. -/
theorem cpCandidates_le_longest (k : List Ins) (hk : WFKernel k) (hst : NonnegStages k) (es : List Edge)
    (hfw : ForwardEdges es) (hin : ∀ e ∈ es, e.dst.line ∈ k.map (·.line)) :
    ∀ c ∈ cpCandidates k es, total c ≤ longestChain (infosOf k) (wedgesOf es) := by
  intro c hc
  rw [cpCandidates] at hc
  split at hc
  · -- the single slowest instruction
    obtain ⟨i, hi, rfl⟩ := List.mem_map.mp hc
    exact le_of_eq_of_le (List.sum_singleton (x := i.lat)) (lat_le_longestChain _ _ ⟨i.line, i.lat, loadStageOf i⟩
      (List.mem_map_of_mem (List.mem_filter.mp hi).1))
  · obtain ⟨⟨p, s⟩, hps, rfl⟩ := List.mem_map.mp hc
    obtain ⟨n, hn, hps⟩ := List.mem_flatMap.mp (List.mem_filter.mp hps).1
    obtain ⟨hhead, hpath, hnodes⟩ := allPaths_spec es _ n p s hps
    have hne : p ≠ [] := fun h => by rw [h] at hhead; cases hhead
    refine cpReport_le_longest k hk hst es hfw p hne hpath ?_
    intro m hm
    rcases hnodes m hm with rfl | ⟨e, he, rfl⟩
    · exact nodesOf_line k es _ hn
    · exact hin e he

/-- **`cp_never_overreports`**: on the dependency graph OSACA builds (`create`), for every kernel with
    increasing line numbers and `latWoLoad ≤ lat`, every possible result of the unrepaired
    `get_critical_path` has a total ≤ the longest latency-weighted dependency chain.  Together with
    `cp_underreports` (strictly smaller on the witness): the defect is one-sided. -/
theorem cp_never_overreports (isa : Isa) (fd : Bool) (par : Params) (k : List Ins) (hk : WFKernel k)
    (hst : NonnegStages k) :
    ∀ c ∈ cpCandidates k (create isa fd par k),
      total c ≤ longestChain (infosOf k) (wedgesOf (create isa fd par k)) := by
  apply cpCandidates_le_longest k hk hst
  · exact forwardEdges_create isa fd par k hk
  · intro e he
    obtain ⟨_, b, hb, hbl⟩ := C03.edges_in_kernel isa fd par k hk e he
    exact List.mem_map.mpr ⟨b, hb, hbl⟩

-- non-vacuity: the witness kernel satisfies every hypothesis; its graph has the genuine path
-- load(1) → 1 → 2, reported with total 3 < chain length 7 = longest chain
example : WFKernel witness ∧ NonnegStages witness ∧ ForwardEdges (create .x86 false {} witness) := by
  rw [ex_witness_edges]
  decide +kernel
example :
    let es := create .x86 false {} witness
    let p : List Node := [⟨1, true⟩, ⟨1, false⟩, ⟨2, false⟩]
    isPath es p = true ∧ total (cpReport witness es p) = 3 ∧
    (chainOf es p).len (infosOf witness) = 7 ∧
    longestChain (infosOf witness) (wedgesOf es) = 7 := by
  rw [ex_witness_edges]
  decide +kernel

-- the equality clause cannot be weakened to "p does not start at a load node": the path 1 → 2 of the
-- witness starts at the instruction node, is reported with total 3 (= its path weight, as
-- `cpReport_total_eq_path` says), but the chain 1 → 2 of the property has length 7, because the load
-- stage of instruction 1 belongs to the chain whether or not the path visits the load node
example :
    let es := create .x86 false {} witness
    let p : List Node := [⟨1, false⟩, ⟨2, false⟩]
    isPath es p = true ∧ total (cpReport witness es p) = 3 ∧
    pathW (edgeW es) p + latOfK witness (lastLine p) = 3 ∧
    (chainOf es p).len (infosOf witness) = 7 := by
  rw [ex_witness_edges]
  decide +kernel

end OsacaVerif.Props.C04
