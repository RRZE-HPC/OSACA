import OsacaVerif.Lemmas.Compose
/-
  C08 — Memory-operand forms compose register-form data with load/store data.

  `Compose.assignTpLt` is the model of `ArchSemantics.assign_tp_lt` (own entry / composition / unknown),
  `Spec.Composed` the property's wording.  All literals (flag names, store latency, matcher constants)
  come from `Gen.MatchConsts`.
-/
namespace OsacaVerif.Props.C08
open OsacaVerif OsacaVerif.Text OsacaVerif.Operand OsacaVerif.Match OsacaVerif.Ports OsacaVerif.Spec
open OsacaVerif.Compose OsacaVerif.Lemmas.Compose

/-- what is observed of a result -/
def observed (r : Result) : Observed :=
  { tp := r.tp, lat := r.lat, latWoLoad := r.latWoLoad, pressure := r.pressure,
    unknownFlag := r.flags.contains Gen.flagTpUnknown || r.flags.contains Gen.flagLtUnknown }

/-- resolved micro-ops that only name ports of the model -/
def Bounded (n : Nat) (us : List Uop) : Prop := ∀ u ∈ us, (∀ p ∈ u.ports, p < n) ∧ u.mult = 1

/-! ### the load and store parts -/

theorem loadPart_spec (m : MModel) (rt : Option Txt) (i : Ins) (items : List Y) (mult : Rat) (v : List Rat)
    (h : loadPart m rt i = .ok (items, mult, v)) :
    ∃ us, v = uniform m.ports.length (us.map (withMult mult)) ∧ Bounded m.ports.length us ∧
      (hasLd i = false → us = [] ∧ mult = 1) ∧
      (hasLd i = true → ∃ mem, firstMem (i.source ++ i.srcDst) = some mem ∧
          resolveList m.ports (chooseLoad m rt mem) = .ok us ∧ multiplier m.loadMult rt = .ok mult) := by
  unfold loadPart at h
  split at h
  · rename_i hl
    split at h
    · cases h
    · rename_i mem hm
      simp only [bind_ok] at h
      obtain ⟨vv, hv, mu, hmu, its, _, hr⟩ := h
      cases hr
      obtain ⟨us, hus, rfl, hb⟩ := averageY_ok m.ports _ vv hv
      exact ⟨us, (Props.C01.uniform_mult _ _ _).symm, hb, fun h0 => (Bool.false_ne_true (h0 ▸ hl)).elim,
        fun _ => ⟨mem, hm, hus, hmu⟩⟩
  · rename_i hl
    cases h
    exact ⟨[], (uniform_nil _).symm, nofun, fun _ => ⟨rfl, rfl⟩, fun h1 => absurd h1 hl⟩

theorem storePart_spec (m : MModel) (rt : Option Txt) (i : Ins) (items : List Y) (mult : Rat) (v : List Rat)
    (wb : Bool) (h : storePart m rt i = .ok (items, mult, v, wb)) :
    ∃ us, v = uniform m.ports.length (us.map (withMult mult)) ∧ Bounded m.ports.length us ∧
      (hasSt i = false → us = [] ∧ mult = 1 ∧ wb = false) ∧
      (hasSt i = true → wb = writeBackOnly m.isa i ∧ ∃ mem, firstMem (i.destination ++ i.srcDst) = some mem ∧
          resolveList m.ports (if wb then Y.list [] else chooseStore m rt mem) = .ok us ∧
          multiplier m.storeMult rt = .ok mult) := by
  unfold storePart at h
  split at h
  · rename_i hl
    split at h
    · cases h
    · rename_i mem hm
      simp only [bind_ok] at h
      obtain ⟨vv, hv, mu, hmu, its, _, hr⟩ := h
      cases hr
      obtain ⟨us, hus, rfl, hb⟩ := averageY_ok m.ports _ vv hv
      exact ⟨us, (Props.C01.uniform_mult _ _ _).symm, hb, fun h0 => (Bool.false_ne_true (h0 ▸ hl)).elim,
        fun _ => ⟨rfl, mem, hm, hus, hmu⟩⟩
  · rename_i hl
    cases h
    exact ⟨[], (uniform_nil _).symm, nofun, fun _ => ⟨rfl, rfl, rfl⟩, fun h1 => absurd h1 hl⟩

/-! ### the composed instruction -/

/-- (∀ models, ∀ instructions, ∀ register forms): whenever the composition path returns
    numbers, they are `Composed` of ingredients that come from the model exactly as the property says:
    the register form's micro-ops, throughput and latency; the load micro-ops of the row chosen for the
    first memory source operand and the register type, times the load multiplier; the store micro-ops
    likewise (none for a write-back-only access on AArch64); the load latency of the register type. -/
theorem compose_spec (m : MModel) (e : Entry) (i : Ins) (ops' : List POperand) (r : Result)
    (h : compose m e i ops' = .ok r) :
    ∃ (p : Parts) (rt : Option Txt),
      p.n = m.ports.length ∧
      resolveList m.ports e.pp = .ok p.reg ∧ numOf e.tp = .ok p.tpReg ∧ numOf e.lat = .ok p.latReg ∧
      p.hasLd = hasLd i ∧
      (∃ eop, e.operands[ops'.idxOf POperand.wild]? = some eop ∧ getRegType m.isa eop = .ok rt) ∧
      (hasLd i = false → p.ld = [] ∧ p.mLd = 1) ∧
      (hasLd i = true → loadLatency m rt = .ok p.loadLat ∧
          ∃ mem, firstMem (i.source ++ i.srcDst) = some mem ∧
            resolveList m.ports (chooseLoad m rt mem) = .ok p.ld ∧ multiplier m.loadMult rt = .ok p.mLd) ∧
      (hasSt i = false → p.st = [] ∧ p.mSt = 1) ∧
      (hasSt i = true → r.removedSt = writeBackOnly m.isa i ∧
          ∃ mem, firstMem (i.destination ++ i.srcDst) = some mem ∧
            resolveList m.ports (if r.removedSt then Y.list [] else chooseStore m rt mem) = .ok p.st ∧
            multiplier m.storeMult rt = .ok p.mSt) ∧
      Bounded p.n p.reg ∧ Bounded p.n p.ld ∧ Bounded p.n p.st ∧
      Composed p (observed r) := by
  -- a `do` block in `Except` succeeds iff every bind does: `h` becomes the chain of intermediate
  -- results, in program order
  unfold compose at h
  simp only [bind_ok] at h
  obtain ⟨eop, heop, rt, hrt, ⟨ldItems, mLd, ldV⟩, hld, ⟨stItems, mSt, stV, wb⟩, hst, dmax, hdmax, tpReg, htp,
    ll, hll, latReg, hlat, regV, hregV, regItems, _, hres⟩ := h
  simp only [pure, Except.pure, Except.ok.injEq] at hres
  obtain ⟨ld, hldV, hldB, hld0, hld1⟩ := loadPart_spec m rt i ldItems mLd ldV hld
  obtain ⟨st, hstV, hstB, hst0, hst1⟩ := storePart_spec m rt i stItems mSt stV wb hst
  obtain ⟨reg, hreg, hregV', hregB⟩ := averageY_ok m.ports e.pp regV hregV
  have heop' : e.operands[ops'.idxOf POperand.wild]? = some eop := by
    split at heop
    · rename_i x hx
      cases heop
      exact hx
    · cases heop
  have hllv : ∃ loadLat, (hasLd i = true → loadLatency m rt = .ok loadLat) ∧ ll = (if hasLd i then loadLat else 0) := by
    cases hl : hasLd i with
    | false => rw [hl] at hll; exact ⟨0, nofun, (Except.ok.inj hll).symm⟩
    | true => rw [hl] at hll; exact ⟨ll, fun _ => hll, rfl⟩
  obtain ⟨loadLat, hll1, hll2⟩ := hllv
  let p : Parts := { n := m.ports.length, reg := reg, ld := ld, st := st, mLd := mLd, mSt := mSt, tpReg := tpReg,
                     latReg := latReg, loadLat := loadLat, hasLd := hasLd i }
  -- the data vector is the uniform split of the load and store micro-ops with their multipliers
  have hdata : (if hasSt i then addVec ldV stV else ldV) = uniform m.ports.length p.dataUops := by
    cases hs : hasSt i with
    | true => simp only [if_true, hldV, hstV, addVec_uniform]; rfl
    | false =>
      obtain ⟨hs1, _, _⟩ := hst0 hs
      simp only [Bool.false_eq_true, if_false, hldV, Parts.dataUops, p, hs1, List.map_nil, List.append_nil]
  refine ⟨p, rt, rfl, hreg, htp, hlat, rfl, ⟨eop, heop', hrt⟩, hld0, fun hl => ⟨hll1 hl, hld1 hl⟩,
    fun hs => ⟨(hst0 hs).1, (hst0 hs).2.1⟩, fun hs => hres ▸ hst1 hs, hregB, hldB, hstB, ?_⟩
  · rw [hdata] at hdmax hres
    have hmax := maxList_ok _ _ hdmax
    rw [← hres]
    constructor
    · show addVec (uniform m.ports.length p.dataUops) regV = uniform p.n p.uops
      rw [hregV', addVec_uniform]
      exact uniform_append_comm _ _ _
    · show (if dmax < tpReg then tpReg else dmax) = _
      rw [hmax]
    · show latReg + ll + (if (hasSt i && !wb) = true then Gen.storeLatency else 0) = _
      -- `Composed.lat` has no store term: the source's store latency (regenerated constant) is 0
      have : Gen.storeLatency = 0 := by decide
      rw [this, hll2]
      simp only [ite_self, add_zero, p]
    · rfl
    · rfl

/-- the composed port pressure is an exactly feasible fractional assignment
    (C01, ε = 0) of the composed micro-op list, the load/store micro-ops carrying their throughput
    multipliers as `mult` — for all models whose micro-ops have non-negative cycles, non-empty port
    sets, and non-negative multipliers. -/
theorem compose_feasible (p : Parts) (o : Observed) (hc : Composed p o)
    (hreg : WFUops p.n p.reg) (hld : WFUops p.n p.ld) (hst : WFUops p.n p.st)
    (hm1 : 0 ≤ p.mLd) (hm2 : 0 ≤ p.mSt) :
    Feasible 0 p.n p.uops o.pressure := by
  rw [hc.pressure]
  apply Spec.uniform_feasible
  intro u hu
  simp only [Parts.uops, Parts.dataUops, List.mem_append, List.mem_map] at hu
  rcases hu with hu | ⟨u', hu', rfl⟩ | ⟨u', hu', rfl⟩
  · exact hreg u hu
  · obtain ⟨a, b, c, d⟩ := hld u' hu'
    exact ⟨a, by simp only [withMult]; exact mul_nonneg hm1 b, c, d⟩
  · obtain ⟨a, b, c, d⟩ := hst u' hu'
    exact ⟨a, by simp only [withMult]; exact mul_nonneg hm2 b, c, d⟩

/-! ### unknown instructions, own entries, independence of lines -/

/-- an instruction with neither an entry of its own nor a register form (or without
    any load/store role) gets both unknown flags, zero pressure on every port, zero latency and
    throughput, and its micro-op list is left alone. -/
theorem unknown_spec (m : MModel) (i : Ins) (name : Txt) (hn : i.mnemonic = some name)
    (h1 : lookupWithFallbacks m.isa m.db name i.operands = none)
    (h2 : (hasLd i || hasSt i) = false ∨
          lookupWithFallbacks m.isa m.db name (substituteMem i.operands) = none) :
    assignTpLt m i = .ok (unknown m) ∧
    UnknownSpec m.ports.length (observed (unknown m)) (unknown m).flags Gen.flagTpUnknown Gen.flagLtUnknown ∧
    (unknown m).uops = none := by
  refine ⟨?_, ⟨⟨.head _, .tail _ (.head _)⟩, rfl, rfl, rfl, rfl⟩, rfl⟩
  unfold assignTpLt
  simp only [hn, h1]
  rcases h2 with h2 | h2
  · rw [h2]
    rfl
  · simp only [h2, ite_self]

/-- an instruction that has an entry of its own never takes the composition path -/
theorem own_entry_first (m : MModel) (i : Ins) (name : Txt) (e : Entry) (hn : i.mnemonic = some name)
    (h : lookupWithFallbacks m.isa m.db name i.operands = some e) :
    assignTpLt m i = handleFound m e i := by
  simp [assignTpLt, hn, h]

/-- the composition path is taken exactly when there is no own entry, a load/store role, and a
    register form -/
theorem composed_when (m : MModel) (i : Ins) (name : Txt) (e : Entry) (hn : i.mnemonic = some name)
    (h1 : lookupWithFallbacks m.isa m.db name i.operands = none) (h2 : (hasLd i || hasSt i) = true)
    (h3 : lookupWithFallbacks m.isa m.db name (substituteMem i.operands) = some e) :
    assignTpLt m i = compose m e i (substituteMem i.operands) := by
  simp [assignTpLt, hn, h1, h2, h3]

/-- a composed instruction is not flagged unknown -/
theorem composed_not_unknown (m : MModel) (e : Entry) (i : Ins) (ops' : List POperand) (r : Result)
    (h : compose m e i ops' = .ok r) : (observed r).unknownFlag = false := by
  obtain ⟨p, _, _, _, _, _, _, _, _, _, _, _, _, _, _, hc⟩ := compose_spec m e i ops' r h
  exact hc.known

/-- the kernel is analysed line by line with nothing shared — the result of a
    line is a function of the model and that line alone, so an unknown or composed instruction cannot
    change the numbers of any other line, and analysing an instruction again gives the same numbers. -/
theorem per_instruction (m : MModel) (pre post : List Ins) (i : Ins) :
    (assignKernel m (pre ++ i :: post))[pre.length]? = some (assignTpLt m i) ∧
    (∀ j : Ins, (assignKernel m (pre ++ j :: post)).take pre.length = (assignKernel m (pre ++ i :: post)).take pre.length) ∧
    (∀ j : Ins, (assignKernel m (pre ++ j :: post)).drop (pre.length + 1) =
                (assignKernel m (pre ++ i :: post)).drop (pre.length + 1)) := by
  have hl : (pre.map (assignTpLt m)).length = pre.length := List.length_map _
  -- the kernel's results are `pre`'s, then the line's own, then `post`'s
  have hk : ∀ j, assignKernel m (pre ++ j :: post) =
      pre.map (assignTpLt m) ++ assignTpLt m j :: post.map (assignTpLt m) := fun j =>
    List.map_append
  refine ⟨?_, fun j => ?_, fun j => ?_⟩
  · rw [hk, ← hl, List.getElem?_append_right le_rfl, Nat.sub_self]
    rfl
  · rw [hk, hk, ← hl, List.take_left, List.take_left]
  · rw [hk, hk, ← hl, ← List.drop_drop, ← List.drop_drop, List.drop_left, List.drop_left,
      List.drop_succ_cons, List.drop_succ_cons]

/-! ### which table row is used -/

/-- load: among the rows whose addressing shape matches, the first whose `dst`
    matches the register type; if none does, the first matching row; if no row matches, the default -/
theorem row_choice_load (m : MModel) (rt : Option Txt) (mem : PMem) :
    let rows := m.loadRows.filter (rowMatches m.isa mem)
    (rows = [] → chooseLoad m rt mem = m.loadDefault) ∧
    (∀ r, rows.find? (rowTyped m.isa rt) = some r → chooseLoad m rt mem = r.pp) ∧
    (∀ r rs, rows = r :: rs → rows.find? (rowTyped m.isa rt) = none → chooseLoad m rt mem = r.pp) := by
  intro rows
  refine ⟨?_, ?_, ?_⟩
  · intro h
    simp only [rows] at h
    simp [chooseLoad, h]
  · intro r hr
    simp only [rows] at hr
    simp [chooseLoad, hr]
  · intro r rs hrows hnone
    simp only [rows] at hrows hnone
    simp only [chooseLoad, hnone]
    rw [hrows]

/-- the row used for a load always has a matching addressing shape (or is the default) -/
theorem row_choice_load_shape (m : MModel) (rt : Option Txt) (mem : PMem) :
    chooseLoad m rt mem = m.loadDefault ∨
    ∃ r ∈ m.loadRows, rowMatches m.isa mem r = true ∧ chooseLoad m rt mem = r.pp := by
  obtain ⟨h0, h1, h2⟩ := row_choice_load m rt mem
  have hmem : ∀ r ∈ m.loadRows.filter (rowMatches m.isa mem), chooseLoad m rt mem = r.pp →
      ∃ r ∈ m.loadRows, rowMatches m.isa mem r = true ∧ chooseLoad m rt mem = r.pp :=
    fun r hr h => ⟨r, (List.mem_filter.mp hr).1, (List.mem_filter.mp hr).2, h⟩
  cases hr : m.loadRows.filter (rowMatches m.isa mem) with
  | nil => exact .inl (h0 hr)
  | cons r rs =>
    cases hf : (m.loadRows.filter (rowMatches m.isa mem)).find? (rowTyped m.isa rt) with
    | some r' => exact .inr (hmem r' (List.mem_of_find?_eq_some hf) (h1 r' hf))
    | none => exact .inr (hmem r (hr ▸ List.mem_cons_self) (h2 r rs hr hf))

/-- store: the first row whose shape matches and whose `src` matches the register
    type, else the default -/
theorem row_choice_store (m : MModel) (rt : Option Txt) (mem : PMem) :
    chooseStore m rt mem =
      match m.storeRows.find? (fun r => rowMatches m.isa mem r && rowTyped m.isa rt r) with
      | some r => r.pp
      | none => m.storeDefault := by
  -- `find?` is the head of the filtered list; the two filters of the code are one
  rw [chooseStore, List.filter_filter, ← List.head?_filter,
    funext fun r => Bool.and_comm (rowMatches m.isa mem r) (rowTyped m.isa rt r)]
  cases List.filter (fun r => rowTyped m.isa rt r && rowMatches m.isa mem r) m.storeRows <;> rfl

/-! ### non-vacuity -/

def p0 : Txt := [48]
def p1 : Txt := [49]
def p2 : Txt := [50]
def ZADD : Txt := [90, 65, 68, 68]
def rX : POperand := .reg { name := [120, 109, 109, 49] }
def mRax : PMem := { base := some { name := [114, 97, 120] }, offset := .none, index := none, scale := 1, pre := false, post := false }
def xmmE : EOperand := .reg (some [120, 109, 109]) none none

/-- two ports for arithmetic, one load port; `zadd xmm, xmm` costs one cycle on port 0 or 1;
    a load costs one cycle on port 2; load latency of xmm is 4, multiplier 2 -/
def m0 : MModel :=
  { isa := .x86, ports := [p0, p1, p2],
    db := [{ name := ZADD, operands := [xmmE, xmmE], tp := .num (1/2), lat := .num 3,
             pp := .list [.list [.num 1, .str [48, 49]]] }],
    loadRows := [], loadDefault := .list [.list [.num 1, .list [.str p2]]],
    storeRows := [], storeDefault := .list [],
    loadLatency := [(.str [120, 109, 109], .num 4)],
    loadMult := some [(.str [120, 109, 109], .num 2)], storeMult := none }

def i0 : Ins := { mnemonic := some [122, 97, 100, 100], operands := [.mem mRax, rX], source := [.mem mRax], destination := [rX], srcDst := [] }

def showR (x : Except Err Result) : Option (List Rat × List Txt) :=
  match x with
  | .ok r => some ([r.tp, r.lat, r.latWoLoad] ++ r.pressure, r.flags)
  | .error _ => none

/-- composed: throughput = busiest load port (2·1 on port 2) > register form's ½; latency 3 + 4 -/
example : showR (assignTpLt m0 i0) = some ([2, 7, 3, 1/2, 1/2, 2], []) := by decide +kernel

/-- unknown mnemonic: both flags, zeros -/
example : showR (assignTpLt m0 { i0 with mnemonic := some [113] }) =
    some ([0, 0, 0, 0, 0, 0], [Gen.flagTpUnknown, Gen.flagLtUnknown]) := by decide +kernel

example : Composed { n := 3, reg := [⟨1, [0, 1], 1⟩], ld := [⟨1, [2], 1⟩], st := [], mLd := 2, tpReg := 1/2, latReg := 3,
                     loadLat := 4, hasLd := true }
    { tp := 2, lat := 7, latWoLoad := 3, pressure := [1/2, 1/2, 2], unknownFlag := false } := by
  constructor <;> decide +kernel

end OsacaVerif.Props.C08
