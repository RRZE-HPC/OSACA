import OsacaVerif.Model.Pipeline
import OsacaVerif.Lemmas.Pipeline
import OsacaVerif.Props.C11
import OsacaVerif.Model.Compose
import OsacaVerif.Model.Isa
/-
  C11 at the level of the numeric analysis — the composed pipeline `Pipeline.run`
  (selection ∘ dependency graph ∘ critical path ∘ loop-carried dependencies ∘ column sums).

  * `analysis_rename_equivariant`, `analysis_renumber_invariant`, `blank_line_transparent_analysis` — the
    analysis depends on the line numbers only through an order-preserving renaming (also the LCD offset
    `max(floor, max line + 1)` and the search depth, which are computed from the numbers, do not matter);
    a blank line in the file only renumbers;
  * `noise_drop`, `noise_transparent` — comment / label / directive lines change nothing but line numbers
    (critical-path marks: for a positive total, see `cp_zero_quirk` at the end of the file);
  * `three_ways_same`, `three_ways_same_x86`, `three_ways_same_a64` — markers, `--lines a-b` and the body
    alone give the same analysis up to that renaming.

  All for kernels of any length, any per-instruction data, any ISA, with and without flag
  dependencies, any model parameters and any `floor`.
-/
namespace OsacaVerif.Props.C11Pipeline
open OsacaVerif OsacaVerif.Text OsacaVerif.Pipeline OsacaVerif.Marker OsacaVerif.Spec.KernelSelect
open OsacaVerif.Props.C11

/-! ### line numbers: erasing them, numbering by position, and the map position ↦ number -/

/-- a line with its number replaced -/
def setNum (n : Nat) (l : PLine) : PLine := { l with sel := { l.sel with num := n } }

/-- a line without its number: "the same line" -/
def eraseNum (l : PLine) : PLine := setNum 0 l

/-- the kernel numbered by position 0, 1, 2, … -/
def canon (k : List PLine) : List PLine := k.mapIdx (fun j l => setNum j l)

/-- the order-preserving map `position ↦ line number` of an increasing list of numbers (continued
    beyond the list) -/
def lineFn (nums : List Nat) (x : Nat) : Nat :=
  if x < nums.length then nums.getD x 0 else nums.getD (nums.length - 1) 0 + 1 + (x - nums.length)

theorem getD_lt (nums : List Nat) (x : Nat) (h : x < nums.length) : nums.getD x 0 = nums[x] := by
  simp [List.getD, List.getElem?_eq_getElem h]

theorem lineFn_lt (nums : List Nat) (x : Nat) (h : x < nums.length) : lineFn nums x = nums[x] := by
  unfold lineFn
  rw [if_pos h, getD_lt _ _ h]

theorem lineFn_incr (nums : List Nat) (h : nums.Pairwise (· < ·)) : Incr (lineFn nums) := by
  intro a b hab
  rw [List.pairwise_iff_getElem] at h
  unfold lineFn
  by_cases hb : b < nums.length
  · have ha := Nat.lt_trans hab hb
    rw [if_pos ha, if_pos hb, getD_lt _ _ ha, getD_lt _ _ hb]
    exact h a b ha hb hab
  · rw [if_neg hb]
    by_cases ha : a < nums.length
    · have hl : nums.length - 1 < nums.length := Nat.sub_one_lt (Nat.ne_of_gt (Nat.zero_lt_of_lt ha))
      rw [if_pos ha, getD_lt _ _ ha, getD_lt _ _ hl]
      have : nums[a] ≤ nums[nums.length - 1] := by
        rcases Nat.eq_or_lt_of_le (Nat.le_sub_one_of_lt ha) with e | e
        · simp only [e, Nat.le_refl]
        · exact Nat.le_of_lt (h a _ ha hl e)
      exact Nat.lt_of_le_of_lt this (Nat.lt_add_right _ (Nat.lt_succ_self _))
    · rw [if_neg ha]
      exact Nat.add_lt_add_left (Nat.sub_lt_sub_right (Nat.not_lt.mp ha) hab) _
theorem lineFn_incr' (k : List PLine) (h : Increasing k) : Incr (lineFn (k.map (·.num))) :=
  lineFn_incr _ h

theorem select_lines (spec : Txt) (file : List PLine) :
    select (.lines spec) file = match getLineRange spec with
      | some r => .ok (selectRange r file)
      | none => .badLines := rfl

theorem select_markers (isa : Txt) (file : List PLine) : select (.markers isa) file = selectMarkers file isa := rfl

theorem canon_length (k : List PLine) : (canon k).length = k.length := by simp [canon]

/-- an increasing kernel is its position-numbered form, renamed by `position ↦ line number` -/
theorem canon_rename (k : List PLine) :
    k = (canon k).map (renLine (lineFn (k.map (·.num)))) := by
  apply List.ext_getElem
  · simp [canon]
  · intro j h1 h2
    simp only [canon, List.getElem_map, List.getElem_mapIdx]
    have : lineFn (k.map (·.num)) j = (k[j]).num := by
      rw [lineFn_lt _ _ (by simpa using h1)]; simp
    show k[j] = setNum (lineFn (k.map (·.num)) j) k[j]
    rw [this]
    rfl

theorem canon_congr (k1 k2 : List PLine) (h : k1.map eraseNum = k2.map eraseNum) : canon k1 = canon k2 := by
  have hlen : k1.length = k2.length := by simpa using congrArg List.length h
  apply List.ext_getElem
  · simp [canon, hlen]
  · intro j h1 h2
    simp only [canon, List.getElem_mapIdx]
    have hj1 : j < k1.length := by simpa [canon] using h1
    have hj2 : j < k2.length := by omega
    have e : eraseNum k1[j] = eraseNum k2[j] := by
      have := congrArg (fun l => l[j]?) h
      simpa [hj1, hj2] using this
    have s1 : ∀ l : PLine, setNum j l = setNum j (eraseNum l) := fun _ => rfl
    rw [s1 k1[j], s1 k2[j], e]

theorem canon_lines (k : List PLine) : (canon k).map (·.num) = List.range k.length := by
  apply List.ext_getElem
  · simp [canon]
  · intro j h1 h2
    simp [canon, setNum, PLine.num]

/-! ### the composition uses the stage models as they are -/

/-- the marker branch of `Pipeline.select` is C11's `reduceToSection` on the abstracted lines -/
theorem select_markers_is_reduceToSection (file : List PLine) (isa : Txt) :
    (match select (.markers isa) file with
      | .ok k => Marker.Sel.ok (k.map (·.sel))
      | .badIsa => .badIsa
      | _ => .raised) = reduceToSection (file.map (·.sel)) isa := by
  rw [select_markers]
  unfold selectMarkers cfgOf reduceToSection
  simp only
  by_cases h1 : (if Gen.isaLowered = true then lower isa else isa) = Gen.x86IsaName
  · simp only [h1, if_true]
    rw [← selectWith_spec]
    cases selectWith x86Cfg file <;> rfl
  · by_cases h2 : (if Gen.isaLowered = true then lower isa else isa) = Gen.a64IsaName
    · have hne : ¬ Gen.a64IsaName = Gen.x86IsaName := by decide
      simp only [h2, hne, if_true, if_false]
      rw [← selectWith_spec]
      cases selectWith a64Cfg file <;> rfl
    · simp only [h1, h2, if_false]

/-- the `--lines` branch is C11's `getLineRange` and `selectLines` -/
theorem select_lines_is_selectLines (file : List PLine) (spec : Txt) :
    (match select (.lines spec) file with
      | .ok k => some (k.map (·.sel))
      | _ => none) = (getLineRange spec).map (fun r => selectLines r (file.map (·.sel))) := by
  rw [select_lines]
  cases getLineRange spec with
  | none => rfl
  | some r => simp only [Option.map_some]; rw [← selectRange_spec]

/-- throughput, latencies, pressure, flags, operand lists, `hasLd` and register changes that the model stores on
    a line without mnemonic (`noiseSem`) are what the models of `assign_tp_lt` (C08), `assign_src_dst` and
    `get_reg_changes` (C03Roles) compute for it (`used` and `isLd` are not compared) -/
theorem noiseSem_is_stage_models (m : Compose.MModel) (i : Compose.Ins) (hi : i.mnemonic = none)
    (isa : Operand.Isa) (db : List Isa.IsaEntry) (ops : List Isa.Opnd) (sem : Isa.Sem) (onlyPost : Bool) :
    (∃ r, Compose.assignTpLt m i = .ok r ∧ r.tp = (noiseSem m.ports.length).tp ∧ r.lat = (noiseSem m.ports.length).lat ∧
      some r.latWoLoad = (noiseSem m.ports.length).latWoLoad ∧ r.pressure = (noiseSem m.ports.length).pressure ∧
      r.flags = (noiseSem m.ports.length).flags) ∧
    (Isa.assignSrcDst isa db none ops).sem = {} ∧ (Isa.assignSrcDst isa db none ops).hasLd = (noiseSem 0).hasLd ∧
    Isa.regChanges isa db none ops sem onlyPost = .ok [] := by
  refine ⟨⟨Compose.nonInstruction m, ?_, rfl, rfl, rfl, rfl, rfl⟩, rfl, rfl, rfl⟩
  unfold Compose.assignTpLt
  rw [hi]

/-- the entry the report model (C13) picks for the LCD column and the LCD total is the entry
    `firstMaxDep` picks: `Report.lcdMembers` / `Report.lcdSumRepr` of the handed-over record are
    `lcdMarks` / `lcdFigure` of the analysis -/
theorem report_lcd_selection (repr : Rat → Txt) (ports : List Txt) (iu : Bool) (c : Pipeline.Cfg) (k : List PLine) :
    Report.lcdMembers (toReport repr ports iu c.nports k (analyze c k)) =
      (analyze c k).lcdMarks.map (fun p => (p.1, repr p.2)) ∧
    ((analyze c k).lcdDict ≠ [] →
      Report.lcdSumRepr (toReport repr ports iu c.nports k (analyze c k)) = repr (analyze c k).lcdFigure) := by
  simp only [Report.lcdMembers, Report.lcdSumRepr, toReport, analyze, analyzeCore]
  generalize LcdPost.postE _ = d
  cases d with
  | nil => exact ⟨rfl, fun h => absurd rfl h⟩
  | cons x xs =>
    -- both sides pick the first entry of maximal latency
    have h := amax_map (fun d : List Nat × LcdPost.Entry => (⟨Fmt.joinWith [45] (d.1.map Fmt.natDigits), d.2.1,
      repr d.2.1, textOf k (d.1.headD 0), d.2.2.map fun p => (p.1, repr p.2)⟩ : Report.Dep)) (·.lat) (·.2.1)
      (fun _ => rfl) x xs
    simp only [List.map_cons, Report.firstMax, firstMaxDep]
    exact ⟨congrArg Report.Dep.members h, fun _ => congrArg Report.Dep.latRepr h⟩

/-- **analysis_rename_equivariant** (∀ kernels, ∀ order-preserving `f`): renaming the line numbers of
    the kernel renames the line numbers of the analysis and changes nothing else — per-line numbers,
    edges with weights, critical-path total and marks, loop-carried dependencies (members, latencies,
    dictionary order, reported entry), column sums. -/
theorem analysis_rename_equivariant (c : Pipeline.Cfg) (k : List PLine) (f : Nat → Nat) (hf : Incr f) :
    analyze c (k.map (renLine f)) = (analyze c k).rename f :=
  analyze_ren hf c k

/-- the renaming leaves every number that is not a line number alone -/
theorem rename_values (a : Analysis) (f : Nat → Nat) :
    (a.rename f).cpTotal = a.cpTotal ∧ (a.rename f).lcdFigure = a.lcdFigure ∧ (a.rename f).colSums = a.colSums ∧
    (a.rename f).edges.map (·.w) = a.edges.map (·.w) ∧ (a.rename f).cpMarks.map (·.2) = a.cpMarks.map (·.2) ∧
    (a.rename f).lcd.map (fun e => (e.lats, e.latency)) = a.lcd.map (fun e => (e.lats, e.latency)) ∧
    (a.rename f).lcdMarks.map (·.2) = a.lcdMarks.map (·.2) ∧
    (a.rename f).rows.map (fun r => (r.instr, r.lat, r.latWoLoad, r.tp, r.pressure)) =
      a.rows.map (fun r => (r.instr, r.lat, r.latWoLoad, r.tp, r.pressure)) := by
  simp [Analysis.rename, List.map_map, Function.comp_def, renEdge, renPair, renEntry, renRow]

/-- **analysis_renumber_invariant** (∀ kernels of any length, ∀ numberings): two kernels with the same
    lines in the same order and strictly increasing line numbers have the same analysis up to the
    renaming of line numbers: both analyses are the analysis `a₀` of the position-numbered kernel,
    renamed by the order-preserving maps `gᵢ : position ↦ line number in kernel i`. -/
theorem analysis_renumber_invariant (c : Pipeline.Cfg) (k1 k2 : List PLine)
    (hsame : k1.map eraseNum = k2.map eraseNum) (h1 : Increasing k1) (h2 : Increasing k2) :
    ∃ (a₀ : Analysis) (g1 g2 : Nat → Nat), Incr g1 ∧ Incr g2 ∧
      (∀ j (h : j < k1.length), g1 j = (k1[j]).num) ∧ (∀ j (h : j < k2.length), g2 j = (k2[j]).num) ∧
      a₀ = analyze c (canon k1) ∧ a₀.rows.map (·.line) = List.range k1.length ∧
      analyze c k1 = a₀.rename g1 ∧ analyze c k2 = a₀.rename g2 := by
  have hg : ∀ (k : List PLine) j (h : j < k.length), lineFn (k.map (·.num)) j = (k[j]).num := fun k j h => by
    rw [lineFn_lt _ _ (by rwa [List.length_map]), List.getElem_map]
  have ha : ∀ k, Increasing k → analyze c k = (analyze c (canon k)).rename (lineFn (k.map (·.num))) := fun k hk => by
    rw [← analyze_ren (lineFn_incr' k hk), ← canon_rename]
  refine ⟨_, _, _, lineFn_incr' k1 h1, lineFn_incr' k2 h2, hg k1, hg k2, rfl, ?_, ha k1 h1, ?_⟩
  · exact (List.map_map ..).trans (canon_lines k1)
  · rw [canon_congr k1 k2 hsame]
    exact ha k2 h2

/-- consequence: every number that is not a line number is equal, list by list -/
theorem analysis_renumber_values (c : Pipeline.Cfg) (k1 k2 : List PLine)
    (hsame : k1.map eraseNum = k2.map eraseNum) (h1 : Increasing k1) (h2 : Increasing k2) :
    (analyze c k1).cpTotal = (analyze c k2).cpTotal ∧ (analyze c k1).lcdFigure = (analyze c k2).lcdFigure ∧
    (analyze c k1).colSums = (analyze c k2).colSums ∧
    (analyze c k1).edges.map (·.w) = (analyze c k2).edges.map (·.w) ∧
    (analyze c k1).cpMarks.map (·.2) = (analyze c k2).cpMarks.map (·.2) ∧
    (analyze c k1).lcd.map (fun e => (e.lats, e.latency)) = (analyze c k2).lcd.map (fun e => (e.lats, e.latency)) := by
  obtain ⟨a₀, g1, g2, _, _, _, _, _, _, e1, e2⟩ := analysis_renumber_invariant c k1 k2 hsame h1 h2
  have r1 := rename_values a₀ g1
  have r2 := rename_values a₀ g2
  rw [e1, e2]
  exact ⟨r1.1.trans r2.1.symm, r1.2.1.trans r2.2.1.symm, r1.2.2.1.trans r2.2.2.1.symm,
    r1.2.2.2.1.trans r2.2.2.2.1.symm, r1.2.2.2.2.1.trans r2.2.2.2.2.1.symm,
    r1.2.2.2.2.2.1.trans r2.2.2.2.2.2.1.symm⟩

/-- what it means that the analysis `a` of a kernel says about its instructions what the analysis
    `b` of the instruction lines alone says -/
structure SameOnInstr (nports : Nat) (a b : Analysis) : Prop where
  rows : a.rows.filter (·.instr) = b.rows
  noiseRows : ∀ r ∈ a.rows, r.instr = false →
    r.lat = 0 ∧ r.latWoLoad = some 0 ∧ r.tp = 0 ∧ r.pressure = Ports.zeros nports
  edges : a.edges = b.edges
  lcd : a.lcd = b.lcd
  lcdDict : a.lcdDict = b.lcdDict
  lcdFigure : a.lcdFigure = b.lcdFigure
  lcdMarks : a.lcdMarks = b.lcdMarks
  colSums : a.colSums = b.colSums
  cpTotal : 0 ≤ b.cpTotal → a.cpTotal = b.cpTotal
  cpMarks : 0 < b.cpTotal → a.cpMarks = b.cpMarks

/-- **noise_drop** (∀ kernels with increasing numbers, ∀ positions and numbers of comment / label /
    directive lines): the analysis of a kernel and the analysis of its instruction lines alone agree
    — with the SAME line numbers: identical edge list, identical loop-carried dependencies
    (although offset and search depth are computed with the extra lines), identical column sums,
    identical per-instruction rows; the extra lines carry zeros; the critical-path total is the same
    (when non-negative, i.e. always for real latencies) and the marked lines are the same when the total
    is positive. -/
theorem noise_drop (c : Pipeline.Cfg) (k : List PLine) (hk : Increasing k) :
    SameOnInstr c.nports (analyze c k) (analyze c (k.filter (·.isInstr))) := by
  have hl : (analyze c k).lcd = (analyze c (k.filter (·.isInstr))).lcd := lcd_instr c k hk
  obtain ⟨hd, hf, hm⟩ := lcdReport_eq_of_lcd_eq hl
  exact {
    rows := rows_instr c.nports k
    noiseRows := by
      intro r hr hi
      obtain ⟨l, _, rfl⟩ := List.mem_map.mp hr
      rw [row_noise c.nports l hi]
      exact ⟨rfl, rfl, rfl, rfl⟩
    edges := create_instr c k
    lcd := hl
    lcdDict := hd
    lcdFigure := hf
    lcdMarks := hm
    colSums := colSums_instr c.nports k
    cpTotal := (cp_instr c k hk).1
    cpMarks := (cp_instr c k hk).2 }

/-- **noise_transparent** (∀ kernels, ∀ insertions): two kernels with increasing numbers whose
    INSTRUCTION lines are the same in the same order — e.g. one arises from the other by inserting any
    number of comment / label / directive lines at any positions, which renumbers everything behind
    them — have the same analysis of their instructions up to the renaming of line numbers: there is
    one analysis `a₀` (of the position-numbered instruction lines) and order-preserving maps
    `gᵢ : instruction ordinal ↦ line number in kernel i` such that `analyze kᵢ` agrees on the
    instructions (`SameOnInstr`) with `a₀` renamed by `gᵢ`. -/
theorem noise_transparent (c : Pipeline.Cfg) (k1 k2 : List PLine) (h1 : Increasing k1) (h2 : Increasing k2)
    (hsame : (k1.filter (·.isInstr)).map eraseNum = (k2.filter (·.isInstr)).map eraseNum) :
    ∃ (a₀ : Analysis) (g1 g2 : Nat → Nat), Incr g1 ∧ Incr g2 ∧
      (∀ j (h : j < (k1.filter (·.isInstr)).length), g1 j = ((k1.filter (·.isInstr))[j]).num) ∧
      (∀ j (h : j < (k2.filter (·.isInstr)).length), g2 j = ((k2.filter (·.isInstr))[j]).num) ∧
      a₀ = analyze c (canon (k1.filter (·.isInstr))) ∧
      SameOnInstr c.nports (analyze c k1) (a₀.rename g1) ∧ SameOnInstr c.nports (analyze c k2) (a₀.rename g2) := by
  obtain ⟨a₀, g1, g2, hg1, hg2, p1, p2, ha, _, e1, e2⟩ :=
    analysis_renumber_invariant c _ _ hsame (h1.sublist List.filter_sublist) (h2.sublist List.filter_sublist)
  refine ⟨a₀, g1, g2, hg1, hg2, p1, p2, ha, ?_, ?_⟩
  · rw [← e1]; exact noise_drop c k1 h1
  · rw [← e2]; exact noise_drop c k2 h2

/-- the numbers of the instructions are equal in the two analyses (critical path for a non-negative total) -/
theorem noise_transparent_values (c : Pipeline.Cfg) (k1 k2 : List PLine) (h1 : Increasing k1) (h2 : Increasing k2)
    (hsame : (k1.filter (·.isInstr)).map eraseNum = (k2.filter (·.isInstr)).map eraseNum) :
    (analyze c k1).lcdFigure = (analyze c k2).lcdFigure ∧ (analyze c k1).colSums = (analyze c k2).colSums ∧
    (analyze c k1).edges.map (·.w) = (analyze c k2).edges.map (·.w) ∧
    (analyze c k1).lcd.map (fun e => (e.lats, e.latency)) = (analyze c k2).lcd.map (fun e => (e.lats, e.latency)) ∧
    (0 ≤ (analyze c (k1.filter (·.isInstr))).cpTotal → (analyze c k1).cpTotal = (analyze c k2).cpTotal) := by
  have n1 := noise_drop c k1 h1
  have n2 := noise_drop c k2 h2
  have v := analysis_renumber_values c _ _ hsame (h1.sublist List.filter_sublist) (h2.sublist List.filter_sublist)
  refine ⟨by rw [n1.lcdFigure, n2.lcdFigure]; exact v.2.1, by rw [n1.colSums, n2.colSums]; exact v.2.2.1,
    by rw [n1.edges, n2.edges]; exact v.2.2.2.1, by rw [n1.lcd, n2.lcd]; exact v.2.2.2.2.2, ?_⟩
  intro hnn
  rw [n1.cpTotal hnn, n2.cpTotal (by rw [← v.1]; exact hnn)]
  exact v.1

/-- **a blank line only renumbers**: a file is read by `parse_file` (`Marker.numberFrom`: blank
    lines get no instruction form but count for the numbering, `Props.C11.blank_line_transparent`) and
    each remaining text is parsed and matched by some per-line function `P` that does not see the number.
    Inserting a whitespace-only line anywhere changes the analysis of the whole file only by the
    renaming of line numbers. -/
theorem blank_line_transparent_analysis (c : Pipeline.Cfg) (P : Txt → PLine) (start : Nat) (xs ys : List Txt) (b : Txt)
    (hb : PyInt.isBlank b = true) :
    let k1 := (numberFrom start 0 (xs ++ ys)).map (fun p => setNum p.1 (P p.2))
    let k2 := (numberFrom start 0 (xs ++ b :: ys)).map (fun p => setNum p.1 (P p.2))
    ∃ (a₀ : Analysis) (g1 g2 : Nat → Nat), Incr g1 ∧ Incr g2 ∧
      analyze c k1 = a₀.rename g1 ∧ analyze c k2 = a₀.rename g2 := by
  intro k1 k2
  have hsame : k1.map eraseNum = k2.map eraseNum := by
    have e : ∀ l : List (Nat × Txt), (l.map (fun p => setNum p.1 (P p.2))).map eraseNum =
        (l.map (·.2)).map (fun t => eraseNum (P t)) := by
      intro l; simp only [List.map_map]; rfl
    show ((numberFrom start 0 (xs ++ ys)).map _).map eraseNum = ((numberFrom start 0 (xs ++ b :: ys)).map _).map eraseNum
    rw [e, e, blank_line_transparent start xs ys b hb]
  have hinc : ∀ ts, Increasing ((numberFrom start 0 ts).map (fun p => setNum p.1 (P p.2))) := by
    intro ts
    unfold Increasing
    rw [List.map_map]
    exact numbers_increasing start 0 ts
  obtain ⟨a₀, g1, g2, hg1, hg2, _, _, _, _, e1, e2⟩ :=
    analysis_renumber_invariant c k1 k2 hsame (hinc _) (hinc _)
  exact ⟨a₀, g1, g2, hg1, hg2, e1, e2⟩

/-- **three_ways_same** (∀ prologues, bodies, epilogues, marker styles; both ISAs through `Agree`): for a
    marked file whose body carries the numbers `a … b`, (1) the markers and (2) `--lines a-b` (or `a:b`)
    select exactly the body, hence give the same analysis; (3) the body alone as a file (any increasing
    numbering of the same lines, e.g. 1 … n) is selected completely, and its analysis is the same up to
    the renaming of line numbers. -/
theorem three_ways_same (c : Pipeline.Cfg) (mc : Marker.Cfg) (m : MarkerConv) (hag : Agree mc m)
    (pro sm body em epi alone : List PLine)
    (hpro : Quiet m (pro.map (·.sel)) (sm.map (·.sel) ++ (body.map (·.sel) ++ (em.map (·.sel) ++ epi.map (·.sel)))))
    (hsm : StartMarker m (sm.map (·.sel)))
    (hbody : Quiet m (body.map (·.sel)) (em.map (·.sel) ++ epi.map (·.sel)))
    (hem : EndMarker m (em.map (·.sel)))
    (a b : Nat) (colon : Bool)
    (hb : ∀ l ∈ body, a ≤ l.num ∧ l.num ≤ b) (hlo : ∀ l ∈ pro ++ sm, l.num < a) (hhi : ∀ l ∈ em ++ epi, b < l.num)
    (hinc : Increasing body)
    (hsame : alone.map eraseNum = body.map eraseNum) (hainc : Increasing alone)
    (halone : Quiet m (alone.map (·.sel)) []) :
    let file := pro ++ (sm ++ (body ++ (em ++ epi)))
    selectWith mc file = some body ∧
    select (.lines (renderSpec [.range a b colon])) file = .ok body ∧
    selectWith mc alone = some alone ∧
    ∃ (a₀ : Analysis) (g1 g2 : Nat → Nat), Incr g1 ∧ Incr g2 ∧
      (∀ j (h : j < body.length), g1 j = (body[j]).num) ∧ (∀ j (h : j < alone.length), g2 j = (alone[j]).num) ∧
      analyze c body = a₀.rename g1 ∧ analyze c alone = a₀.rename g2 := by
  intro file
  refine ⟨selectWith_marked mc m hag pro sm body em epi hpro hsm hbody hem, ?_,
    selectWith_unmarked mc m hag alone halone, ?_⟩
  · rw [select_lines, lines_denotation [.range a b colon] (List.cons_ne_nil _ _)]
    show Outcome.ok (selectRange _ (pro ++ (sm ++ (body ++ (em ++ epi))))) = _
    rw [← List.append_assoc pro sm, selectRange_range a b colon (pro ++ sm) body (em ++ epi) hlo hb hhi]
  · obtain ⟨a₀, g1, g2, hg1, hg2, p1, p2, _, _, e1, e2⟩ :=
      analysis_renumber_invariant c body alone hsame.symm hinc hainc
    exact ⟨a₀, g1, g2, hg1, hg2, p1, p2, e1, e2⟩

theorem cfgOf_x86 (isa : Txt) (h : lower isa = [120, 56, 54]) : cfgOf isa = some x86Cfg := by
  unfold cfgOf
  simp only [show Gen.isaLowered = true from rfl, if_true, h, show Gen.x86IsaName = [120, 56, 54] from rfl]

theorem cfgOf_a64 (isa : Txt) (h : lower isa = [97, 97, 114, 99, 104, 54, 52]) : cfgOf isa = some a64Cfg := by
  unfold cfgOf
  have h1 : ([97, 97, 114, 99, 104, 54, 52] : Txt) ≠ [120, 56, 54] := by decide
  simp only [show Gen.isaLowered = true from rfl, if_true, h, show Gen.x86IsaName = [120, 56, 54] from rfl,
    show Gen.a64IsaName = [97, 97, 114, 99, 104, 54, 52] from rfl, h1, if_false]

/-- the whole pipeline, for a marker configuration reached through `reduce_to_section(kernel, isa)` -/
theorem three_ways_run (c : Pipeline.Cfg) (isa : Txt) (mc : Marker.Cfg) (hcfg : cfgOf isa = some mc)
    (file body alone : List PLine) (spec : Txt) (hne : body ≠ [])
    (h1 : selectWith mc file = some body) (h2 : select (.lines spec) file = .ok body)
    (h3 : selectWith mc alone = some alone) (hlen : alone.length = body.length) :
    run c (.markers isa) file = .ok (analyze c body) ∧ run c (.lines spec) file = .ok (analyze c body) ∧
    run c (.markers isa) alone = .ok (analyze c alone) := by
  have hne' : alone ≠ [] := by
    intro h; rw [h] at hlen; exact hne (List.length_eq_zero_iff.mp hlen.symm)
  exact ⟨run_ok c (select_markers_ok hcfg h1) hne, run_ok c h2 hne, run_ok c (select_markers_ok hcfg h3) hne'⟩

/-- **three_ways_same_x86**: through `run` with `--arch`'s ISA spelt in any case -/
theorem three_ways_same_x86 (c : Pipeline.Cfg) (isa : Txt) (hisa : lower isa = [120, 56, 54])
    (pro sm body em epi alone : List PLine) (hne : body ≠ [])
    (hpro : Quiet x86Marker (pro.map (·.sel)) (sm.map (·.sel) ++ (body.map (·.sel) ++ (em.map (·.sel) ++ epi.map (·.sel)))))
    (hsm : StartMarker x86Marker (sm.map (·.sel)))
    (hbody : Quiet x86Marker (body.map (·.sel)) (em.map (·.sel) ++ epi.map (·.sel)))
    (hem : EndMarker x86Marker (em.map (·.sel)))
    (a b : Nat) (colon : Bool)
    (hb : ∀ l ∈ body, a ≤ l.num ∧ l.num ≤ b) (hlo : ∀ l ∈ pro ++ sm, l.num < a) (hhi : ∀ l ∈ em ++ epi, b < l.num)
    (hinc : Increasing body)
    (hsame : alone.map eraseNum = body.map eraseNum) (hainc : Increasing alone)
    (halone : Quiet x86Marker (alone.map (·.sel)) []) :
    let file := pro ++ (sm ++ (body ++ (em ++ epi)))
    run c (.markers isa) file = .ok (analyze c body) ∧
    run c (.lines (renderSpec [.range a b colon])) file = .ok (analyze c body) ∧
    run c (.markers isa) alone = .ok (analyze c alone) ∧
    ∃ (a₀ : Analysis) (g1 g2 : Nat → Nat), Incr g1 ∧ Incr g2 ∧
      analyze c body = a₀.rename g1 ∧ analyze c alone = a₀.rename g2 := by
  intro file
  obtain ⟨s1, s2, s3, a₀, g1, g2, hg1, hg2, _, _, e1, e2⟩ :=
    three_ways_same c x86Cfg x86Marker x86_agree pro sm body em epi alone hpro hsm hbody hem a b colon hb hlo hhi
      hinc hsame hainc halone
  have hlen : alone.length = body.length := by simpa using congrArg List.length hsame
  obtain ⟨r1, r2, r3⟩ := three_ways_run c isa x86Cfg (cfgOf_x86 isa hisa) file body alone _ hne s1 s2 s3 hlen
  exact ⟨r1, r2, r3, a₀, g1, g2, hg1, hg2, e1, e2⟩

/-- **three_ways_same_a64**: the same for AArch64 -/
theorem three_ways_same_a64 (c : Pipeline.Cfg) (isa : Txt) (hisa : lower isa = [97, 97, 114, 99, 104, 54, 52])
    (pro sm body em epi alone : List PLine) (hne : body ≠ [])
    (hpro : Quiet a64Marker (pro.map (·.sel)) (sm.map (·.sel) ++ (body.map (·.sel) ++ (em.map (·.sel) ++ epi.map (·.sel)))))
    (hsm : StartMarker a64Marker (sm.map (·.sel)))
    (hbody : Quiet a64Marker (body.map (·.sel)) (em.map (·.sel) ++ epi.map (·.sel)))
    (hem : EndMarker a64Marker (em.map (·.sel)))
    (a b : Nat) (colon : Bool)
    (hb : ∀ l ∈ body, a ≤ l.num ∧ l.num ≤ b) (hlo : ∀ l ∈ pro ++ sm, l.num < a) (hhi : ∀ l ∈ em ++ epi, b < l.num)
    (hinc : Increasing body)
    (hsame : alone.map eraseNum = body.map eraseNum) (hainc : Increasing alone)
    (halone : Quiet a64Marker (alone.map (·.sel)) []) :
    let file := pro ++ (sm ++ (body ++ (em ++ epi)))
    run c (.markers isa) file = .ok (analyze c body) ∧
    run c (.lines (renderSpec [.range a b colon])) file = .ok (analyze c body) ∧
    run c (.markers isa) alone = .ok (analyze c alone) ∧
    ∃ (a₀ : Analysis) (g1 g2 : Nat → Nat), Incr g1 ∧ Incr g2 ∧
      analyze c body = a₀.rename g1 ∧ analyze c alone = a₀.rename g2 := by
  intro file
  obtain ⟨s1, s2, s3, a₀, g1, g2, hg1, hg2, _, _, e1, e2⟩ :=
    three_ways_same c a64Cfg a64Marker a64_agree pro sm body em epi alone hpro hsm hbody hem a b colon hb hlo hhi
      hinc hsame hainc halone
  have hlen : alone.length = body.length := by simpa using congrArg List.length hsame
  obtain ⟨r1, r2, r3⟩ := three_ways_run c isa a64Cfg (cfgOf_a64 isa hisa) file body alone _ hne s1 s2 s3 hlen
  exact ⟨r1, r2, r3, a₀, g1, g2, hg1, hg2, e1, e2⟩

/-! ### non-vacuity: a concrete kernel with two dependency edges, one loop-carried cycle and noise lines -/

namespace Ex
def rax : Txt := [114, 97, 120]
def rbx : Txt := [114, 98, 120]
def rcx : Txt := [114, 99, 120]
def addq : Txt := [97, 100, 100, 113]
/-- `addq %src, %dst` with the data `add_semantics` would store (two ports) -/
def ins (n : Nat) (src dst : Txt) (lat tp : Rat) (pr : List Rat) : PLine :=
  { sel := ⟨n, some addq, none, none, [.reg src, .reg dst]⟩,
    sem := { src := [.reg { name := src }], dst := [.reg { name := dst }], lat := lat, latWoLoad := none,
             tp := tp, pressure := pr, used := pr.map (fun x => x != 0) } }
/-- a comment line; whatever stands in `sem` is not looked at -/
def cmt (n : Nat) : PLine :=
  { sel := ⟨n, none, some [104, 105], none, []⟩, sem := { lat := 9, tp := 3, pressure := [7, 7] } }
def lbl (n : Nat) : PLine := { sel := ⟨n, none, none, none, []⟩ }
def dir (n : Nat) : PLine := { sel := C11.Ex.dir n C11.Ex.p2align [[52]] }
def cfg : Pipeline.Cfg := { isa := .x86, nports := 2 }
def cfgF : Pipeline.Cfg := { isa := .x86, nports := 2, flagDeps := true, par := { stlf := 1, pIdx := 2 }, floor := 7 }

/-- rbx → rax → rcx → rbx: edges 3→4 (4 cy), 4→5 (1 cy), and the cycle 3-4-5 closed by 5→3' (2 cy) -/
def clean : List PLine := [ins 3 rbx rax 4 1 [1, 0], ins 4 rax rcx 1 (1/2) [1/2, 1/2], ins 5 rcx rbx 2 1 [0, 1]]
/-- the same instructions with comment / label / directive lines around and between them, one
    number beyond the `floor` 1000 -/
def noisy : List PLine := [cmt 10, ins 11 rbx rax 4 1 [1, 0], lbl 12, dir 13, ins 14 rax rcx 1 (1/2) [1/2, 1/2],
  ins 1500 rcx rbx 2 1 [0, 1], cmt 1501]

structure View where
  rows : List (Nat × Bool × Rat × Rat × List Rat)
  edges : List (Nat × Bool × Nat × Bool × Rat)
  cpTotal : Rat
  cpMarks : List (Nat × Rat)
  lcd : List (List Nat × List Rat × Rat)
  lcdDict : List (List Nat × Rat × List (Nat × Rat))
  lcdFigure : Rat
  lcdMarks : List (Nat × Rat)
  colSums : List Rat
  deriving DecidableEq

def view (a : Analysis) : View :=
  ⟨a.rows.map (fun r => (r.line, r.instr, r.lat, r.tp, r.pressure)),
   a.edges.map (fun e => (e.src.line, e.src.load, e.dst.line, e.dst.load, e.w)),
   a.cpTotal, a.cpMarks, a.lcd.map (fun e => (e.lines, e.lats, e.latency)), a.lcdDict, a.lcdFigure, a.lcdMarks,
   a.colSums⟩

-- the model evaluated directly: edges, CP 7 over all three, one cycle of latency 7, column sums
example : view (analyze cfg clean) =
    ⟨[(3, true, 4, 1, [1, 0]), (4, true, 1, 1/2, [1/2, 1/2]), (5, true, 2, 1, [0, 1])],
     [(3, false, 4, false, 4), (4, false, 5, false, 1)], 7, [(3, 4), (4, 1), (5, 2)],
     [([3, 4, 5], [4, 1, 2], 7)], [([3, 4, 5], 7, [(3, 4), (4, 1), (5, 2)])], 7, [(3, 4), (4, 1), (5, 2)],
     [3/2, 3/2]⟩ := by decide +kernel

-- with the noise lines: zeros on them, everything else the same under 3 ↦ 11, 4 ↦ 14, 5 ↦ 1500
example : view (analyze cfg noisy) =
    ⟨[(10, false, 0, 0, [0, 0]), (11, true, 4, 1, [1, 0]), (12, false, 0, 0, [0, 0]), (13, false, 0, 0, [0, 0]),
      (14, true, 1, 1/2, [1/2, 1/2]), (1500, true, 2, 1, [0, 1]), (1501, false, 0, 0, [0, 0])],
     [(11, false, 14, false, 4), (14, false, 1500, false, 1)], 7, [(11, 4), (14, 1), (1500, 2)],
     [([11, 14, 1500], [4, 1, 2], 7)], [([11, 14, 1500], 7, [(11, 4), (14, 1), (1500, 2)])], 7,
     [(11, 4), (14, 1), (1500, 2)], [3/2, 3/2]⟩ := by decide +kernel

example : view (analyze cfg noisy).instrView =
    view ((analyze cfg clean).rename (fun x => if x = 3 then 11 else if x = 4 then 14 else 1500)) := by
  decide +kernel

-- the hypotheses of the theorems hold of these kernels (also with flag dependencies, other model
-- parameters and a small floor), and the instances say what the evaluation shows
example : Increasing clean ∧ Increasing noisy := by decide
example : (clean.filter (·.isInstr)).map eraseNum = (noisy.filter (·.isInstr)).map eraseNum := rfl

example := analysis_renumber_invariant cfg clean (noisy.filter (·.isInstr)) rfl (by decide) (by decide)
example := analysis_renumber_invariant cfgF clean (noisy.filter (·.isInstr)) rfl (by decide) (by decide)
example := noise_transparent cfg clean noisy (by decide) (by decide) rfl
example := noise_transparent cfgF clean noisy (by decide) (by decide) rfl
example : SameOnInstr 2 (analyze cfg noisy) (analyze cfg (noisy.filter (·.isInstr))) := noise_drop cfg noisy (by decide)
example : 0 < (analyze cfg (noisy.filter (·.isInstr))).cpTotal := by decide +kernel

/-! three ways: the marked x86 file of `Props.C11.Ex` (decoys in the prologue, byte-style start marker,
    comment-style end marker, markers again in the epilogue) around a body with noise lines -/
def wrap (l : Marker.Line) : PLine := { sel := l }
def pro : List PLine := C11.Ex.pro.map wrap
def sm : List PLine := C11.Ex.sm.map wrap
def em : List PLine := C11.Ex.emC.map wrap
def epi : List PLine := C11.Ex.epi.map wrap
def body : List PLine := [ins 13 rbx rax 4 1 [1, 0], cmt 14, ins 15 rax rcx 1 (1/2) [1/2, 1/2], ins 16 rcx rbx 2 1 [0, 1]]
def alone : List PLine := [ins 1 rbx rax 4 1 [1, 0], cmt 2, ins 3 rax rcx 1 (1/2) [1/2, 1/2], ins 4 rcx rbx 2 1 [0, 1]]

example := three_ways_same_x86 cfg C11.Ex.isaX86 (by decide) pro sm body em epi alone (by simp [body])
  (quietB_sound _ _ _ (by decide +kernel))
  (.bytes _ _ (markerMovB_sound _ _ _ (by decide +kernel)) (by simp) (by decide +kernel)
    (fun l hl => plainB_sound l (by revert l; decide +kernel)))
  (quietB_sound _ _ _ (by decide +kernel)) (.comment _ rfl rfl)
  13 16 false (by decide) (by decide) (by decide) (by decide) rfl (by decide) (quietB_sound _ _ _ (by decide +kernel))

-- and the pipeline evaluated directly on the three inputs (`rfl` where both sides are the analysis of the same
-- lines once the selection is unfolded)
example : (match run cfg (.markers C11.Ex.isaX86) (pro ++ (sm ++ (body ++ (em ++ epi)))) with
    | .ok a => some (view a) | _ => none) = some (view (analyze cfg body)) := rfl
example : (match run cfg (.lines [49, 51, 45, 49, 54]) (pro ++ (sm ++ (body ++ (em ++ epi)))) with   -- "13-16"
    | .ok a => some (view a) | _ => none) = some (view (analyze cfg body)) := rfl
example : (match run cfg (.markers C11.Ex.isaX86) alone with
    | .ok a => some (view a) | _ => none) =
      some (view ((analyze cfg body).rename (fun x => x - 12))) := by decide +kernel
-- outcomes other than an analysis
example : (match run cfg (.lines [52, 48]) alone with | .emptyKernel => true | _ => false) = true := by decide +kernel
example : (match run cfg (.lines [52, 44, 44]) alone with | .badLines => true | _ => false) = true := by decide +kernel
example : (match run cfg (.markers [109, 105, 112, 115]) alone with | .badIsa => true | _ => false) = true := by
  decide +kernel
end Ex

/-- **cp_zero_quirk**: the positivity hypothesis on the critical-path marks is needed.  In a kernel whose
    chains all have length 0 the first maximum of `chain_length` is the first LINE, instruction or
    not: here the comment line 1 is reported as the critical path instead of instruction 2. -/
theorem cp_zero_quirk :
    let k := [Ex.cmt 1, Ex.ins 2 Ex.rbx Ex.rax 0 1 [1, 0], Ex.ins 3 Ex.rax Ex.rcx 0 1 [1, 0]]
    (analyze Ex.cfg k).cpMarks = [(1, 0)] ∧ (analyze Ex.cfg (k.filter (·.isInstr))).cpMarks = [(2, 0)] ∧
    (analyze Ex.cfg k).cpTotal = (analyze Ex.cfg (k.filter (·.isInstr))).cpTotal := by
  decide +kernel

end OsacaVerif.Props.C11Pipeline
