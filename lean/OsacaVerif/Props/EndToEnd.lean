import OsacaVerif.Lemmas.EndToEnd
import OsacaVerif.Lemmas.EndToEndReport
import OsacaVerif.Lemmas.EndToEndGlue
import OsacaVerif.Props.C08
import OsacaVerif.Props.C11Pipeline
import OsacaVerif.Props.C13
import OsacaVerif.Gen.IsaDb_x86
/-
  End to end, both ISAs: theorems about `EndToEnd.analyse isa` (`analyseX86 = analyse .x86`, `analyseA64 = analyse
  .a64`), the function from FILE TEXT to the analysis and its report, composed from the stage models
  (`Model/EndToEnd.lean`, glue in `Model/Glue.lean`).  Every `e2e_*` statement is ISA-generic (`isa : Operand.Isa` is
  a parameter); the AArch64 instances with their non-vacuity examples are in `Props/EndToEndA64.lean`.

  * `glue_key_identifies`, `glue_flags_agree`, `glue_operands_x86` / `_a64` — the conversions between the stage models
    keep what the stages compare: operand identity under `==`, the load / store flags, the matcher's operands;
  * `e2e_factors`, `e2e_factors_line`, `e2e_factors_ok` — `analyse isa` IS the composition of the stage
    models: parser, operand roles, lookup / composition / uniform pressure, register changes, selection,
    graph, critical path, LCD, column sums, report;
  * `e2e_per_line_local`, `e2e_per_line_local_files`, `e2e_rows_local` — the per-instruction data of a line
    depend on the line's text and the model only;
  * `e2e_unknown_isolated` — replacing the mnemonic of one line by one the model has no entry for turns
    that line into an unknown one and changes nothing about any other line;
  * `e2e_noise_transparent_text` — inserting a comment / label / directive line into the file text changes
    the analysis only by the renaming of line numbers;
  * `e2e_report_wf`, `e2e_report_roundtrip` — the record the pipeline hands to the report model is well-formed, so the
    report it prints reads back to the view of the analysis.

  For ALL files, models, ISA databases and options.
-/
namespace OsacaVerif.Props.EndToEnd
open OsacaVerif OsacaVerif.Text OsacaVerif.EndToEnd OsacaVerif.ParseX86 OsacaVerif.Pipeline
open OsacaVerif.Spec.X86R (joinLines)
open OsacaVerif.Props.C11Pipeline (eraseNum SameOnInstr)

/-! ### 0. the glue conversions are faithful where the stage models meet -/

/-- the key `Glue.keyOf` gives an operand identifies it: `Isa.adjEq` (the zero-idiom test
    `operands[1:] == operands[:-1]`) and `DG.isMemstore` compare operands exactly as `==` does —
    an identifier operand (no `__eq__`) equals only itself -/
theorem glue_key_identifies (i j : Nat) (a b : X86.Operand) (h : Glue.keyOf i a = Glue.keyOf j b) :
    a = b ∨ (∃ n n', a = .ident n ∧ b = .ident n' ∧ i = j) := Glue.keyOf_eq i j a b h

/-- `HAS_LD` / `HAS_ST` as the composition model recomputes them from the converted semantic operands are
    the flags the roles model reports; both models substitute the same operands by the register wildcard -/
theorem glue_flags_agree (isa : Operand.Isa) (m : Model) (f : Glue.Form) :
    Compose.hasLd (stagesOf isa m f).ins = Isa.hasLoad (stagesOf isa m f).roles.sem ∧
    Compose.hasSt (stagesOf isa m f).ins = Isa.hasStore (stagesOf isa m f).roles.sem ∧
    (stagesOf isa m f).ins.operands = f.operands.map (·.p) ∧
    Compose.substituteMem (stagesOf isa m f).ins.operands = Isa.substituteMem (f.operands.map (·.p)) := by
  have h := Glue.composeIns_flags f.mnemonic f.operands (Isa.assignSrcDst isa m.isaDb f.mnemonic f.operands).sem
  have ho : (stagesOf isa m f).ins.operands = f.operands.map (·.p) := rfl
  refine ⟨h.1, h.2, ho, ?_⟩
  rw [ho]; exact Glue.substituteMem_agree _

/-- the matcher's view of the operands of a parsed line is the operand-by-operand conversion
    (`RegisterOperand`, `ImmediateOperand`, `MemoryOperand`, … as `get_instruction` reads them) -/
theorem glue_operands_x86 (f : X86.Form) : (Glue.formX86 f).operands.map (·.p) = f.operands.map Glue.poperandOf :=
  Glue.opndsOf_p f.operands

theorem glue_operands_a64 (mn : Txt) (ops : List ParseA64.Operand) (c : Option Txt) :
    (Glue.formA64 (.instr mn ops c)).operands.map (·.p) = ops.map Glue.poperandA64 :=
  Glue.opndsA64_p ops

/-! ### 1. `analyse isa` is the composition of the stage models -/

/-- **e2e_factors** (file level): parse the file (the Python raises at the first line `parse_line`
    rejects), compute the per-line data of every parsed line, then select, analyse and render. -/
theorem e2e_factors (isa : Operand.Isa) (m : Model) (o : Opts) (file : Txt) :
    analyse isa m o file =
      match collect (parseFileOf isa file) with
      | .error (n, e) => .parseError n e
      | .ok fs => assemble isa m o (fs.map fun x => lineOf isa m x.1 x.2.1 x.2.2) := rfl

/-- **e2e_factors** (line level): the per-line data are `Isa.assignSrcDst` (roles), then
    `Compose.assignTpLt` (lookup with fall-backs, load/store composition, uniform pressure) on the
    instruction with those roles, and `Isa.regChanges` (both variants) — through the glue conversions,
    nothing else. -/
theorem e2e_factors_line (isa : Operand.Isa) (m : Model) (num : Nat) (text : Txt) (f : Glue.Form) :
    lineOf isa m num text f =
      (let ops := f.operands
       let roles := Isa.assignSrcDst isa m.isaDb f.mnemonic ops
       match Compose.assignTpLt m.mm (Glue.composeIns f.mnemonic ops roles.sem),
             Isa.regChanges isa m.isaDb f.mnemonic ops roles.sem false,
             Isa.regChanges isa m.isaDb f.mnemonic ops roles.sem true with
       | .ok t, .ok ch, .ok chp =>
         { pl := { sel := f.sel num
                   sem := { src := roles.sem.src.map Isa.toDG, dst := roles.sem.dst.map Isa.toDG,
                            srcDst := roles.sem.srcDst.map Isa.toDG, lat := t.lat, latWoLoad := some t.latWoLoad,
                            hasLd := roles.hasLd, isLd := t.flags.contains Gen.flagLD,
                            changes := ch.map fun e => (e.1, Isa.toChange e.2),
                            changesPost := chp.map fun e => (e.1, Isa.toChange e.2),
                            tp := t.tp, pressure := t.pressure, used := Glue.usedMask m.mm.ports t.uops,
                            flags := Glue.flagsOf roles t }
                   text := text } }
       | .error e, _, _ => { pl := { sel := f.sel num, text := text }, err := some (.tplt e) }
       | .ok _, .error e, _ => { pl := { sel := f.sel num, text := text }, err := some (.changes e) }
       | .ok _, .ok _, .error e => { pl := { sel := f.sel num, text := text }, err := some (.changes e) }) := by
  simp only [lineOf, semOfStages, stagesOf]
  cases Compose.assignTpLt m.mm _ with
  | error e => rfl
  | ok t =>
    cases Isa.regChanges isa m.isaDb f.mnemonic _ _ false with
    | error e => rfl
    | ok ch =>
      cases Isa.regChanges isa m.isaDb f.mnemonic _ _ true with
      | error e => rfl
      | ok chp => rfl

/-- **e2e_factors** (analysis level): an `ok` outcome is `Pipeline.select`, then `Pipeline.analyze`
    (= what `Pipeline.run` returns), then `Pipeline.toReport`, then `Report.fullAnalysis` with the
    warning flags of `osaca.inspect` — on the lines of the file with their per-line data. -/
theorem e2e_factors_ok (isa : Operand.Isa) (m : Model) (o : Opts) (file : Txt) (r : Result) (h : analyse isa m o file = .ok r) :
    ∃ fs k, collect (parseFileOf isa file) = .ok fs ∧
      r.parsed = (linesOf isa m fs).map (·.pl) ∧
      select o.mode r.parsed = .ok k ∧ k ≠ [] ∧ r.kernel = k ∧
      Pipeline.run (cfgOf isa m o) o.mode r.parsed = .ok r.analysis ∧
      r.analysis = analyze (cfgOf isa m o) k ∧
      r.report = toReport o.repr m.mm.ports o.ignoreUnknown m.mm.ports.length k r.analysis ∧
      r.text = Report.fullAnalysis o.version o.file o.arch o.stamp (Report.archWarningFlag o.archGiven)
        (Report.lengthWarningFlag (linesGiven o.mode) k.length r.parsed.length) false r.report := by
  obtain ⟨fs, hc, A⟩ := analyse_collect isa m o file r h
  refine ⟨fs, r.kernel, hc, A.parsed, A.select, A.ne, rfl, ?_, A.analysis, A.report, A.text⟩
  rw [A.analysis]
  unfold Pipeline.run
  rw [A.select]
  cases hk : r.kernel with
  | nil => exact absurd hk A.ne
  | cons x xs => rfl

/-! ### 2. per-line locality -/

/-- **e2e_per_line_local** (∀ models, ∀ files that parse): the lines of the file with their per-instruction
    data (roles → semantic operands, matched entry → throughput, latency, latency without load, uniform
    pressure, flags, register changes) are the numbered non-blank texts of the file sent, one by one,
    through `lineOfText isa m` — a function of the MODEL and the line's TEXT that only stores the number. -/
theorem e2e_per_line_local (isa : Operand.Isa) (m : Model) (file : Txt) (fs : List (Nat × Txt × Glue.Form))
    (h : collect (parseFileOf isa file) = .ok fs) :
    linesOf isa m fs = (numbered 0 0 (splitLines file)).map (fun p => lineOfText isa m p.1 p.2) ∧
    ∀ n n' t, lineOfText isa m n t = setLineNum n (lineOfText isa m n' t) :=
  ⟨linesOf_file isa m file fs h, lineOfText_num isa m⟩

theorem textLines_mem (isa : Operand.Isa) (m : Model) (ls : List Txt) (p : PLine) (hp : p ∈ (textLines isa m ls).map (·.pl)) :
    ∃ t, (p.num, t) ∈ numbered 0 0 ls ∧ p = (lineOfText isa m p.num t).pl := by
  obtain ⟨l, hl, rfl⟩ := List.mem_map.mp hp
  obtain ⟨q, hq, rfl⟩ := List.mem_map.mp hl
  refine ⟨q.2, ?_, ?_⟩ <;> simp [hq]

theorem lineOfText_text (isa : Operand.Isa) (m : Model) (n : Nat) (t : Txt) : (lineOfText isa m n t).pl.text = t :=
  lineOfText_pl_text isa m n t

theorem lineOfText_eraseNum (isa : Operand.Isa) (m : Model) (n n' : Nat) (t : Txt) :
    eraseNum (lineOfText isa m n t).pl = eraseNum (lineOfText isa m n' t).pl := by
  rw [lineOfText_num isa m n n' t]; rfl

/-- **e2e_per_line_local** (two files): a line with the same text has the same per-instruction data
    whatever else the two files contain, whatever the options — only the line number differs
    (history independence at file level, C18; "does not change any other instruction", C08). -/
theorem e2e_per_line_local_files (isa : Operand.Isa) (m : Model) (o1 o2 : Opts) (file1 file2 : Txt) (r1 r2 : Result)
    (h1 : analyse isa m o1 file1 = .ok r1) (h2 : analyse isa m o2 file2 = .ok r2)
    (p1 p2 : PLine) (hp1 : p1 ∈ r1.parsed) (hp2 : p2 ∈ r2.parsed) (ht : p1.text = p2.text) :
    eraseNum p1 = eraseNum p2 := by
  rw [(analyse_analysed isa m o1 file1 r1 h1).parsed] at hp1
  rw [(analyse_analysed isa m o2 file2 r2 h2).parsed] at hp2
  obtain ⟨t1, _, e1⟩ := textLines_mem isa m _ p1 hp1
  obtain ⟨t2, _, e2⟩ := textLines_mem isa m _ p2 hp2
  have : t1 = t2 := by rw [← lineOfText_text isa m p1.num t1, ← e1, ht, e2, lineOfText_text]
  subst this
  rw [e1, e2]
  exact lineOfText_eraseNum isa m _ _ t1

/-- the numbers the analysis shows for a line, computed from its text alone -/
def rowOfText (isa : Operand.Isa) (m : Model) (t : Txt) : Row := rowOf m.mm.ports.length (lineOfText isa m 0 t).pl

theorem rowOf_lineOfText (isa : Operand.Isa) (m : Model) (n : Nat) (t : Txt) :
    rowOf m.mm.ports.length (lineOfText isa m n t).pl = { rowOfText isa m t with line := n } := by
  unfold rowOfText
  rw [lineOfText_num isa m n 0 t]
  rfl

/-- **e2e_rows_local**: every row of the analysis (line number, latency, latency without load,
    throughput, uniform pressure) is `rowOfText` of the text standing on that line of the file — the
    other lines of the file, the selection and the options do not enter. -/
theorem e2e_rows_local (isa : Operand.Isa) (m : Model) (o : Opts) (file : Txt) (r : Result) (h : analyse isa m o file = .ok r) :
    r.analysis.rows = r.kernel.map (rowOf m.mm.ports.length) ∧ r.kernel.Sublist r.parsed ∧
    ∀ row ∈ r.analysis.rows, ∃ t, (row.line, t) ∈ numbered 0 0 (splitLines file) ∧
      row = { rowOfText isa m t with line := row.line } := by
  have A := analyse_analysed isa m o file r h
  refine ⟨A.rows, A.parsed ▸ A.sublist, ?_⟩
  intro row hrow
  rw [A.rows] at hrow
  obtain ⟨p, hp, rfl⟩ := List.mem_map.mp hrow
  obtain ⟨t, ht, e⟩ := textLines_mem isa m _ p (A.sublist.subset hp)
  refine ⟨t, ht, ?_⟩
  show rowOf m.mm.ports.length p = { rowOfText isa m t with line := p.num }
  conv_lhs => rw [e]
  exact rowOf_lineOfText isa m p.num t

/-! ### 3. an unknown instruction stays isolated -/

/-- the per-line data of a line whose mnemonic has no entry in the model, neither directly nor through
    the fall-back spelling, for whatever operands (so neither for the register form): the unknown path
    of `assign_tp_lt` (`Props.C08.unknown_spec`) -/
theorem lineOfText_unknown (isa : Operand.Isa) (m : Model) (n : Nat) (t : Txt) (f : Glue.Form) (mn : Txt)
    (hp : parseLineOf isa t = .ok f) (hmn : f.mnemonic = some mn)
    (hno : ∀ ops, Match.lookupWithFallbacks m.mm.isa m.mm.db mn ops = none)
    (herr : (lineOfText isa m n t).err = none) :
    (lineOfText isa m n t).pl.isInstr = true ∧
    (lineOfText isa m n t).pl.sem.tp = 0 ∧ (lineOfText isa m n t).pl.sem.lat = 0 ∧
    (lineOfText isa m n t).pl.sem.latWoLoad = some 0 ∧
    (lineOfText isa m n t).pl.sem.pressure = Ports.zeros m.mm.ports.length ∧
    (lineOfText isa m n t).pl.sem.used = m.mm.ports.map (fun _ => false) ∧
    Gen.flagTpUnknown ∈ (lineOfText isa m n t).pl.sem.flags ∧ Gen.flagLtUnknown ∈ (lineOfText isa m n t).pl.sem.flags := by
  obtain ⟨s, tp, e, ht, h1, h2, h3, h4, h5, h6⟩ := lineOfText_ok_inv hp m n herr
  have hu : (stagesOf isa m f).tplt = .ok (Compose.unknown m.mm) :=
    (Props.C08.unknown_spec m.mm _ mn (by simp [Glue.composeIns, hmn]) (hno _) (Or.inr (hno _))).1
  cases ht.symm.trans hu
  rw [e]
  refine ⟨by simp [PLine.isInstr, Glue.Form.sel, hmn], h1, h2, h3, h4, ?_, ?_, ?_⟩
  · rw [h5]; simp [Compose.unknown, Glue.usedMask]
  · rw [h6]; simp [Glue.flagsOf, Compose.unknown]
  · rw [h6]; simp [Glue.flagsOf, Compose.unknown]

theorem textLines_replace (isa : Operand.Isa) (m : Model) (xs ys : List Txt) (l : Txt) (hl : isBlank l = false) :
    textLines isa m (xs ++ l :: ys) =
      (numbered 0 0 xs).map (fun p => lineOfText isa m p.1 p.2) ++ lineOfText isa m (xs.length + 1) l ::
        (numbered 0 (xs.length + 1) ys).map (fun p => lineOfText isa m p.1 p.2) := by
  simp [textLines, numbered_replace xs ys l hl]

theorem front_nums (isa : Operand.Isa) (m : Model) (xs : List Txt) :
    ∀ q ∈ (numbered 0 0 xs).map (fun p => lineOfText isa m p.1 p.2), q.pl.num ≤ xs.length := by
  intro q hq
  obtain ⟨p, hp, rfl⟩ := List.mem_map.mp hq
  rw [lineOfText_pl_num]
  exact (numbered_mem 0 0 xs p hp).2.1.trans_eq (by omega)

theorem back_nums (isa : Operand.Isa) (m : Model) (i : Nat) (ys : List Txt) :
    ∀ q ∈ (numbered 0 i ys).map (fun p => lineOfText isa m p.1 p.2), i + 1 ≤ q.pl.num := by
  intro q hq
  obtain ⟨p, hp, rfl⟩ := List.mem_map.mp hq
  rw [lineOfText_pl_num]
  exact (numbered_mem 0 i ys p hp).1

theorem firstErr_none (lines : List Line) (k : List PLine) (h : firstErr lines k = none)
    (l : Line) (hl : l ∈ lines) (p : PLine) (hp : p ∈ k) (e : p.num = l.pl.num) : l.err = none :=
  err_none_of_firstErr_none lines k h l hl p hp e

/-- **e2e_unknown_isolated** (C08's last clause at FILE level; ∀ models, files, options, positions):
    replace the instruction line `l` of a file by a line `l'` whose mnemonic `mn'` has no entry in the
    model — neither directly nor through the documented fall-back spelling, for whatever operands.  If both
    files are analysed then
    (a) every OTHER line of the file carries the same per-instruction data in both runs (same roles,
        throughput, latency, pressure, flags — the same `PLine`, number included);
    (b) the replaced line, where it is analysed, is an instruction with throughput 0, latency 0, zero
        pressure on every port, and the report row carries `tp_unknown` and `lt_unknown`;
    (c) every other row of the analysis (latency, latency without load, throughput, pressure) is
        unchanged. -/
theorem e2e_unknown_isolated (isa : Operand.Isa) (m : Model) (o : Opts) (xs ys : List Txt) (l l' : Txt)
    (hnl : ∀ t ∈ xs ++ l :: ys, 10 ∉ t) (hnl' : 10 ∉ l')
    (hb : isBlank l = false) (hb' : isBlank l' = false)
    (f' : Glue.Form) (mn' : Txt) (hp' : parseLineOf isa l' = .ok f') (hmn : f'.mnemonic = some mn')
    (hno : ∀ ops, Match.lookupWithFallbacks m.mm.isa m.mm.db mn' ops = none)
    (r1 r2 : Result) (h1 : analyse isa m o (joinLines (xs ++ l :: ys)) = .ok r1)
    (h2 : analyse isa m o (joinLines (xs ++ l' :: ys)) = .ok r2) :
    (∀ p, p.num ≠ xs.length + 1 → (p ∈ r1.parsed ↔ p ∈ r2.parsed)) ∧
    (∀ row ∈ r2.analysis.rows, row.line = xs.length + 1 →
      row.instr = true ∧ row.tp = 0 ∧ row.lat = 0 ∧ row.latWoLoad = some 0 ∧
      row.pressure = Ports.zeros m.mm.ports.length) ∧
    (∀ rr ∈ r2.report.rows, rr.line = xs.length + 1 →
      rr.hasMnemonic = true ∧ rr.press = Ports.zeros m.mm.ports.length ∧
      Gen.flagTpUnknown ∈ rr.flags ∧ Gen.flagLtUnknown ∈ rr.flags) ∧
    (∀ row1 ∈ r1.analysis.rows, ∀ row2 ∈ r2.analysis.rows, row1.line = row2.line →
      row1.line ≠ xs.length + 1 → row1 = row2) := by
  have A1 := analyse_lines_analysed isa m o _ hnl r1 h1
  have A2 := analyse_lines_analysed isa m o _ (forall_mem_replace hnl hnl') r2 h2
  have inc2 := textLines_increasing isa m (xs ++ l' :: ys)
  have t1 := textLines_replace isa m xs ys l hb
  have t2 := textLines_replace isa m xs ys l' hb'
  -- (a): the lines of the two files other than the replaced one
  have ha : ∀ p : PLine, p.num ≠ xs.length + 1 →
      (p ∈ (textLines isa m (xs ++ l :: ys)).map (·.pl) ↔ p ∈ (textLines isa m (xs ++ l' :: ys)).map (·.pl)) := by
    intro p hp
    have ne : ∀ t, ¬ p = (lineOfText isa m (xs.length + 1) t).pl := fun t e => hp (e ▸ lineOfText_pl_num isa m _ t)
    rw [t1, t2]
    simp only [List.map_append, List.map_cons, List.mem_append, List.mem_cons, ne, false_or]
  -- (b): a kernel line of the second run with the number of the replaced line is the unknown line
  have hX : ∀ p ∈ r2.kernel, p.num = xs.length + 1 →
      p.isInstr = true ∧ p.sem.tp = 0 ∧ p.sem.lat = 0 ∧ p.sem.latWoLoad = some 0 ∧
      p.sem.pressure = Ports.zeros m.mm.ports.length ∧ Gen.flagTpUnknown ∈ p.sem.flags ∧ Gen.flagLtUnknown ∈ p.sem.flags := by
    intro p hp hn
    obtain ⟨x, hx, rfl, herr⟩ := A2.kernel_line p hp
    have hmem : lineOfText isa m (xs.length + 1) l' ∈ textLines isa m (xs ++ l' :: ys) :=
      t2 ▸ List.mem_append_right _ List.mem_cons_self
    have e := increasing_unique _ inc2 _ _ (List.mem_map_of_mem hx) (List.mem_map_of_mem hmem)
      (hn.trans (lineOfText_pl_num isa m _ l').symm)
    obtain ⟨u1, u2, u3, u4, u5, _, u7, u8⟩ :=
      lineOfText_unknown isa m _ l' f' mn' hp' hmn hno (err_none_of_firstErr_none _ _ A2.noErr _ hmem _ hp (e ▸ rfl))
    rw [e]
    exact ⟨u1, u2, u3, u4, u5, u7, u8⟩
  refine ⟨?_, ?_, ?_, ?_⟩
  · intro p hp
    rw [A1.parsed, A2.parsed]
    exact ha p hp
  · intro row hrow hline
    rw [A2.rows] at hrow
    obtain ⟨p, hp, rfl⟩ := List.mem_map.mp hrow
    obtain ⟨u1, u2, u3, u4, u5, _, _⟩ := hX p hp hline
    simp only [rowOf, semOf, u1, if_true]
    exact ⟨trivial, u2, u3, u4, u5⟩
  · intro rr hrr hline
    rw [A2.report] at hrr
    obtain ⟨p, hp, rfl⟩ := List.mem_map.mp hrr
    obtain ⟨u1, _, _, _, u5, u7, u8⟩ := hX p hp hline
    simp only [semOf, u1, if_true]
    exact ⟨trivial, u5, u7, u8⟩
  · intro row1 hrow1 row2 hrow2 hline hne
    rw [A1.rows] at hrow1
    rw [A2.rows] at hrow2
    obtain ⟨p1, hp1, rfl⟩ := List.mem_map.mp hrow1
    obtain ⟨p2, hp2, rfl⟩ := List.mem_map.mp hrow2
    rw [increasing_unique _ inc2 p1 p2 ((ha p1 hne).mp (A1.sublist.subset hp1)) (A2.sublist.subset hp2) hline]

/-- with `--lines` the same lines are selected in both runs, whatever non-blank line replaces the non-blank line `l`:
    the rows of the two analyses carry the same line numbers, in the same order -/
theorem e2e_unknown_isolated_lines (isa : Operand.Isa) (m : Model) (o : Opts) (spec : Txt) (ho : o.mode = .lines spec)
    (xs ys : List Txt) (l l' : Txt) (hnl : ∀ t ∈ xs ++ l :: ys, 10 ∉ t) (hnl' : 10 ∉ l')
    (hb : isBlank l = false) (hb' : isBlank l' = false)
    (r1 r2 : Result) (h1 : analyse isa m o (joinLines (xs ++ l :: ys)) = .ok r1)
    (h2 : analyse isa m o (joinLines (xs ++ l' :: ys)) = .ok r2) :
    r1.analysis.rows.map (·.line) = r2.analysis.rows.map (·.line) := by
  have A1 := analyse_lines_analysed isa m o _ hnl r1 h1
  have A2 := analyse_lines_analysed isa m o _ (forall_mem_replace hnl hnl') r2 h2
  obtain ⟨ra, hra, e1⟩ := select_lines_eq spec _ _ (ho ▸ A1.select)
  obtain ⟨rb, hrb, e2⟩ := select_lines_eq spec _ _ (ho ▸ A2.select)
  cases hra.symm.trans hrb
  have hn : ((textLines isa m (xs ++ l :: ys)).map (·.pl)).map (·.num) = ((textLines isa m (xs ++ l' :: ys)).map (·.pl)).map (·.num) := by
    simp only [List.map_map]
    have a := textLines_nums isa m (xs ++ l :: ys)
    have b := textLines_nums isa m (xs ++ l' :: ys)
    simp only [Function.comp_def] at a b ⊢
    rw [a, b, numbered_replace xs ys l hb, numbered_replace xs ys l' hb']
    simp
  have key : ∀ L : List PLine, (L.filter fun x => ra.contains (x.num : Int)).map (·.num) =
      (L.map (·.num)).filter (fun (n : Nat) => ra.contains (n : Int)) := by
    intro L; rw [List.filter_map]; rfl
  rw [A1.rows, A2.rows, List.map_map, List.map_map]
  show r1.kernel.map (·.num) = r2.kernel.map (·.num)
  rw [e1, e2, A1.parsed, A2.parsed, key, key, hn]

/-! ### 4. comment, label and directive lines are transparent — at the level of the file TEXT -/

/-- a non-blank line that is not an instruction: `parse_line` accepts it and finds no mnemonic
    (a comment-only line `# …` / `// …`, a label line, a directive line) -/
def IsNoise (isa : Operand.Isa) (n : Txt) : Prop := isBlank n = false ∧ ∃ f, parseLineOf isa n = .ok f ∧ f.mnemonic = none

/-- where the old line `x` stands after a line has been inserted behind the first `pos` lines -/
def shiftAt (pos x : Nat) : Nat := if x ≤ pos then x else x + 1

theorem lineOfText_noise (isa : Operand.Isa) (m : Model) (num : Nat) (n : Txt) (hn : IsNoise isa n) : (lineOfText isa m num n).pl.isInstr = false := by
  obtain ⟨_, f, hp, hm⟩ := hn
  unfold lineOfText
  simp only [hp, lineOf]
  cases semOfStages m (stagesOf isa m f) <;> simp [PLine.isInstr, Glue.Form.sel, hm]

theorem textLines_insert (isa : Operand.Isa) (m : Model) (xs ys : List Txt) (n : Txt) (hb : isBlank n = false) :
    textLines isa m (xs ++ ys) =
      (numbered 0 0 xs).map (fun p => lineOfText isa m p.1 p.2) ++
        (numbered 0 xs.length ys).map (fun p => lineOfText isa m p.1 p.2) ∧
    textLines isa m (xs ++ n :: ys) =
      (numbered 0 0 xs).map (fun p => lineOfText isa m p.1 p.2) ++ lineOfText isa m (xs.length + 1) n ::
        (numbered 0 xs.length ys).map (fun p => lineOfText isa m (p.1 + 1) p.2) := by
  constructor
  · simp [textLines, numbered_append]
  · simp [textLines, numbered_insert xs ys n hb, List.map_map, Function.comp_def]

theorem eraseNum_isInstr (p : PLine) : (eraseNum p).isInstr = p.isInstr := rfl

theorem same_instr_of_pointwise {α : Type} (nb : List α) (g1 g2 : α → PLine) (S1 S2 : Nat → Bool)
    (h : ∀ p ∈ nb, eraseNum (g1 p) = eraseNum (g2 p) ∧ S1 (g1 p).num = S2 (g2 p).num) :
    ((((nb.map g1).filter fun p => S1 p.num).filter (·.isInstr)).map eraseNum) =
    ((((nb.map g2).filter fun p => S2 p.num).filter (·.isInstr)).map eraseNum) := by
  -- both sides are one filter and one map over `nb`; their tests and their functions agree on `nb`
  simp only [List.filter_map, List.map_map, List.filter_filter]
  have hq : ∀ p ∈ nb, (((·.isInstr) ∘ g1) p && ((fun p => S1 p.num) ∘ g1) p) =
      (((·.isInstr) ∘ g2) p && ((fun p => S2 p.num) ∘ g2) p) := by
    intro p hp
    simp only [Function.comp, (h p hp).2, ← eraseNum_isInstr (g1 p), (h p hp).1, eraseNum_isInstr]
  rw [List.filter_congr hq]
  exact List.map_congr_left fun p hp => (h p (List.mem_filter.mp hp).1).1

/-- **the selected kernels carry the same instructions**: if the selection of the second file selects the
    old lines the selection of the first file selects (and the inserted line or not), the two kernels
    have the same instruction lines in the same order, up to their numbers -/
theorem kernels_same_instr (isa : Operand.Isa) (m : Model) (xs ys : List Txt) (n : Txt) (hn : IsNoise isa n) (S1 S2 : Nat → Bool)
    (hS : ∀ x, S2 (shiftAt xs.length x) = S1 x) :
    (((((textLines isa m (xs ++ ys)).map (·.pl)).filter fun p => S1 p.num).filter (·.isInstr)).map eraseNum) =
    (((((textLines isa m (xs ++ n :: ys)).map (·.pl)).filter fun p => S2 p.num).filter (·.isInstr)).map eraseNum) := by
  obtain ⟨e1, e2⟩ := textLines_insert isa m xs ys n hn.1
  rw [e1, e2]
  simp only [List.map_append, List.map_cons, List.filter_append, List.filter_cons, List.map_map]
  have hN : (lineOfText isa m (xs.length + 1) n).pl.isInstr = false := lineOfText_noise isa m _ n hn
  have front := same_instr_of_pointwise (numbered 0 0 xs) (fun p => (lineOfText isa m p.1 p.2).pl)
    (fun p => (lineOfText isa m p.1 p.2).pl) S1 S2 (by
      intro p hp
      refine ⟨rfl, ?_⟩
      have := (numbered_mem 0 0 xs p hp).2.1
      simp only [lineOfText_pl_num]
      rw [← hS p.1, shiftAt, if_pos (by omega)])
  have back := same_instr_of_pointwise (numbered 0 xs.length ys) (fun p => (lineOfText isa m p.1 p.2).pl)
    (fun p => (lineOfText isa m (p.1 + 1) p.2).pl) S1 S2 (by
      intro p hp
      refine ⟨lineOfText_eraseNum isa m _ _ _, ?_⟩
      have := (numbered_mem 0 xs.length ys p hp).1
      simp only [lineOfText_pl_num]
      rw [← hS p.1, shiftAt, if_neg (by omega)])
  simp only [Function.comp_def]
  rw [front, back]
  cases S2 (lineOfText isa m (xs.length + 1) n).pl.num <;> simp [hN]

/-- where the two theorems below start: both kernels have increasing numbers and carry the same instructions up to
    the numbers, and both analyses are `analyze` of the kernel under the configuration of the first run -/
theorem noise_kernels (isa : Operand.Isa) (m : Model) (o1 o2 : Opts) (hfd : o1.flagDeps = o2.flagDeps)
    (hfl : o1.floor = o2.floor) (xs ys : List Txt) (n : Txt)
    (hnl : ∀ t ∈ xs ++ n :: ys, 10 ∉ t) (hn : IsNoise isa n) (r1 r2 : Result)
    (h1 : analyse isa m o1 (joinLines (xs ++ ys)) = .ok r1)
    (h2 : analyse isa m o2 (joinLines (xs ++ n :: ys)) = .ok r2)
    (S1 S2 : Nat → Bool)
    (hk1 : r1.kernel = r1.parsed.filter fun p => S1 p.num)
    (hk2 : r2.kernel = r2.parsed.filter fun p => S2 p.num)
    (hS : ∀ x, S2 (shiftAt xs.length x) = S1 x) :
    Increasing r1.kernel ∧ Increasing r2.kernel ∧
    (r1.kernel.filter (·.isInstr)).map eraseNum = (r2.kernel.filter (·.isInstr)).map eraseNum ∧
    r1.analysis = analyze (EndToEnd.cfgOf isa m o1) r1.kernel ∧
    r2.analysis = analyze (EndToEnd.cfgOf isa m o1) r2.kernel := by
  have A1 := analyse_lines_analysed isa m o1 _ (forall_mem_remove hnl) r1 h1
  have A2 := analyse_lines_analysed isa m o2 _ hnl r2 h2
  have hc : EndToEnd.cfgOf isa m o2 = EndToEnd.cfgOf isa m o1 := by simp [EndToEnd.cfgOf, hfd, hfl]
  refine ⟨?_, ?_, ?_, A1.analysis, hc ▸ A2.analysis⟩
  · rw [hk1, A1.parsed]; exact (textLines_increasing isa m _).sublist List.filter_sublist
  · rw [hk2, A2.parsed]; exact (textLines_increasing isa m _).sublist List.filter_sublist
  · rw [hk1, hk2, A1.parsed, A2.parsed]
    exact kernels_same_instr isa m xs ys n hn S1 S2 hS

/-- **e2e_noise_transparent_text** (C11 at the level of the file TEXT; ∀ models, ∀ files, ∀ positions):
    insert a comment-only line, a label line or a directive line `n` behind the first `|xs|` lines of a
    file.  If the selection of the new file selects the old lines the selection of the old file selects —
    whether or not it selects `n` itself (`S1`, `S2` name the selected line numbers; instances below: the
    whole file, `--lines`) — the two analyses say the same about the instructions up to the renaming of
    line numbers: there is one analysis `a₀` (of the position-numbered instruction lines) and
    order-preserving `g1`, `g2` (instruction ordinal ↦ line number) with
    `SameOnInstr … r1.analysis (a₀.rename g1)` and `SameOnInstr … r2.analysis (a₀.rename g2)`:
    per-instruction rows, dependency edges with weights, LCD entries / dictionary / figure / marks, column
    sums equal; the non-instruction rows are zeros; critical path total (≥ 0) and marks (> 0) equal. -/
theorem e2e_noise_transparent_text (isa : Operand.Isa) (m : Model) (o1 o2 : Opts) (hfd : o1.flagDeps = o2.flagDeps)
    (hfl : o1.floor = o2.floor) (xs ys : List Txt) (n : Txt) (hne : xs ++ ys ≠ [])
    (hnl : ∀ t ∈ xs ++ n :: ys, 10 ∉ t) (hn : IsNoise isa n) (r1 r2 : Result)
    (h1 : analyse isa m o1 (joinLines (xs ++ ys)) = .ok r1)
    (h2 : analyse isa m o2 (joinLines (xs ++ n :: ys)) = .ok r2)
    (S1 S2 : Nat → Bool)
    (hk1 : r1.kernel = r1.parsed.filter fun p => S1 p.num)
    (hk2 : r2.kernel = r2.parsed.filter fun p => S2 p.num)
    (hS : ∀ x, S2 (shiftAt xs.length x) = S1 x) :
    ∃ (a₀ : Analysis) (g1 g2 : Nat → Nat), Incr g1 ∧ Incr g2 ∧
      (∀ j (h : j < (r1.kernel.filter (·.isInstr)).length), g1 j = ((r1.kernel.filter (·.isInstr))[j]).num) ∧
      (∀ j (h : j < (r2.kernel.filter (·.isInstr)).length), g2 j = ((r2.kernel.filter (·.isInstr))[j]).num) ∧
      a₀ = analyze (EndToEnd.cfgOf isa m o1) (Props.C11Pipeline.canon (r1.kernel.filter (·.isInstr))) ∧
      SameOnInstr m.mm.ports.length r1.analysis (a₀.rename g1) ∧
      SameOnInstr m.mm.ports.length r2.analysis (a₀.rename g2) := by
  obtain ⟨inc1, inc2, hsame, a1, a2⟩ :=
    noise_kernels isa m o1 o2 hfd hfl xs ys n hnl hn r1 r2 h1 h2 S1 S2 hk1 hk2 hS
  rw [a1, a2]
  exact Props.C11Pipeline.noise_transparent (EndToEnd.cfgOf isa m o1) r1.kernel r2.kernel inc1 inc2 hsame

/-- the numbers that are not line numbers are equal in the two analyses -/
theorem e2e_noise_transparent_values (isa : Operand.Isa) (m : Model) (o1 o2 : Opts) (hfd : o1.flagDeps = o2.flagDeps)
    (hfl : o1.floor = o2.floor) (xs ys : List Txt) (n : Txt) (hne : xs ++ ys ≠ [])
    (hnl : ∀ t ∈ xs ++ n :: ys, 10 ∉ t) (hn : IsNoise isa n) (r1 r2 : Result)
    (h1 : analyse isa m o1 (joinLines (xs ++ ys)) = .ok r1)
    (h2 : analyse isa m o2 (joinLines (xs ++ n :: ys)) = .ok r2)
    (S1 S2 : Nat → Bool)
    (hk1 : r1.kernel = r1.parsed.filter fun p => S1 p.num)
    (hk2 : r2.kernel = r2.parsed.filter fun p => S2 p.num)
    (hS : ∀ x, S2 (shiftAt xs.length x) = S1 x) :
    r1.analysis.lcdFigure = r2.analysis.lcdFigure ∧ r1.analysis.colSums = r2.analysis.colSums ∧
    r1.analysis.edges.map (·.w) = r2.analysis.edges.map (·.w) ∧
    r1.analysis.lcd.map (fun e => (e.lats, e.latency)) = r2.analysis.lcd.map (fun e => (e.lats, e.latency)) := by
  obtain ⟨inc1, inc2, hsame, a1, a2⟩ :=
    noise_kernels isa m o1 o2 hfd hfl xs ys n hnl hn r1 r2 h1 h2 S1 S2 hk1 hk2 hS
  have v := Props.C11Pipeline.noise_transparent_values (EndToEnd.cfgOf isa m o1) r1.kernel r2.kernel inc1 inc2 hsame
  rw [a1, a2]
  exact ⟨v.1, v.2.1, v.2.2.1, v.2.2.2.1⟩

/-- instance: the whole file is the kernel in both runs (no marker, no `--lines`) -/
theorem e2e_noise_transparent_whole_file (isa : Operand.Isa) (m : Model) (o : Opts) (xs ys : List Txt) (n : Txt) (hne : xs ++ ys ≠ [])
    (hnl : ∀ t ∈ xs ++ n :: ys, 10 ∉ t) (hn : IsNoise isa n) (r1 r2 : Result)
    (h1 : analyse isa m o (joinLines (xs ++ ys)) = .ok r1)
    (h2 : analyse isa m o (joinLines (xs ++ n :: ys)) = .ok r2)
    (hk1 : r1.kernel = r1.parsed) (hk2 : r2.kernel = r2.parsed) :
    ∃ (a₀ : Analysis) (g1 g2 : Nat → Nat), Incr g1 ∧ Incr g2 ∧
      SameOnInstr m.mm.ports.length r1.analysis (a₀.rename g1) ∧
      SameOnInstr m.mm.ports.length r2.analysis (a₀.rename g2) := by
  obtain ⟨a₀, g1, g2, i1, i2, _, _, _, s1, s2⟩ :=
    e2e_noise_transparent_text isa m o o rfl rfl xs ys n hne hnl hn r1 r2 h1 h2 (fun _ => true) (fun _ => true)
      (by simp [hk1]) (by simp [hk2]) (fun _ => rfl)
  exact ⟨a₀, g1, g2, i1, i2, s1, s2⟩

/-- instance: `--lines` in both runs, the second specification naming the moved numbers -/
theorem e2e_noise_transparent_lines (isa : Operand.Isa) (m : Model) (o1 o2 : Opts) (s1 s2 : Txt) (R1 R2 : List Int)
    (hm1 : o1.mode = .lines s1) (hm2 : o2.mode = .lines s2)
    (hR1 : Marker.getLineRange s1 = some R1) (hR2 : Marker.getLineRange s2 = some R2)
    (hfd : o1.flagDeps = o2.flagDeps) (hfl : o1.floor = o2.floor)
    (xs ys : List Txt) (n : Txt) (hne : xs ++ ys ≠ [])
    (hnl : ∀ t ∈ xs ++ n :: ys, 10 ∉ t) (hn : IsNoise isa n)
    (hS : ∀ x : Nat, R2.contains ((shiftAt xs.length x : Nat) : Int) = R1.contains (x : Int))
    (r1 r2 : Result)
    (h1 : analyse isa m o1 (joinLines (xs ++ ys)) = .ok r1)
    (h2 : analyse isa m o2 (joinLines (xs ++ n :: ys)) = .ok r2) :
    ∃ (a₀ : Analysis) (g1 g2 : Nat → Nat), Incr g1 ∧ Incr g2 ∧
      SameOnInstr m.mm.ports.length r1.analysis (a₀.rename g1) ∧
      SameOnInstr m.mm.ports.length r2.analysis (a₀.rename g2) := by
  have A1 := analyse_lines_analysed isa m o1 _ (forall_mem_remove hnl) r1 h1
  have A2 := analyse_lines_analysed isa m o2 _ hnl r2 h2
  obtain ⟨ra, hra, hk1⟩ := select_lines_eq s1 _ _ (hm1 ▸ A1.select)
  obtain ⟨rb, hrb, hk2⟩ := select_lines_eq s2 _ _ (hm2 ▸ A2.select)
  cases hR1.symm.trans hra
  cases hR2.symm.trans hrb
  obtain ⟨a₀, g1, g2, i1, i2, _, _, _, q1, q2⟩ :=
    e2e_noise_transparent_text isa m o1 o2 hfd hfl xs ys n hne hnl hn r1 r2 h1 h2
      (fun x => R1.contains (x : Int)) (fun x => R2.contains (x : Int)) hk1 hk2 hS
  exact ⟨a₀, g1, g2, i1, i2, q1, q2⟩

/-! ### 5. the report reads back -/

/-- **the pipeline's output satisfies the well-formedness hypotheses of `Props.C13.report_roundtrip`**
    (∀ models with at least one port whose names can stand in the port line, ∀ `repr` whose texts are
    single tokens, ∀ files and options): one pressure value and one used-port bit per port on every
    kernel line (`assign_tp_lt` leaves `len(ports)` values on every path: own entry, composition,
    unknown, non-instruction), kernel texts without line feed (they are lines of the file), column sums
    empty or one per port. -/
theorem e2e_report_wf (isa : Operand.Isa) (m : Model) (o : Opts) (file : Txt) (r : Result) (h : analyse isa m o file = .ok r)
    (hports : m.mm.ports ≠ []) (hnames : ∀ n ∈ m.mm.ports, Report.NameOk n ∧ Report.NoNL n)
    (hrepr : ∀ q, Report.TokOk (o.repr q) ∧ Report.WordOk (o.repr q) ∧ Report.NoNL (o.repr q)) :
    Report.WF r.report := by
  have hrows := kernel_rows_ok isa m o file r h
  have A := analyse_analysed isa m o file r h
  rw [A.report]
  refine toReport_wf _ _ _ _ _ hports hnames hrepr A.ne hrows ?_
  rw [A.analysis]
  refine colSums_len _ _ _ _ ?_
  intro pl hpl
  obtain ⟨l, hl, rfl⟩ := List.mem_map.mp hpl
  exact (hrows l hl).1

/-- **e2e_report_roundtrip** (`Props.C13.report_roundtrip` lifted through the composition): the table the
    pipeline prints for a file reads back (`Spec.Report.parseTable`) to the view of the analysis the pipeline
    computed — port columns, every line with its pressure cells at the shown precision, CP and LCD cells,
    flag symbols, texts, and the totals line or the missing-data warning with its number; and the printed
    text is that table between the header block and the LCD list. -/
theorem e2e_report_roundtrip (isa : Operand.Isa) (m : Model) (o : Opts) (file : Txt) (r : Result) (h : analyse isa m o file = .ok r)
    (hports : m.mm.ports ≠ []) (hnames : ∀ n ∈ m.mm.ports, Report.NameOk n ∧ Report.NoNL n)
    (hrepr : ∀ q, Report.TokOk (o.repr q) ∧ Report.WordOk (o.repr q) ∧ Report.NoNL (o.repr q)) :
    Spec.Report.parseTable (Report.combinedView r.report) = some (Report.view r.report) ∧
    (∃ pre post, r.text = pre ++ Report.combinedView r.report ++ post) ∧
    r.report.rows.map (·.line) = r.kernel.map (·.num) ∧
    r.report.tpSum = r.analysis.colSums ∧
    r.report.cp.map (·.1) = r.analysis.cpMarks.map (·.1) := by
  have hwf := e2e_report_wf isa m o file r h hports hnames hrepr
  have A := analyse_analysed isa m o file r h
  refine ⟨Props.C13.report_roundtrip _ hwf, A.text ▸ fullAnalysis_table .., ?_, ?_, ?_⟩
  · rw [A.report]; exact toReport_lines ..
  · rw [A.report]; rfl
  · rw [A.report]; exact toReport_cp ..

/-! ### non-vacuity: a concrete model and file, evaluated by the kernel

  Model: two ports `0`, `1`; one entry `ADD gpr, gpr` (throughput 1, latency 1, one micro-op on `01`); load
  default `[[1, '0']]`, load latency 4 for `gpr`; the shipped x86 ISA database `Gen.isaDbX86`.
  File:
      1  addq (%rax), %rbx      memory-composed: register form `ADD gpr, gpr` through the `q` fall-back + load
      2  # note                 comment-only line
      3  foo %rbx, %rcx         unknown mnemonic (default roles: last operand destination)
      4  addq %rcx, %rbx        own entry through the fall-back
  Dependency edges: load node of 1 → 1 (4), 1 → 3, 1 → 4, 3 → 4; critical path 6; LCD 1-4 and 1-3-4. -/
namespace Ex

def gpr : Txt := [103, 112, 114]
def gprE : Operand.EOperand := .reg (some gpr) none none
def mm : Compose.MModel :=
  { isa := .x86, ports := [[48], [49]]
    db := [{ name := [65, 68, 68], operands := [gprE, gprE], tp := .num 1, lat := .num 1,
             pp := .list [.list [.num 1, .str [48, 49]]] }]
    loadRows := [], loadDefault := .list [.list [.num 1, .str [48]]], storeRows := [], storeDefault := .list []
    loadLatency := [(.str gpr, .num 4)], loadMult := none, storeMult := none }
def model : Model := { mm := mm, isaDb := Gen.isaDbX86 }

/-- a stand-in for `repr(float)`, good for integers and halves -/
def reprEx (q : Rat) : Txt := Fmt.natDigits q.floor.toNat ++ [46] ++ (if q.den == 1 then [48] else [53])

def opts : Opts :=
  { mode := .markers [120, 56, 54], repr := reprEx, version := [48], file := [107, 46, 115], arch := [83, 89, 78],
    stamp := [110, 111, 119] }
def optsL (spec : Txt) : Opts := { opts with mode := .lines spec }

def l1 : Txt := [97, 100, 100, 113, 32, 40, 37, 114, 97, 120, 41, 44, 32, 37, 114, 98, 120]     -- addq (%rax), %rbx
def ln : Txt := [35, 32, 110, 111, 116, 101]                                                    -- # note
def lu : Txt := [102, 111, 111, 32, 37, 114, 98, 120, 44, 32, 37, 114, 99, 120]                 -- foo %rbx, %rcx
def lk : Txt := [97, 100, 100, 113, 32, 37, 114, 98, 120, 44, 32, 37, 114, 99, 120]             -- addq %rbx, %rcx
def l3 : Txt := [97, 100, 100, 113, 32, 37, 114, 99, 120, 44, 32, 37, 114, 98, 120]             -- addq %rcx, %rbx
def foo : Txt := [102, 111, 111]

def checkOk (x : Outcome) (p : Result → Bool) : Bool :=
  match x with
  | .ok r => p r
  | _ => false

end Ex
open Ex

theorem ex_checkOk_elim {x : Outcome} {p : Result → Bool} (h : checkOk x p = true) : ∃ r, x = .ok r ∧ p r = true := by
  cases x <;> simp [checkOk] at h
  exact ⟨_, rfl, h⟩

theorem ex_checkOk_mono {x : Outcome} {p q : Result → Bool} (h : checkOk x p = true)
    (hpq : ∀ r, p r = true → q r = true) : checkOk x q = true := by
  obtain ⟨r, rfl, hp⟩ := ex_checkOk_elim h
  exact hpq r hp

/-- the analysis of the four-line file, from its text: the memory-composed line (latency 1 + 4, pressure
    `[1/2 + 1, 1/2]`, `performs_load`), the comment (zeros, not an instruction), the unknown line (zeros, both
    unknown flags), the edges incl. the load node, critical path, LCD, column sums (the unknown line has
    throughput 0 and is skipped), and the missing-data branch of the report -/
example : checkOk (analyseX86 model opts (joinLines [l1, ln, lu, l3])) (fun r =>
    r.analysis.rows.map (fun x => (x.line, x.instr, x.lat, x.latWoLoad, x.tp, x.pressure)) ==
      [(1, true, 5, some 1, 1, [3/2, 1/2]), (2, false, 0, some 0, 0, [0, 0]), (3, true, 0, some 0, 0, [0, 0]),
       (4, true, 1, some 1, 1, [1/2, 1/2])] &&
    r.analysis.edges.map (fun e => (e.src.line, e.src.load, e.dst.line, e.w)) ==
      [(1, true, 1, 4), (1, false, 3, 1), (1, false, 4, 1), (3, false, 4, 0)] &&
    r.analysis.cpTotal == 6 && r.analysis.cpMarks == [(1, 5), (4, 1)] &&
    r.analysis.lcdDict.map (fun d => (d.1, d.2.1)) == [([1, 4], 2), ([1, 3, 4], 2)] &&
    r.analysis.lcdFigure == 2 && r.analysis.colSums == [2, 1] &&
    r.report.rows.map (fun x => (x.line, x.flags, x.used)) ==
      [(1, [Gen.flagHasLd], [true, true]), (2, [], [false, false]),
       (3, [Gen.flagTpUnknown, Gen.flagLtUnknown], [false, false]), (4, [], [true, true])] &&
    !Report.showsTotals r.report && r.kernel.length == 4 && r.parsed.length == 4) = true := by
  decide +kernel

/-- the four-line file is analysed and, there being no marker, the whole file is the kernel -/
theorem ex_file : checkOk (analyseX86 model opts (joinLines [l1, ln, lu, l3])) (fun r => r.kernel.length == r.parsed.length) = true := by
  decide +kernel

/-- outcomes other than an analysis: a line the parser rejects, `--lines` that selects nothing, a malformed
    `--lines` -/
example : (match analyseX86 model opts (joinLines [l1, [37, 37], l3]) with | .parseError 2 _ => true | _ => false) = true := by
  decide +kernel
example : (match analyseX86 model (optsL [57]) (joinLines [l1, l3]) with | .emptyKernel => true | _ => false) = true := by
  decide +kernel
example : (match analyseX86 model (optsL [45]) (joinLines [l1, l3]) with | .badLines => true | _ => false) = true := by
  decide +kernel

/-- the model has no entry for `foo`, whatever the operands, with or without the fall-back spelling -/
theorem ex_no_foo : ∀ ops, Match.lookupWithFallbacks model.mm.isa model.mm.db foo ops = none :=
  lookupWithFallbacks_none _ _ _ (by decide) (by decide)

/-- `e2e_unknown_isolated` on the file: line 3 `addq %rbx, %rcx` replaced by `foo %rbx, %rcx` — both files are
    analysed (hypotheses satisfiable), line 3 of the second analysis is zero, lines 1, 2, 4 are unchanged -/
example : checkOk (analyseX86 model opts (joinLines ([l1, ln] ++ lk :: [l3]))) (fun _ => true) = true ∧
    checkOk (analyseX86 model opts (joinLines ([l1, ln] ++ lu :: [l3]))) (fun _ => true) = true ∧
    ∀ r1 r2, analyseX86 model opts (joinLines ([l1, ln] ++ lk :: [l3])) = .ok r1 →
      analyseX86 model opts (joinLines ([l1, ln] ++ lu :: [l3])) = .ok r2 →
      (∀ row ∈ r2.analysis.rows, row.line = 3 → row.tp = 0 ∧ row.lat = 0 ∧ row.pressure = [0, 0]) ∧
      (∀ row1 ∈ r1.analysis.rows, ∀ row2 ∈ r2.analysis.rows, row1.line = row2.line → row1.line ≠ 3 → row1 = row2) := by
  refine ⟨by decide +kernel, ex_checkOk_mono ex_file fun _ _ => rfl, fun r1 r2 h1 h2 => ?_⟩
  have h := e2e_unknown_isolated .x86 model opts [l1, ln] [l3] lk lu
    (by decide +kernel) (by decide +kernel) (by decide +kernel) (by decide +kernel)
    (Glue.formX86 { mnemonic := some foo, operands := [.reg [114, 98, 120], .reg [114, 99, 120]] }) foo (by decide +kernel) rfl
    ex_no_foo r1 r2 h1 h2
  exact ⟨fun row hr hl => let x := h.2.1 row hr hl; ⟨x.2.1, x.2.2.1, x.2.2.2.2⟩, h.2.2.2⟩

theorem ex_ln_noise : IsNoise .x86 ln :=
  ⟨by decide +kernel, Glue.formX86 { comment := some [110, 111, 116, 101] }, by decide +kernel, rfl⟩

/-- `e2e_noise_transparent_text`, whole file: `[l1, lu, l3]` and `[l1, # note, lu, l3]` are both analysed
    with the whole file as the kernel, and agree up to the renaming -/
example : checkOk (analyseX86 model opts (joinLines ([l1] ++ [lu, l3]))) (fun r => r.kernel.length == r.parsed.length) = true ∧
    checkOk (analyseX86 model opts (joinLines ([l1] ++ ln :: [lu, l3]))) (fun r => r.kernel.length == r.parsed.length) = true ∧
    ∀ r1 r2, analyseX86 model opts (joinLines ([l1] ++ [lu, l3])) = .ok r1 →
      analyseX86 model opts (joinLines ([l1] ++ ln :: [lu, l3])) = .ok r2 →
      ∃ (a₀ : Analysis) (g1 g2 : Nat → Nat), Incr g1 ∧ Incr g2 ∧
        SameOnInstr 2 r1.analysis (a₀.rename g1) ∧ SameOnInstr 2 r2.analysis (a₀.rename g2) := by
  have c1 : checkOk (analyseX86 model opts (joinLines ([l1] ++ [lu, l3]))) (fun r => r.kernel.length == r.parsed.length) = true := by
    decide +kernel
  have c2 : checkOk (analyseX86 model opts (joinLines ([l1] ++ ln :: [lu, l3]))) (fun r => r.kernel.length == r.parsed.length) = true :=
    ex_file
  refine ⟨c1, c2, fun r1 r2 h1 h2 => ?_⟩
  obtain ⟨r1', e1, q1⟩ := ex_checkOk_elim c1
  obtain ⟨r2', e2, q2⟩ := ex_checkOk_elim c2
  rw [h1] at e1; cases e1
  rw [h2] at e2; cases e2
  have k1 := ((e2e_rows_local .x86 model opts _ r1 h1).2.1).eq_of_length (by simpa using q1)
  have k2 := ((e2e_rows_local .x86 model opts _ r2 h2).2.1).eq_of_length (by simpa using q2)
  exact e2e_noise_transparent_whole_file .x86 model opts [l1] [lu, l3] ln (by simp)
    (by decide +kernel) ex_ln_noise r1 r2 h1 h2 k1 k2

theorem ex_shift_ok : ∀ x : Nat, ([1, 3, 4] : List Int).contains ((shiftAt 1 x : Nat) : Int) =
    ([1, 2, 3] : List Int).contains (x : Int) := by
  intro x
  simp only [shiftAt, List.contains_eq_mem, List.mem_cons, List.not_mem_nil, or_false, decide_eq_decide]
  split <;> omega

/-- `e2e_noise_transparent_lines`: `--lines 1,2-3` on the file without the comment and `--lines 1,3-4` on the file
    with it -/
example : checkOk (analyseX86 model (optsL [49, 44, 50, 45, 51]) (joinLines ([l1] ++ [lu, l3]))) (fun _ => true) = true ∧
    checkOk (analyseX86 model (optsL [49, 44, 51, 45, 52]) (joinLines ([l1] ++ ln :: [lu, l3]))) (fun r => r.kernel.length == 3) = true ∧
    ∀ r1 r2, analyseX86 model (optsL [49, 44, 50, 45, 51]) (joinLines ([l1] ++ [lu, l3])) = .ok r1 →
      analyseX86 model (optsL [49, 44, 51, 45, 52]) (joinLines ([l1] ++ ln :: [lu, l3])) = .ok r2 →
      ∃ (a₀ : Analysis) (g1 g2 : Nat → Nat), Incr g1 ∧ Incr g2 ∧
        SameOnInstr 2 r1.analysis (a₀.rename g1) ∧ SameOnInstr 2 r2.analysis (a₀.rename g2) := by
  refine ⟨by decide +kernel, by decide +kernel, fun r1 r2 h1 h2 => ?_⟩
  exact e2e_noise_transparent_lines .x86 model (optsL [49, 44, 50, 45, 51]) (optsL [49, 44, 51, 45, 52])
    [49, 44, 50, 45, 51] [49, 44, 51, 45, 52] [1, 2, 3] [1, 3, 4] rfl rfl
    (by decide +kernel) (by decide +kernel) rfl rfl [l1] [lu, l3] ln (by simp)
    (by decide +kernel) ex_ln_noise ex_shift_ok r1 r2 h1 h2

theorem ex_names_ok : ∀ n ∈ model.mm.ports, Report.NameOk n ∧ Report.NoNL n := by
  intro n hn
  have : n = [48] ∨ n = [49] := by simpa [model, mm] using hn
  rcases this with rfl | rfl <;> exact ⟨⟨by decide, by decide⟩, by unfold Report.NoNL; decide⟩

theorem ex_reprEx_ok (q : Rat) : Report.TokOk (reprEx q) ∧ Report.WordOk (reprEx q) ∧ Report.NoNL (reprEx q) := by
  have hd : ∀ c ∈ reprEx q, (48 ≤ c ∧ c ≤ 57) ∨ c = 46 := by
    intro c hc
    simp only [reprEx, List.mem_append, List.mem_singleton] at hc
    rcases hc with (h | h) | h
    · have := Fmt.natDigits_digits _ c h
      simp [isDigitC] at this; exact Or.inl this
    · exact Or.inr h
    · split at h <;> simp at h <;> omega
  refine ⟨?_, ⟨?_, ?_⟩, ?_⟩
  · intro c hc
    rcases hd c hc with h | h <;> simp [Spec.Report.isTokC] <;> omega
  · simp [reprEx]
  · intro h; rcases hd 32 h with h | h <;> omega
  · intro h; rcases hd 10 h with h | h <;> omega

/-- `e2e_report_roundtrip` on the file: the hypotheses hold for the example model and `reprEx`, the file is analysed,
    and the table the pipeline prints reads back to the view of its analysis -/
example : checkOk (analyseX86 model opts (joinLines [l1, ln, lu, l3])) (fun _ => true) = true ∧
    ∀ r, analyseX86 model opts (joinLines [l1, ln, lu, l3]) = .ok r →
      Spec.Report.parseTable (Report.combinedView r.report) = some (Report.view r.report) := by
  refine ⟨ex_checkOk_mono ex_file fun _ _ => rfl, fun r h => ?_⟩
  exact (e2e_report_roundtrip .x86 model opts _ r h (by decide) ex_names_ok ex_reprEx_ok).1

/-- `e2e_per_line_local_files`: line 4 of the long file and line 3 of the short one have the same text, hence the
    same per-instruction data, under different options -/
example : ∀ r1 r2, analyseX86 model opts (joinLines [l1, ln, lu, l3]) = .ok r1 →
    analyseX86 model (optsL [49, 44, 50, 45, 51]) (joinLines [l1, lu, l3]) = .ok r2 →
    ∀ p1 ∈ r1.parsed, ∀ p2 ∈ r2.parsed, p1.text = p2.text → eraseNum p1 = eraseNum p2 :=
  fun r1 r2 h1 h2 p1 hp1 p2 hp2 ht => e2e_per_line_local_files .x86 model _ _ _ _ r1 r2 h1 h2 p1 p2 hp1 hp2 ht

end OsacaVerif.Props.EndToEnd
