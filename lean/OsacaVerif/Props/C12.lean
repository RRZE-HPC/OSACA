import OsacaVerif.Model.RegDep
import OsacaVerif.Spec.RegUniverse
import OsacaVerif.Lemmas.RegDep
/-
  C12 — Register dependence equals architectural register overlap.

  `RegDep.x86` / `RegDep.a64` are the models of the two `is_reg_dependend_of` methods; every
  table they use is regenerated from the source (`Gen.RegTables`).  `Spec.x86Universe`,
  `Spec.archOverlap`, `Spec.a64Class` are built from the architectures' naming rules only.
-/
namespace OsacaVerif.Props.C12
open OsacaVerif OsacaVerif.Text OsacaVerif.RegDep OsacaVerif.Spec

/-! ### x86 -/

theorem isVectorRegister_upper (a : Txt) : isVectorRegister (upper a) = isVectorRegister a := by
  simp [isVectorRegister]

theorem isBasicGpr_upper (a : Txt) : isBasicGpr (upper a) = isBasicGpr a := by
  simp [isBasicGpr]

/-- The x86 relation only looks at the upper-cased names (∀ names, any length). -/
theorem x86_upper (a b : Txt) : x86 a b = x86 (upper a) (upper b) := by
  rw [Bool.eq_iff_iff, x86_iff_key, x86_iff_key, x86Key_upper, x86Key_upper]

/-- **Case-insensitivity** (∀ names): any two spellings that agree up to ASCII case behave alike. -/
theorem x86_case_insensitive (a a' b b' : Txt) (ha : upper a = upper a') (hb : upper b = upper b') :
    x86 a b = x86 a' b' := by
  rw [x86_upper a b, x86_upper a' b', ha, hb]

/-- **C12 for x86**: for all registers of the universe, in any mixture of upper and lower case,
    dependence = architectural overlap. -/
theorem x86_dep_eq_overlap (a b : Reg) (ha : a ∈ x86Universe) (hb : b ∈ x86Universe)
    (sa sb : Txt) (hsa : upper sa = upper a.name) (hsb : upper sb = upper b.name) :
    x86 sa sb = archOverlap a b := by
  rw [x86_case_insensitive sa a.name sb b.name hsa hsb]
  exact x86_eq_archOverlap a b ha hb

/-- the same on the names as listed, in the form of one Boolean table over the universe -/
theorem x86_table :
    (x86Universe.all fun a => x86Universe.all fun b => x86 a.name b.name == archOverlap a b) = true := by
  simp only [List.all_eq_true, beq_iff_eq]
  exact fun a ha b hb => x86_eq_archOverlap a b ha hb

theorem archOverlap_refl (a : Reg) : archOverlap a a = true := by simp [archOverlap]
theorem archOverlap_symm (a b : Reg) : archOverlap a b = archOverlap b a := by
  simp [archOverlap, Bool.beq_comm]
theorem archOverlap_trans (a b c : Reg) (h1 : archOverlap a b = true) (h2 : archOverlap b c = true) :
    archOverlap a c = true := by
  simp only [archOverlap, beq_iff_eq] at *
  exact h1.trans h2

/-- reflexive / symmetric / transitive: instances of `RegDep.x86_equivalence` -/
theorem x86_refl (a : Reg) (ha : a ∈ x86Universe) : x86 a.name a.name = true :=
  x86_equivalence.refl _
theorem x86_symm (a b : Reg) (ha : a ∈ x86Universe) (hb : b ∈ x86Universe) :
    x86 a.name b.name = x86 b.name a.name :=
  Bool.eq_iff_iff.mpr ⟨x86_equivalence.symm, x86_equivalence.symm⟩
theorem x86_trans (a b c : Reg) (ha : a ∈ x86Universe) (hb : b ∈ x86Universe) (hc : c ∈ x86Universe)
    (h1 : x86 a.name b.name = true) (h2 : x86 b.name c.name = true) : x86 a.name c.name = true :=
  x86_equivalence.trans h1 h2
/-- registers of different families are never dependent -/
theorem x86_families_disjoint (a b : Reg) (ha : a ∈ x86Universe) (hb : b ∈ x86Universe)
    (h : a.fam ≠ b.fam) : x86 a.name b.name = false := by
  rw [x86_eq_archOverlap a b ha hb]; simp [archOverlap, h]

-- non-vacuity: the universe really contains the families the property names
example : (⟨ofString "rbp", 5⟩ : Reg) ∈ x86Universe ∧ (⟨ofString "bpl", 5⟩ : Reg) ∈ x86Universe ∧
    (⟨ofString "r10w", 110⟩ : Reg) ∈ x86Universe ∧ (⟨ofString "zmm31", 231⟩ : Reg) ∈ x86Universe ∧
    (⟨ofString "ah", 0⟩ : Reg) ∈ x86Universe ∧ x86Universe.length = 180 := by decide +kernel
example : x86 (ofString "RbP") (ofString "ebp") = true ∧ x86 (ofString "r1") (ofString "r10") = false ∧
    x86 (ofString "mm1") (ofString "xmm1") = false ∧ x86 (ofString "k1") (ofString "k1") = true := by
  decide +kernel

/-! ### AArch64 -/

/-- class part of the AArch64 test on single-letter prefixes -/
def clsPart (pa pb : Txt) : Bool :=
  Gen.a64PrefixClasses.any (fun cls => isInfix (lower pa) cls && isInfix (lower pb) cls)

theorem a64_unfold (pa na pb nb : Txt) :
    a64 pa na pb nb = ((lower na == lower nb) && clsPart pa pb) := by
  have : Gen.a64NameFold = true := by decide
  simp [a64, clsPart, this]

def a64AllPrefixes : List Nat := a64Prefixes ++ a64Prefixes.map upperC

theorem a64_class_table :
    (a64AllPrefixes.all fun p => a64AllPrefixes.all fun q =>
      clsPart [p] [q] == (a64Class (lowerC p) == a64Class (lowerC q))) = true := by
  -- `clsPart` lower-cases its arguments, so the lower-case prefixes are all there is to evaluate
  have low : ∀ p ∈ a64AllPrefixes, lowerC p ∈ a64Prefixes := by decide +kernel
  have tbl : ∀ p ∈ a64Prefixes, ∀ q ∈ a64Prefixes, clsPart [p] [q] = (a64Class p == a64Class q) := by
    decide +kernel
  simp only [List.all_eq_true, beq_iff_eq]
  intro p hp q hq
  rw [← tbl _ (low p hp) _ (low q hq)]
  simp [clsPart, lower]

/-- **C12 for AArch64** (∀ register names/numbers of any length, ∀ prefixes of the universe in
    either case): dependent iff same name (case-insensitively) and same architectural class —
    `w`/`x` views, the `b h s d q v z` views, a predicate register with itself. -/
theorem a64_dep_eq_overlap (p q : Nat) (hp : p ∈ a64AllPrefixes) (hq : q ∈ a64AllPrefixes)
    (na nb : Txt) :
    a64 [p] na [q] nb = ((lower na == lower nb) && (a64Class (lowerC p) == a64Class (lowerC q))) := by
  have h := a64_class_table
  simp only [List.all_eq_true, beq_iff_eq] at h
  rw [a64_unfold, h p hp q hq]

theorem a64_refl (p : Nat) (hp : p ∈ a64AllPrefixes) (n : Txt) : a64 [p] n [p] n = true := by
  rw [a64_dep_eq_overlap p p hp hp]; simp
theorem a64_symm (p q : Nat) (hp : p ∈ a64AllPrefixes) (hq : q ∈ a64AllPrefixes) (na nb : Txt) :
    a64 [p] na [q] nb = a64 [q] nb [p] na := by
  rw [a64_dep_eq_overlap p q hp hq, a64_dep_eq_overlap q p hq hp]
  rw [Bool.beq_comm (a := lower na), Bool.beq_comm (a := a64Class (lowerC p))]
theorem a64_trans (p q r : Nat) (hp : p ∈ a64AllPrefixes) (hq : q ∈ a64AllPrefixes)
    (hr : r ∈ a64AllPrefixes) (na nb nc : Txt)
    (h1 : a64 [p] na [q] nb = true) (h2 : a64 [q] nb [r] nc = true) : a64 [p] na [r] nc = true := by
  rw [a64_dep_eq_overlap p q hp hq] at h1
  rw [a64_dep_eq_overlap q r hq hr] at h2
  rw [a64_dep_eq_overlap p r hp hr]
  simp only [Bool.and_eq_true, beq_iff_eq] at *
  exact ⟨h1.1.trans h2.1, h1.2.trans h2.2⟩
theorem a64_case_insensitive (p q : Nat) (hp : p ∈ a64AllPrefixes) (hq : q ∈ a64AllPrefixes)
    (na nb : Txt) : a64 [p] na [q] nb = a64 [lowerC p] (lower na) [lowerC q] (lower nb) := by
  rw [a64_unfold, a64_unfold, lower_lower, lower_lower]
  simp [clsPart, lower]
theorem a64_families_disjoint (p q : Nat) (hp : p ∈ a64AllPrefixes) (hq : q ∈ a64AllPrefixes)
    (na nb : Txt) (h : a64Class (lowerC p) ≠ a64Class (lowerC q)) : a64 [p] na [q] nb = false := by
  rw [a64_dep_eq_overlap p q hp hq]; simp [h]

-- non-vacuity
example : a64 (ofString "p") (ofString "3") (ofString "P") (ofString "3") = true ∧
    a64 (ofString "w") (ofString "7") (ofString "x") (ofString "7") = true ∧
    a64 (ofString "x") (ofString "ZR") (ofString "w") (ofString "zr") = true ∧
    a64 (ofString "x") (ofString "7") (ofString "d") (ofString "7") = false ∧
    a64 (ofString "v") (ofString "7") (ofString "z") (ofString "7") = true ∧
    a64 (ofString "p") (ofString "7") (ofString "z") (ofString "7") = false := by decide +kernel

end OsacaVerif.Props.C12
