import OsacaVerif.Model.Marker
import OsacaVerif.Lemmas.PyInt
import OsacaVerif.Spec.KernelSelect
/-
  Lemmas about the marker scan: one loop iteration in the words of the marker convention, quiet
  segments are skipped, a start / an end event fixes the indices, the slice of a five-part file is its
  body; `--lines` helper facts.
-/
namespace OsacaVerif.Marker
open OsacaVerif.Text OsacaVerif.PyInt OsacaVerif.Spec.KernelSelect

/-! ### one iteration of the loop, in the words of the convention -/

/-- the arguments `find_marked_section` has to be called with for the convention `m` -/
def convCfg (m : MarkerConv) : Cfg := ⟨m.movs, m.reg, [m.startVal, m.endVal], m.nop, !m.immFirst, true⟩

/-- `Props.C11.Agree c m`, which is this conjunction, determines `c` -/
theorem eq_convCfg {c : Cfg} {m : MarkerConv}
    (h : c.movInstr = m.movs ∧ c.movReg = m.reg ∧ c.vals = [m.startVal, m.endVal] ∧ c.nop = m.nop ∧
      c.reverse = !m.immFirst ∧ c.comments = true ∧ m.startVal ≠ m.endVal ∧ m.nop ≠ []) : c = convCfg m := by
  cases c
  obtain ⟨rfl, rfl, rfl, rfl, rfl, rfl, _⟩ := h
  rfl

theorem opsMatch_eq (c : Cfg) (src dst : Opd) (w : Int) :
    opsMatch c src dst (some w) = decide (src = .imm (some w) ∧ dst = .reg c.movReg) := by
  unfold opsMatch
  split
  · rename_i v r w' h; cases h; simp [Bool.beq_eq_decide_eq]
  · rename_i h; simp; intro h1 h2; exact h _ _ _ h1 h2 rfl

theorem trigger_conv_none (m : MarkerConv) (l : Line) (rest : List Line) (h : l.mnem = none) :
    trigger (convCfg m) l rest =
      if l.comment = some commentBegin then .start 1
      else if l.comment = some commentEnd then .stop 0 else .none := by
  unfold trigger
  rw [h]
  -- the marker texts of `Gen` are those of the specification, literally; the offsets are `1` and `0`
  cases l.comment <;> simp [convCfg, Gen.commentStart, Gen.commentEnd, commentBegin, commentEnd,
    Gen.startOffComment, Gen.endOffComment]

theorem trigger_conv_nomov (m : MarkerConv) (l : Line) (rest : List Line) (mn : Txt) (h : l.mnem = some mn)
    (hn : ¬(mn ∈ m.movs ∧ hasDirective rest = true)) : trigger (convCfg m) l rest = .none := by
  unfold trigger
  rw [h]
  simp only [Bool.and_eq_true, List.contains_iff_mem]
  exact if_neg hn

theorem trigger_conv_mov (m : MarkerConv) (l : Line) (rest : List Line) (mn : Txt) (src dst : Opd)
    (h : l.mnem = some mn) (hmov : mn ∈ m.movs ∧ hasDirective rest = true)
    (hs : l.ops[if m.immFirst then 0 else 1]? = some src) (hd : l.ops[if m.immFirst then 1 else 0]? = some dst) :
    trigger (convCfg m) l rest =
      if src = .imm (some m.startVal) ∧ dst = .reg m.reg then
        match matchBytes rest m.nop with
        | .hit k => .start (1 + k)
        | .miss => .none
      else if src = .imm (some m.endVal) ∧ dst = .reg m.reg then
        match matchBytes rest m.nop with
        | .hit _ => .stop 0
        | .miss => .none
      else .none := by
  unfold trigger
  rw [h]
  have hsi : (if (convCfg m).reverse then Gen.srcIdxRev else Gen.srcIdx) = if m.immFirst then 0 else 1 := by
    obtain ⟨_, _, _, _, _, b⟩ := m; cases b <;> rfl
  have hdi : (if (convCfg m).reverse then Gen.dstIdxRev else Gen.dstIdx) = if m.immFirst then 1 else 0 := by
    obtain ⟨_, _, _, _, _, b⟩ := m; cases b <;> rfl
  have v0 : (convCfg m).vals[Gen.valIdxStart]? = some m.startVal := rfl
  have v1 : (convCfg m).vals[Gen.valIdxEnd]? = some m.endVal := rfl
  simp only [hsi, hdi, hs, hd, v0, v1, opsMatch_eq, decide_eq_true_eq, Bool.and_eq_true, List.contains_iff_mem]
  -- what remains are the offsets `Gen.startOffBytes = 1`, `Gen.endOffBytes = 0` and the fields of `convCfg m`
  exact (if_pos hmov).trans rfl

/-! ### the scan -/

/-- every line of the segment triggers nothing, given the lines that follow the segment -/
def quietSeg (c : Cfg) : List Line → List Line → Bool
  | [], _ => true
  | l :: b, follow => (trigger c l (b ++ follow) == .none) && quietSeg c b follow

/-- no line of the segment triggers an end marker or an exception (start markers are allowed) -/
def noStopSeg (c : Cfg) : List Line → List Line → Bool
  | [], _ => true
  | l :: b, follow =>
    (match trigger c l (b ++ follow) with
     | .none => true
     | .start _ => true
     | _ => false) && noStopSeg c b follow

theorem quiet_noStop (c : Cfg) (seg follow : List Line) (h : quietSeg c seg follow = true) :
    noStopSeg c seg follow = true := by
  induction seg with
  | nil => rfl
  | cons l b ih =>
    simp only [quietSeg, Bool.and_eq_true, beq_iff_eq] at h
    simp [noStopSeg, h.1, ih h.2]

theorem scan_quiet_gen (c : Cfg) (seg follow : List Line) (h : quietSeg c seg follow = true)
    (i : Nat) (s e : Option Nat) (hse : (s.isSome && e.isSome) = false) :
    scan c i (seg ++ follow) s e = scan c (i + seg.length) follow s e := by
  induction seg generalizing i with
  | nil => simp
  | cons l b ih =>
    simp only [quietSeg, Bool.and_eq_true, beq_iff_eq] at h
    rw [List.cons_append, scan, h.1]
    simp only [hse, Bool.false_eq_true, if_false]
    rw [ih h.2 (i + 1), List.length_cons, Nat.add_assoc, Nat.add_comm 1]

theorem scan_quiet (c : Cfg) (seg follow : List Line) (h : quietSeg c seg follow = true)
    (i : Nat) (s : Option Nat) :
    scan c i (seg ++ follow) s none = scan c (i + seg.length) follow s none :=
  scan_quiet_gen c seg follow h i s none (by simp)

theorem scan_quiet_nil (c : Cfg) (seg : List Line) (h : quietSeg c seg [] = true)
    (i : Nat) (s e : Option Nat) (hse : (s.isSome && e.isSome) = false) :
    scan c i seg s e = some (s, e) := by
  have := scan_quiet_gen c seg [] h i s e hse
  rwa [List.append_nil] at this

theorem scan_start (c : Cfg) (i k : Nat) (l : Line) (rest : List Line) (s : Option Nat)
    (h : trigger c l rest = .start k) : scan c i (l :: rest) s none = scan c (i + 1) rest (some (i + k)) none := by
  rw [scan, h]
  rfl

theorem scan_stop (c : Cfg) (i k : Nat) (l : Line) (rest : List Line) (s : Option Nat)
    (h : trigger c l rest = .stop k) :
    scan c i (l :: rest) s none =
      if s.isSome then some (s, some (i + k)) else scan c (i + 1) rest s (some (i + k)) := by
  rw [scan, h]

theorem scan_noStop (c : Cfg) (seg follow : List Line) (h : noStopSeg c seg follow = true)
    (i : Nat) (s : Option Nat) :
    ∃ s', scan c i (seg ++ follow) s none = scan c (i + seg.length) follow s' none := by
  induction seg generalizing i s with
  | nil => exact ⟨s, by simp⟩
  | cons l b ih =>
    simp only [noStopSeg, Bool.and_eq_true] at h
    rw [List.cons_append, scan, List.length_cons, Nat.add_comm b.length, ← Nat.add_assoc]
    cases ht : trigger c l (b ++ follow) with
    | none =>
      simp only [Option.isSome_none, Bool.and_false, Bool.false_eq_true, if_false]
      exact ih h.2 (i + 1) s
    | start k =>
      simp only [Option.isSome_none, Bool.false_eq_true, if_false]
      exact ih h.2 (i + 1) (some (i + k))
    | stop k => rw [ht] at h; simp at h
    | raise => rw [ht] at h; simp at h

/-- `kernel[p+s : p+s+b]` of a five-part file is its body -/
theorem slice_body (pro sm body rest : List Line) :
    slice (pro ++ (sm ++ (body ++ rest)))
      (some (pro.length + sm.length), some (pro.length + sm.length + body.length)) = body := by
  simp only [slice, Option.getD_some, ← List.append_assoc, ← List.length_append, List.take_left, List.drop_left]

theorem reduceToSection_of_isa (lines : List Line) (isa : Txt) (c : Cfg) (k : List Line)
    (hc : lower isa = Gen.x86IsaName ∧ c = x86Cfg ∨ lower isa = Gen.a64IsaName ∧ c = a64Cfg)
    (h : reduceWith c lines = some k) : reduceToSection lines isa = .ok k := by
  unfold reduceToSection
  rcases hc with ⟨hi, rfl⟩ | ⟨hi, rfl⟩
  · simp [Gen.isaLowered, hi, h]
  · simp [Gen.isaLowered, hi, h, Gen.a64IsaName, Gen.x86IsaName]

/-! ### `match_bytes` -/

/-- the lines `bl` are `.byte` lines with integer literals, each of them needed (the bytes collected
    before it are fewer than the nop's), and together they start with the nop bytes -/
def byteRun (nop : List Int) : List Line → List Int → Bool
  | [], acc => acc.take nop.length == nop
  | l :: rest, acc =>
    isByteDir l && decide (acc.length < nop.length) &&
    match allInts (dirParams l) with
    | some vs => byteRun nop rest (acc ++ vs)
    | none => false

theorem take_eq_not_lt {nop acc : List Int} (h : acc.take nop.length = nop) : ¬ acc.length < nop.length := by
  intro hlt
  have := congrArg List.length h
  simp only [List.length_take] at this
  omega

theorem matchBytesGo_run (nop : List Int) (bl follow : List Line) (acc : List Int) (k : Nat)
    (h : byteRun nop bl acc = true) :
    matchBytesGo nop (bl ++ follow) acc k = .hit (k + bl.length) := by
  induction bl generalizing acc k with
  | nil =>
    simp only [byteRun, beq_iff_eq] at h
    simp only [List.nil_append, List.length_nil, Nat.add_zero]
    cases follow with
    | nil => simp [matchBytesGo, h]
    | cons f fs =>
      rw [matchBytesGo]
      have := take_eq_not_lt h
      simp [this, h]
  | cons l rest ih =>
    simp only [byteRun, Bool.and_eq_true, decide_eq_true_eq] at h
    obtain ⟨⟨hb, hlt⟩, hm⟩ := h
    rw [List.cons_append, matchBytesGo]
    simp only [hb, hlt, decide_true, Bool.and_self, if_true]
    cases hp : allInts (dirParams l) with
    | none => rw [hp] at hm; simp at hm
    | some vs =>
      rw [hp] at hm
      simp only
      rw [ih (acc ++ vs) (k + 1) hm, List.length_cons, Nat.add_assoc, Nat.add_comm 1]

theorem matchBytes_run (nop : List Int) (bl follow : List Line) (h : byteRun nop bl [] = true) :
    matchBytes (bl ++ follow) nop = .hit bl.length := by
  rw [matchBytes, matchBytesGo_run nop bl follow [] 0 h, Nat.zero_add]

/-! ### `--lines` helpers -/

theorem rangeInt_nat (a b : Nat) :
    rangeInt (a : Int) ((b : Int) + 1) = (List.range' a (b + 1 - a)).map (fun (n : Nat) => (n : Int)) := by
  unfold rangeInt
  have h : ((b : Int) + 1 - (a : Int)).toNat = b + 1 - a := Int.toNat_sub (b + 1) a
  rw [h, List.range'_eq_map_range, List.map_map]
  apply List.map_congr_left
  intro k _
  simp

theorem mem_map_natCast (l : List Nat) (n : Nat) : (n : Int) ∈ l.map (fun (k : Nat) => (k : Int)) ↔ n ∈ l := by
  rw [List.mem_map]
  constructor
  · rintro ⟨k, hk, h⟩
    exact Int.ofNat_inj.mp h ▸ hk
  · exact fun h => ⟨n, h, rfl⟩

theorem collect_somes (rs : List (List Int)) : collect (rs.map some) = some rs.flatten := by
  induction rs with
  | nil => rfl
  | cons r rest ih => simp [collect, ih]

end OsacaVerif.Marker
