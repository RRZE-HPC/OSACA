import OsacaVerif.Lemmas.A64Kinds
/-
  Vector and SVE registers `vN`, `vN.4s`, `zN.d`, `vN.s[1]` (prefix and shape in either case).
-/
namespace OsacaVerif.ParseA64
open OsacaVerif.Text OsacaVerif.Spec.A64 OsacaVerif.Gen

def lanesText (lanes : Option Txt) : Txt :=
  match lanes with
  | some l => l
  | none => []

def shapeText (lanes : Option Txt) (shape : Option Nat) : Txt :=
  match shape with
  | some s => 46 :: (lanesText lanes ++ [s])
  | none => []

theorem elemText_vec (p n : Nat) (lanes : Option Txt) (shape : Option Nat) :
    elemText (.vec p n lanes shape) = p :: (showNat n ++ shapeText lanes shape) := by
  cases shape <;> cases lanes <;> rfl

def LanesOk (lanes : Option Txt) : Prop := ∀ l, lanes = some l → l ≠ [] ∧ ∀ c ∈ l, isLaneC c = true
def ShapeOk (shape : Option Nat) : Prop := ∀ s, shape = some s → isAlphaC s = true

theorem lane_digit (c : Nat) (h : isLaneC c = true) : isDigitC c = true := by
  simp [isLaneC, A64.laneChars] at h
  rcases h with rfl | rfl | rfl | rfl | rfl <;> decide

theorem indexP_some (k : Nat) (rest : Txt) :
    indexP true (91 :: (showNat k ++ 93 :: rest)) = some (showNat k, rest) := by
  have hw := word_showNat k (93 :: rest) (stopsAt_head _ 93 rest (by decide))
  simp [indexP, lit, sk_true, skipWs, isWs, dropPrefix, hw]

theorem indexP_none (r : Txt) (h : lit true [91] r = none) : indexP true r = none := by
  simp [indexP, h]

theorem laneShape_none (r : Txt) (h : lit true [46] r = none) : laneShape true r = none := by
  simp [laneShape, h]

theorem laneShape_some (lanes : Option Txt) (s : Nat) (rest : Txt) (hl : LanesOk lanes) (hs : isAlphaC s = true) :
    laneShape true (shapeText lanes (some s) ++ rest) = some ((lanes, [s]), rest) := by
  have hsws := alpha_not_ws s hs
  have hstop : StopsAt isLaneC (s :: rest) := stopsAt_head _ s rest <| Bool.eq_false_iff.mpr
    fun hc => absurd (lane_digit s hc) (by rw [alpha_not_digit s hs]; decide)
  -- the optional lane count, up to the shape letter
  have hopt : optP true (word true isLaneC) (lanesText lanes ++ s :: rest) = (lanes, s :: rest) := by
    cases lanes with
    | none =>
      rw [lanesText, List.nil_append, optP_none _ _ _ (by rw [word, sk_true, skipWs_cons s _ hsws]; exact wordNS_none _ _ hstop),
        sk_true, skipWs_cons s _ hsws]
    | some l =>
      obtain ⟨hne, hall⟩ := hl l rfl
      match l, hne with
      | c :: l', _ =>
        have hcws := digit_not_ws c (lane_digit c (hall c List.mem_cons_self))
        exact optP_some _ _ _ _ _ (by
          rw [word, sk_true, lanesText, List.cons_append, skipWs_cons c _ hcws]
          exact wordNS_append isLaneC c l' _ hall hstop)
  have hlit : lit true [46] (shapeText lanes (some s) ++ rest) = some (lanesText lanes ++ (s :: rest)) := by
    simp [shapeText, lit, sk_true, skipWs, isWs, dropPrefix]
  simp [laneShape, hlit, hopt, char1, sk_true, skipWs_cons s _ hsws, charNS, hs]

/-- the element the grammar produces for a vector register as written (the register token is
    `RegTok.ofElem` of it) -/
def vecElem (p n : Nat) (lanes : Option Txt) (shape : Option Nat) (idx : Option Nat) : Elem :=
  { pre := some [p], name := some (showNat n),
    lanes := (match shape with | some _ => lanes | none => none),
    shape := (match shape with | some s => some [s] | none => none),
    index := (match idx with | some k => some (showNat k) | none => none) }

theorem lit_cons_ne (c a : Nat) (t : Txt) (hc : isWs c = false) (h : c ≠ a) : lit true [a] (c :: t) = none :=
  lit_head_ne [] c a t [] blank_nil hc h

/-! ### what stands behind the register number: the optional shape, the optional element index -/
/-- behind the optional element index no literal begins that begins neither the index nor what follows -/
theorem idx_lit_none (idx : Option Nat) (rest : Txt) (hf : Follow rest) (a : Nat)
    (ha : a ≠ 44 ∧ a ≠ 47 ∧ a ≠ 93 ∧ a ≠ 91) : lit true [a] (idxText idx ++ rest) = none := by
  cases idx with
  | some k => exact lit_cons_ne 91 a _ (by decide) (Ne.symm ha.2.2.2)
  | none => exact lit_none_of_follow rest hf a [] ⟨ha.1, ha.2.1, ha.2.2.1⟩

/-- … and no word of a class without `[` and the characters that may follow an operand -/
theorem idx_stops (p : Nat → Bool) (idx : Option Nat) (rest : Txt) (hf : Follow rest) (h91 : p 91 = false)
    (hp : p 32 = false ∧ p 9 = false ∧ p 44 = false ∧ p 47 = false ∧ p 93 = false) :
    StopsAt p (idxText idx ++ rest) := by
  cases idx with
  | some k => exact stopsAt_head p 91 _ h91
  | none => exact hf.stops p rest hp

theorem optP_laneShape (lanes : Option Txt) (shape : Option Nat) (R : Txt) (hl : LanesOk lanes)
    (hs : ShapeOk shape) (hR : lit true [46] R = none) :
    ∃ r', optP true (laneShape true) (shapeText lanes shape ++ R) =
        (shape.map fun s => (lanes, [s]), r') ∧ skipWs r' = skipWs R := by
  cases shape with
  | some s => exact ⟨R, optP_some _ _ _ _ _ (laneShape_some lanes s R hl (hs s rfl)), rfl⟩
  | none => exact ⟨skipWs R, optP_none _ _ _ (laneShape_none _ hR), skipWs_idem R⟩

/-- the optional index is read wherever the white space in front of it was skipped -/
theorem optP_index (idx : Option Nat) (rest r0 : Txt) (hf : Follow rest)
    (h0 : skipWs r0 = skipWs (idxText idx ++ rest)) :
    ∃ r', optP true (indexP true) r0 = (idx.map showNat, r') ∧ skipWs r' = skipWs rest := by
  have hind : indexP true r0 = indexP true (idxText idx ++ rest) := by
    simp only [indexP]; rw [← lit_skip, h0, lit_skip]
  cases idx with
  | none =>
    have hn : indexP true r0 = none := hind.trans (indexP_none _ (lit_none_of_follow rest hf 91 [] (by omega)))
    exact ⟨skipWs r0, optP_none _ _ _ hn, (skipWs_idem r0).trans h0⟩
  | some k =>
    have hk : indexP true r0 = some (showNat k, rest) := by
      rw [hind, idxText, List.cons_append, List.append_assoc]; exact indexP_some k rest
    exact ⟨rest, optP_some _ _ _ _ _ hk, rfl⟩

/-- `vector` of the grammar on a rendered vector register; `∃ r'`: a failed optional part swallows
    the white space behind the register -/
theorem vectorP_text (g : Txt) (p n : Nat) (lanes : Option Txt) (shape idx : Option Nat) (rest : Txt)
    (hg : Blank g) (hp : isVectorPrefixC p = true) (hl : LanesOk lanes) (hs : ShapeOk shape) (hf : Follow rest) :
    ∃ r', vectorP true (g ++ (p :: (showNat n ++ (shapeText lanes shape ++ (idxText idx ++ rest))))) =
      some (vecElem p n lanes shape idx, r') ∧ skipWs r' = skipWs rest := by
  have hpws := alpha_not_ws p (vectorPrefix_alpha p hp)
  have hstop : StopsAt isDigitC (shapeText lanes shape ++ (idxText idx ++ rest)) := by
    cases shape with
    | some s => exact stopsAt_head _ 46 _ (by decide)
    | none => exact idx_stops isDigitC idx rest hf (by decide) (by decide)
  have hchar : char1 true isVectorPrefixC (g ++ (p :: (showNat n ++ (shapeText lanes shape ++ (idxText idx ++ rest))))) =
      some (p, showNat n ++ (shapeText lanes shape ++ (idxText idx ++ rest))) := by
    simp [char1, sk_true, skipWs_blank_cons g p _ hg hpws, charNS, hp]
  obtain ⟨r1, hls, h1⟩ := optP_laneShape lanes shape (idxText idx ++ rest) hl hs
    (idx_lit_none idx rest hf 46 (by omega))
  obtain ⟨r', hix, h2⟩ := optP_index idx rest r1 hf h1
  refine ⟨r', ?_, h2⟩
  simp only [vectorP, hchar, word_showNat n _ hstop, hls, hix, vecElem]
  cases shape <;> cases idx <;> rfl

theorem vecText_assoc (p n : Nat) (lanes : Option Txt) (shape idx : Option Nat) (rest : Txt) :
    regText (.vec p n lanes shape idx) ++ rest =
      p :: (showNat n ++ (shapeText lanes shape ++ (idxText idx ++ rest))) := by
  simp [regText, elemText_vec, List.append_assoc]

theorem idRest_shapeText (lanes : Option Txt) (shape : Option Nat) (hl : LanesOk lanes) (hs : ShapeOk shape) :
    ∀ c ∈ shapeText lanes shape, isIdRestC c = true := by
  intro c hc
  cases shape with
  | none => simp [shapeText] at hc
  | some s =>
    simp only [shapeText, List.mem_cons, List.mem_append, List.not_mem_nil, or_false] at hc
    rcases hc with rfl | hc | rfl
    · decide
    · cases lanes with
      | none => simp [lanesText] at hc
      | some l => exact digit_idRest c (lane_digit c ((hl l rfl).2 c hc))
    · simp [isIdRestC, isAlnumC, hs c rfl]

/-- **vector / SVE register** in any operand slot (∀ register numbers, lanes, shapes, element indices) -/
theorem goodOp_vec (p n : Nat) (lanes : Option Txt) (shape idx : Option Nat) (hp : isVectorPrefixC p = true)
    (hl : LanesOk lanes) (hs : ShapeOk shape) :
    GoodOp false true (regText (.vec p n lanes shape idx)) (.reg (RegTok.ofElem (vecElem p n lanes shape idx))) := by
  have hal := vectorPrefix_alpha p hp
  have hpws := alpha_not_ws p hal
  obtain ⟨d, ds, hd, hdd⟩ := showNat_cons n
  have hw : ∀ c ∈ showNat n ++ shapeText lanes shape, isIdRestC c = true := by
    intro c hc
    rcases List.mem_append.mp hc with h | h
    · exact digit_idRest c (showNat_digits n c h)
    · exact idRest_shapeText lanes shape hl hs c h
  refine goodOp_reg _ _ p (showNat n ++ (shapeText lanes shape ++ idxText idx))
    (by simp [regText, elemText_vec]) hal (fun g rest hg hf => ?_)
  rw [vecText_assoc]
  obtain ⟨r', hv, hsk⟩ := vectorP_text g p n lanes shape idx rest hg hp hl hs hf
  -- the identifier reading stops in front of the element index
  have hstop := idx_stops isIdRestC idx rest hf (by decide) (by decide)
  have hplus := idx_lit_none idx rest hf 43 (by omega)
  have himm := immediate_word' g p (showNat n ++ shapeText lanes shape) (idxText idx ++ rest) hg (alpha_idFirst p hal) hw hstop hplus
  have hid := identifier_word' g p (showNat n ++ shapeText lanes shape) (idxText idx ++ rest) hg (alpha_idFirst p hal) hw hstop hplus
  simp only [List.append_assoc] at himm hid
  refine ⟨?_, ⟨_, skipWs (idxText idx ++ rest), himm, hid, ?_⟩, ?_, ?_⟩
  · refine registerP_of_core _ _ r' rest ?_ hsk hf rfl rfl
    rw [hd, List.cons_append] at hv ⊢
    rw [registerCore_snd_digit g p d _ hg hpws hdd, hv]
    rfl
  · cases idx with
    | none => simp [idxText]
    | some k =>
      have : skipWs (idxText (some k) ++ rest) = idxText (some k) ++ rest := by
        simp [idxText, skipWs, isWs]
      rw [this]
      have := skipWs_length_le rest
      simp [idxText]; omega
  · refine arithP_none _ _ _ himm fun r1 hl => ?_
    cases idx with
    | none => exact hf.noShift r1 (by rw [← lit_skip]; exact hl)
    | some k => simp [idxText, lit, sk_true, skipWs, isWs, dropPrefix] at hl
  · rw [hd, List.cons_append]; exact no_keyword_snd_digit g p d _ hg hpws hdd

theorem covered_vec (last fst : Bool) (p n : Nat) (lanes : Option Txt) (shape idx : Option Nat)
    (hp : isVectorPrefixC p = true) (hl : LanesOk lanes) (hs : ShapeOk shape) :
    CoveredOp last fst (.reg (.vec p n lanes shape idx)) := by
  refine (goodOp_vec p n lanes shape idx hp hl hs).covered rfl ?_
  simp only [processOperand, RegTok.ofElem, vecElem, showNat_ne_sp n, processRegister, expectOp, expectReg,
    expectElem]
  cases shape <;> cases idx <;> simp [lower, lowerTxt1, optMap]

end OsacaVerif.ParseA64
