import OsacaVerif.Model.History
import OsacaVerif.Spec.HistoryIndep
/-
  Helper lemmas for C18: a safe configuration never writes to the Db; what the one unsafe site
  does to it; runs of a step function that keeps an invariant under which it answers alike.
-/
namespace OsacaVerif.Spec.HistoryIndep

/-- a function with the two recursion equations of `runFrom` is `runFrom` -/
theorem eq_runFrom {σ ρ α : Type} {step : σ → ρ → σ × α} {run : σ → List ρ → σ × List α}
    (h0 : ∀ s, run s [] = (s, []))
    (hc : ∀ s r rs, run s (r :: rs) = ((run (step s r).1 rs).1, (step s r).2 :: (run (step s r).1 rs).2))
    (s : σ) (rs : List ρ) : run s rs = runFrom step s rs := by
  induction rs generalizing s with
  | nil => exact h0 s
  | cons r rs ih => rw [hc, ih, runFrom]

/-- a step function that keeps `I` and answers by `ans` wherever `I` holds answers by `ans`
    throughout every run from such a state -/
theorem runFrom_inv {σ ρ α : Type} {step : σ → ρ → σ × α} {I : σ → Prop} {ans : ρ → α}
    (h : ∀ s r, I s → I (step s r).1 ∧ (step s r).2 = ans r) (rs : List ρ) :
    ∀ s, I s → I (runFrom step s rs).1 ∧ (runFrom step s rs).2 = rs.map ans := by
  induction rs with
  | nil => exact fun _ hs => ⟨hs, rfl⟩
  | cons r rs ih =>
    intro s hs
    obtain ⟨h1, h2⟩ := h s r hs
    obtain ⟨h3, h4⟩ := ih _ h1
    exact ⟨h3, by rw [runFrom, List.map_cons, h2, h4]⟩

end OsacaVerif.Spec.HistoryIndep

namespace OsacaVerif.History
open OsacaVerif.Spec.HistoryIndep

theorem unsafe_cases {cfg : Cfg} (h : cfg.safe = false) :
    cfg.rmwInPlace = true ∧ cfg.loadByRef = true := by
  simpa [Cfg.safe] using h

theorem safe_cases {cfg : Cfg} (h : cfg.safe = true) :
    cfg.rmwInPlace = false ∨ cfg.loadByRef = false := by
  cases h1 : cfg.rmwInPlace
  · exact Or.inl rfl
  · exact Or.inr (by simpa [Cfg.safe, h1] using h)

theorem loadVal_own {cfg : Cfg} (h : cfg.loadByRef = false) (db : Db) (m : Mem) :
    ∃ u, loadVal cfg db m = .own u := by
  cases m <;> simp [loadVal, h]

/-- the only in-place extension is applied to a list of the analysis' own -/
theorem composeRmw_db {cfg : Cfg} (h : cfg.safe = true) (db : Db) (m : Mem) (s : Uops) :
    (composeRmw cfg db (loadVal cfg db m) s).1 = db := by
  unfold composeRmw
  split
  · next hi =>
    obtain ⟨u, hu⟩ := loadVal_own ((safe_cases h).resolve_left (by simp [hi])) db m
    rw [hu]
    rfl
  · split <;> rfl

theorem stepIns_db {cfg : Cfg} (h : cfg.safe = true) (db : Db) (i : Ins) : (stepIns cfg db i).1 = db := by
  cases i <;> simp [stepIns, composeRmw_db h]

theorem step_db {cfg : Cfg} (h : cfg.safe = true) (st : Db × List Row) (l : Line) :
    (step cfg st l).1 = st.1 := stepIns_db h st.1 l.ins

theorem semantics_db {cfg : Cfg} (h : cfg.safe = true) (db : Db) (k : Kernel) :
    (semantics cfg db k).1 = db := by
  suffices ∀ st : Db × List Row, (k.foldl (step cfg) st).1 = st.1 from this _
  induction k with
  | nil => exact fun _ => rfl
  | cons l ls ih => exact fun st => (ih _).trans (step_db h st l)

/-- The unsafe site at work: extending the table's own list in place, a load+store line with load
    entry `i` appends its store micro-ops to `loads[i]` of the Db, and the report reads the row
    through the reference. -/
theorem analyse_rmw_unsafe {cfg : Cfg} (h : cfg.safe = false) (db : Db) (k i : Nat) (ms : Mem) :
    analyse cfg db [⟨.rmw k (.entry i) ms, none⟩] =
      let db' := db.write (.load i) (db.read (.load i) ++ storeUops db ms)
      (db', [⟨true, db'.read (.form k) ++ db'.read (.load i), []⟩]) := by
  obtain ⟨h1, h2⟩ := unsafe_cases h
  simp [analyse, semantics, step, stepIns, composeRmw, loadVal, extendInPlace, h1, h2, Row.show,
    Val.get, hidVal]

theorem analyse_rmw_unsafe_ne {cfg : Cfg} (h : cfg.safe = false) (db : Db) (k i : Nat) (ms : Mem)
    (hi : i < db.loads.length) (hs : storeUops db ms ≠ []) :
    (analyse cfg db [⟨.rmw k (.entry i) ms, none⟩]).1 ≠ db := by
  rw [analyse_rmw_unsafe h]
  intro e
  have e' : (db.loads.set i (db.loads.getD i [] ++ storeUops db ms))[i]? = db.loads[i]? :=
    congrArg (·.loads[i]?) e
  rw [List.getElem?_set_self hi, List.getD_eq_getElem?_getD, List.getElem?_eq_getElem hi] at e'
  exact hs (List.append_right_eq_self.mp (Option.some.inj e'))

theorem loadModel_fresh (cfg : Cfg) (disk : Nat → Db) (path : Nat) :
    loadModel cfg disk Proc.fresh path = disk path := by
  unfold loadModel
  split <;> rfl

end OsacaVerif.History
