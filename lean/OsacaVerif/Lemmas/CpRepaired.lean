import OsacaVerif.Model.CpMark
import OsacaVerif.Lemmas.CritPath
/-
  Helper development for C04, repaired `get_critical_path` (`LCD.cpTable` / `LCD.cpStep` /
  `LCD.cpTotal`, marking in `Model/CpMark.lean`): the one-pass table of the code is, row by row, the
  table of the declarative dynamic programme `Spec.longestChain`; hence the reported total is the
  longest-chain value.  The walk back along the predecessor pointers follows the chain behind that
  value: the marked lines form a dependency chain whose length is the total.  Last: the graph
  `DG.create` builds satisfies the hypotheses these facts are stated under.
-/
namespace OsacaVerif.LCD
open OsacaVerif OsacaVerif.DG OsacaVerif.Spec

/-! ### the pieces of `cpStep` -/

/-- the candidates of `cpStep`: one per dependency edge into `line` whose source already has a row -/
def cpCands (es : List Edge) (acc : List CpRow) (line : Nat) : List (Rat × Nat) :=
  es.filterMap fun e =>
    if !e.src.load && !e.dst.load && e.dst.line == line then
      (acc.find? (·.line == e.src.line)).map fun r => (r.carried.1 + e.w, e.src.line)
    else none

/-- `carried` of `cpStep`: the better of the best longer chain and the own load stage -/
def carriedOf (ls : Rat) : Option (Rat × Nat) → Rat × Option Nat
  | some (v, p) => if ls < v then (v, some p) else (ls, none)
  | none => (ls, none)

/-- the row `cpStep` appends for instruction `i`: `cpStep es acc i = acc ++ [newRow es acc i]`, so that
    `cpTable k es = Spec.rowsOf (newRow es) k` (both by `rfl`) -/
def newRow (es : List Edge) (acc : List CpRow) (i : Ins) : CpRow :=
  { line := i.line, longer := firstMax (cpCands es acc i.line),
    carried := carriedOf (loadEdgeOf es i.line) (firstMax (cpCands es acc i.line)) }

theorem cpTable_snoc (pre : List Ins) (i : Ins) (es : List Edge) :
    cpTable (pre ++ [i]) es = cpTable pre es ++ [newRow es (cpTable pre es) i] :=
  rowsOf_snoc (newRow es) pre i

theorem cpTable_nil (es : List Edge) : cpTable [] es = [] := rfl

theorem cpTable_lines (k : List Ins) (es : List Edge) :
    (cpTable k es).map (·.line) = k.map (·.line) :=
  rowsOf_map (newRow es) (·.line) (·.line) (fun _ _ => rfl) k

theorem cpTable_forall (k : List Ins) (es : List Edge) (P : CpRow → Prop)
    (hstep : ∀ pre i post, k = pre ++ i :: post → (∀ r ∈ cpTable pre es, P r) →
      P (newRow es (cpTable pre es) i)) :
    ∀ r ∈ cpTable k es, P r :=
  rowsOf_forall (newRow es) k P hstep

/-! ### `firstMax`: a member, its value the maximum, and where a chosen candidate comes from -/

theorem firstMax_mem (l : List (Rat × Nat)) (x : Rat × Nat) (h : firstMax l = some x) : x ∈ l := by
  cases l with
  | nil => cases h
  | cons c cs =>
    have hm := (foldl_argmax (·.1) cs c).1
    rw [Option.some.inj (h : some _ = some x)] at hm
    exact hm

theorem firstMax_map_fst (l : List (Rat × Nat)) : (firstMax l).map (·.1) = maxR (l.map (·.1)) := by
  cases l with
  | nil => rfl
  | cons c cs =>
    obtain ⟨hm, hge⟩ := foldl_argmax (·.1) cs c
    exact (maxR_eq_some_iff.mpr ⟨List.mem_map_of_mem hm, List.forall_mem_map.mpr hge⟩).symm

theorem node_eq {n : Node} {l : Nat} {b : Bool} (h1 : n.line = l) (h2 : n.load = b) : n = ⟨l, b⟩ := by
  cases n; simp_all

/-- `Enters es T c a q`: the value `c` with which the chain behind a table entry arrives at line `a`,
    coming from `q` — from the row of line `p` along an edge `p → a` of `es` (`q = some p`), or from
    the load stage of `a` itself (`q = none`: the chain starts at `a`) -/
def Enters (es : List Edge) (T : List CpRow) (c : Rat) (a : Nat) : Option Nat → Prop
  | some p => ∃ e ∈ es, e.src = ⟨p, false⟩ ∧ e.dst = ⟨a, false⟩ ∧
      ∃ rp, T.find? (·.line == p) = some rp ∧ c = rp.carried.1 + e.w
  | none => c = loadEdgeOf es a

/-- where the `longer` entry of a new row comes from -/
theorem firstMax_cpCands {es : List Edge} {acc : List CpRow} {line : Nat} {v : Rat} {p : Nat}
    (h : firstMax (cpCands es acc line) = some (v, p)) : Enters es acc v line (some p) := by
  obtain ⟨e, he, hval⟩ := List.mem_filterMap.mp (firstMax_mem _ _ h)
  split at hval
  · rename_i hc
    simp only [Bool.and_eq_true, Bool.not_eq_true', beq_iff_eq] at hc
    obtain ⟨r, hr, hv⟩ := Option.map_eq_some_iff.mp hval
    obtain ⟨hv, hp⟩ := Prod.mk.inj hv
    exact ⟨e, he, node_eq hp hc.1.1, node_eq hc.2 hc.1.2, r, hp ▸ hr, hv.symm⟩
  · cases hval

/-! ### rows of the code's table = rows of the oracle's table -/

/-- what the oracle keeps of a row: line, value of `longer`, value of `carried` -/
def toSpec (r : CpRow) : Nat × Option Rat × Rat := (r.line, r.longer.map (·.1), r.carried.1)

theorem find_toSpec (T : List CpRow) (l : Nat) :
    (T.map toSpec).find? (·.1 == l) = (T.find? (·.line == l)).map toSpec := by
  rw [List.find?_map]; rfl

theorem cands_corr (es : List Edge) (T : List CpRow) (line : Nat) :
    (cpCands es T line).map (·.1) =
      (wedgesOf es).filterMap fun e =>
        if e.dst == line then ((T.map toSpec).find? (·.1 == e.src)).map (fun t => t.2.2 + e.w) else none := by
  unfold cpCands wedgesOf
  rw [List.map_filterMap, List.filterMap_filterMap]
  apply List.filterMap_congr
  intro e _
  cases hc : (!e.src.load && !e.dst.load)
  · rfl
  · simp only [Bool.true_and, if_true, Option.bind_some, find_toSpec]
    split
    · cases List.find? (fun x => x.line == e.src.line) T <;> rfl
    · rfl

theorem carriedOf_fst (ls : Rat) (o : Option (Rat × Nat)) :
    (carriedOf ls o).1 = bOf (o.map (·.1)) ls := by
  cases o with
  | none => rfl
  | some x =>
    obtain ⟨v, p⟩ := x
    simp only [carriedOf, bOf, Option.map_some]
    rcases lt_trichotomy ls v with h | h | h
    · rw [if_pos h, if_neg (not_lt.mpr (le_of_lt h))]
    · rw [if_neg (h ▸ lt_irrefl _), if_neg (h ▸ lt_irrefl _), h]
    · rw [if_neg (not_lt.mpr (le_of_lt h)), if_pos h]

/-- the code's load stage (weight of the edge from the load node) is the oracle's load stage
    (`lat − latWoLoad` for an instruction with a separate load node) on every line of the kernel -/
def LoadStagesAgree (k : List Ins) (es : List Edge) : Prop :=
  ∀ i ∈ k, loadEdgeOf es i.line = loadStageOf i

instance (k : List Ins) (es : List Edge) : Decidable (LoadStagesAgree k es) := by
  unfold LoadStagesAgree; infer_instance

/-- all edge weights are non-negative -/
def NonnegWeights (es : List Edge) : Prop := ∀ e ∈ es, 0 ≤ e.w

instance (es : List Edge) : Decidable (NonnegWeights es) := by unfold NonnegWeights; infer_instance

/-- **the two tables are the same table**: `carried.1 = b`, `longer.map (·.1) = ext`, row by row -/
theorem cpTable_eq_table (k : List Ins) (es : List Edge) (hls : LoadStagesAgree k es) :
    (cpTable k es).map toSpec = table (infosOf k) (wedgesOf es) := by
  induction k using List.reverseRecOn with
  | nil => rfl
  | append_singleton pre i ih =>
    have ih := ih fun j hj => hls j (List.mem_append_left _ hj)
    have hinf : infosOf (pre ++ [i]) = infosOf pre ++ [⟨i.line, i.lat, loadStageOf i⟩] := by
      simp [infosOf]
    have hext : extOf (wedgesOf es) (table (infosOf pre) (wedgesOf es)) i.line =
        (firstMax (cpCands es (cpTable pre es) i.line)).map (·.1) := by
      rw [firstMax_map_fst, cands_corr, ih]; rfl
    rw [cpTable_snoc, hinf, table_snoc, List.map_append, ih]
    simp only [List.map_cons, List.map_nil, toSpec, newRow, rowT, hext, carriedOf_fst,
      hls i (by simp)]

/-! ### non-negativity of the table values -/

theorem loadEdgeOf_nonneg (es : List Edge) (hw : NonnegWeights es) (l : Nat) : 0 ≤ loadEdgeOf es l := by
  unfold loadEdgeOf
  cases h : es.find? (fun e => e.src == ⟨l, true⟩ && e.dst == ⟨l, false⟩) with
  | none => exact le_refl _
  | some e => exact hw e (List.mem_of_find?_eq_some h)

theorem cpTable_nonneg (k : List Ins) (es : List Edge) (hw : NonnegWeights es) :
    ∀ r ∈ cpTable k es, 0 ≤ r.carried.1 ∧ ∀ x, r.longer = some x → 0 ≤ x.1 := by
  apply cpTable_forall
  intro pre i post _ hT
  refine ⟨le_trans (loadEdgeOf_nonneg es hw i.line) ?_, fun x hx => ?_⟩
  · rw [newRow, carriedOf_fst]; exact bOf_ge_stage _ _
  · obtain ⟨e, he, _, _, r, hr, hv⟩ := firstMax_cpCands hx
    rw [hv]
    exact add_nonneg (hT r (List.mem_of_find?_eq_some hr)).1 (hw e he)

/-! ### the reported total is the oracle's value -/

theorem cpTotal_eq_maxOr0 (k : List Ins) (es : List Edge) :
    cpTotal k es = maxOr0 (k.map (chainLengthAt k (cpTable k es))) := by
  unfold cpTotal maxOr0 maxR
  simp only
  cases k.map (chainLengthAt k (cpTable k es)) <;> rfl

theorem lat_le_cpTotal (k : List Ins) (es : List Edge) (hw : NonnegWeights es) (i : Ins) (hi : i ∈ k) :
    i.lat ≤ cpTotal k es := by
  rw [cpTotal_eq_maxOr0]
  refine le_trans ?_ (maxOr0_ge _ _ (List.mem_map_of_mem hi))
  rw [chainLengthAt]
  cases h : ((cpTable k es).find? (·.line == i.line)).bind (·.longer) with
  | none => exact le_of_eq (zero_add _).symm
  | some x =>
    obtain ⟨r, hr, hx⟩ := Option.bind_eq_some_iff.mp h
    exact le_add_of_nonneg_left ((cpTable_nonneg k es hw r (List.mem_of_find?_eq_some hr)).2 x hx)

theorem chainLengthAt_eq_endValue (k : List Ins) (T : List CpRow)
    (hnn : ∀ r ∈ T, ∀ x, r.longer = some x → 0 ≤ x.1) (i : Ins) (st : Rat) :
    chainLengthAt k T i = endValue (T.map toSpec) ⟨i.line, i.lat, st⟩ := by
  have hfind : (T.map toSpec).find? (·.1 == (⟨i.line, i.lat, st⟩ : LatInfo).line) =
      (T.find? (·.line == i.line)).map toSpec := find_toSpec T i.line
  unfold chainLengthAt
  cases h : T.find? (·.line == i.line) with
  | none => rw [h] at hfind; rw [endValue, hfind]; exact zero_add _
  | some r =>
    rw [h] at hfind
    rw [endValue_of_find hfind]
    cases hl : r.longer with
    | none => simp only [toSpec, hl, Option.bind_some, Option.map_none]; exact zero_add _
    | some x =>
      have := hnn r (List.mem_of_find?_eq_some h) x hl
      simp only [toSpec, hl, Option.bind_some, Option.map_some]
      exact (max_eq_right (le_add_of_nonneg_left this)).symm

/-! ### the marking (`Model/CpMark.lean`): rows and their predecessor pointers -/

theorem cpTable_carried (k : List Ins) (es : List Edge) :
    ∀ r ∈ cpTable k es, r.carried = carriedOf (loadEdgeOf es r.line) r.longer := by
  apply cpTable_forall
  intro pre i post _ _
  rfl

theorem cpTable_longer (k : List Ins) (es : List Edge) :
    ∀ r ∈ cpTable k es, ∀ v p, r.longer = some (v, p) →
      ∃ e ∈ es, e.src = ⟨p, false⟩ ∧ e.dst = ⟨r.line, false⟩ ∧
        ∃ rp, (cpTable k es).find? (·.line == p) = some rp ∧ v = rp.carried.1 + e.w := by
  apply cpTable_forall
  intro pre i post hsplit _ v p hl
  obtain ⟨e, he, hs, hd, rp, hrp, hv⟩ := firstMax_cpCands hl
  refine ⟨e, he, hs, hd, rp, ?_, hv⟩
  obtain ⟨tl, htl⟩ : ∃ tl, cpTable (pre ++ i :: post) es =
      cpTable pre es ++ newRow es (cpTable pre es) i :: tl := rowsOf_split (newRow es) pre i post
  rw [hsplit, htl, List.find?_append, hrp]
  rfl

theorem cpTable_longer_lt (k : List Ins) (es : List Edge) (hnd : (k.map (·.line)).Nodup) :
    ∀ r ∈ cpTable k es, ∀ v p, r.longer = some (v, p) →
      (k.map (·.line)).idxOf p < (k.map (·.line)).idxOf r.line := by
  apply cpTable_forall
  intro pre i post hsplit _ v p hl
  obtain ⟨_, _, _, _, rp, hrp, _⟩ := firstMax_cpCands hl
  rw [hsplit, List.map_append, List.map_cons] at hnd ⊢
  refine (idxOf_lt_mid hnd).mpr ?_
  rw [← cpTable_lines pre es]
  exact List.mem_map.mpr ⟨rp, List.mem_of_find?_eq_some hrp, by simpa using List.find?_some hrp⟩

theorem carriedOf_snd_some (ls : Rat) (o : Option (Rat × Nat)) (p : Nat)
    (h : (carriedOf ls o).2 = some p) : ∃ v, o = some (v, p) := by
  cases o with
  | none => cases h
  | some x =>
    obtain ⟨v, q⟩ := x
    simp only [carriedOf] at h
    split at h
    · exact ⟨v, by rw [Option.some.inj h]⟩
    · cases h

/-- the `carried` value of a row arrives from where its pointer says -/
theorem enters_carried (k : List Ins) (es : List Edge) (r : CpRow) (hr : r ∈ cpTable k es) :
    Enters es (cpTable k es) r.carried.1 r.line r.carried.2 := by
  rw [cpTable_carried k es r hr]
  cases hl : r.longer with
  | none => exact rfl
  | some x =>
    obtain ⟨v, p⟩ := x
    simp only [carriedOf]
    split
    · exact cpTable_longer k es r hr v p hl
    · exact rfl

theorem cpPredOf_some (T : List CpRow) (p p' : Nat) (h : cpPredOf T p = some p') :
    ∃ rp ∈ T, rp.line = p ∧ T.find? (·.line == p) = some rp ∧ rp.carried.2 = some p' := by
  unfold cpPredOf at h
  cases hf : T.find? (·.line == p) with
  | none => rw [hf] at h; cases h
  | some rp =>
    rw [hf] at h
    exact ⟨rp, List.mem_of_find?_eq_some hf, by simpa using List.find?_some hf, rfl, h⟩

theorem cpPredOf_edge (k : List Ins) (es : List Edge) (p p' : Nat)
    (h : cpPredOf (cpTable k es) p = some p') :
    ∃ e ∈ es, e.src = ⟨p', false⟩ ∧ e.dst = ⟨p, false⟩ ∧
      ∃ rp rp', (cpTable k es).find? (·.line == p) = some rp ∧
        (cpTable k es).find? (·.line == p') = some rp' ∧ rp.carried.1 = rp'.carried.1 + e.w := by
  obtain ⟨rp, hrp, hline, hfind, hc⟩ := cpPredOf_some _ p p' h
  have := enters_carried k es rp hrp
  rw [hc, hline] at this
  obtain ⟨e, he, hs, hd, rp', hfind', hv⟩ := this
  exact ⟨e, he, hs, hd, rp, rp', hfind, hfind', hv⟩

theorem cpPredOf_lt (k : List Ins) (es : List Edge) (hnd : (k.map (·.line)).Nodup) (p p' : Nat)
    (h : cpPredOf (cpTable k es) p = some p') :
    (k.map (·.line)).idxOf p' < (k.map (·.line)).idxOf p := by
  obtain ⟨rp, hrp, hline, _, hc⟩ := cpPredOf_some _ p p' h
  rw [cpTable_carried k es rp hrp] at hc
  obtain ⟨v, hl⟩ := carriedOf_snd_some _ _ _ hc
  exact hline ▸ cpTable_longer_lt k es hnd rp hrp v p' hl

/-! ### the walk back -/

theorem cpBack_none (T : List CpRow) (fuel : Nat) (acc : List Nat) : cpBack T fuel none acc = acc := by
  cases fuel <;> rfl

/-- an invariant of the loop holds of its result; if some measure decreases along the pointers and
    starts below the fuel, the loop has ended at `None` -/
theorem cpBack_inv (T : List CpRow) (Inv : Option Nat → List Nat → Prop)
    (hstep : ∀ p acc, Inv (some p) acc → Inv (cpPredOf T p) (p :: acc)) :
    ∀ fuel q acc, Inv q acc → ∃ q', Inv q' (cpBack T fuel q acc) ∧
      ∀ μ : Nat → Nat, (∀ p p', cpPredOf T p = some p' → μ p' < μ p) →
        (∀ p, q = some p → μ p < fuel) → q' = none := by
  intro fuel
  induction fuel with
  | zero =>
    intro q acc h
    refine ⟨q, h, fun μ _ hq => ?_⟩
    cases q with
    | none => rfl
    | some p => exact absurd (hq p rfl) (Nat.not_lt_zero _)
  | succ fuel ih =>
    intro q acc h
    cases q with
    | none => exact ⟨none, h, fun _ _ _ => rfl⟩
    | some p =>
      obtain ⟨q', h', hq'⟩ := ih _ _ (hstep p acc h)
      refine ⟨q', h', fun μ hμ hq => hq' μ hμ fun p' hp' => ?_⟩
      have := hμ p p' hp'
      have := hq p rfl
      omega

/-! ### `cpLast` attains the maximum -/

theorem cpLast_none (k : List Ins) (T : List CpRow) (h : cpLast k T = none) : k = [] := by
  cases k with
  | nil => rfl
  | cons i is => cases h

theorem cpLast_spec (k : List Ins) (es : List Edge) (i : Ins) (h : cpLast k (cpTable k es) = some i) :
    i ∈ k ∧ cpTotal k es = chainLengthAt k (cpTable k es) i := by
  cases k with
  | nil => cases h
  | cons j js =>
    obtain ⟨hm, hge⟩ := foldl_argmax (chainLengthAt (j :: js) (cpTable (j :: js) es)) js j
    rw [Option.some.inj (h : some _ = some i)] at hm hge
    refine ⟨hm, ?_⟩
    rw [cpTotal_eq_maxOr0, maxOr0,
      maxR_eq_some_iff.mpr ⟨List.mem_map_of_mem hm, List.forall_mem_map.mpr hge⟩]
    rfl

/-! ### the marked lines form the chain behind the total -/

/-- the instruction node of a line -/
def instrNode (l : Nat) : Node := ⟨l, false⟩

/- `Model/CpMark.lean` has its own copies of the two look-ups of `cpReport`; below they are `latOfK`, `edgeW` -/
theorem cpLatOf_eq (k : List Ins) (l : Nat) : cpLatOf k l = latOfK k l := rfl

theorem cpEdgeW_eq (es : List Edge) (a b : Nat) :
    cpEdgeW es a b = edgeW es (instrNode a) (instrNode b) := rfl

/-- each (source, target) pair occurs once in the edge list (as in a networkx graph) -/
def UniquePairs (es : List Edge) : Prop := (es.map pairOf).Nodup

instance (es : List Edge) : Decidable (UniquePairs es) := by unfold UniquePairs; infer_instance

theorem edgeW_eq (es : List Edge) (hu : UniquePairs es) (e : Edge) (he : e ∈ es) :
    edgeW es e.src e.dst = e.w := by
  -- `==` on pairs is `&&` of the components' `==`, so `edgeW` looks the edge up by its pair
  rw [edgeW, show (fun e' : Edge => e'.src == e.src && e'.dst == e.dst) = fun e' => pairOf e' == pairOf e
    from rfl, find?_of_nodup_key pairOf es hu e he]

theorem pathW_instr_cons (es : List Edge) (a b : Nat) (rest : List Nat) :
    pathW (edgeW es) ((a :: b :: rest).map instrNode) =
      edgeW es (instrNode a) (instrNode b) + pathW (edgeW es) ((b :: rest).map instrNode) :=
  pathW_cons₂ _ _ _ _

/-- **the walk back follows the chain behind the total**: for a non-empty kernel it yields a path
    `a :: rest` ending at an instruction `i` whose consecutive lines are linked by an edge of `es` between
    their instruction nodes, all of them lines of the kernel (any edge list); in a kernel with distinct
    lines (then the fuel suffices) and with unique pairs, the reported total is the load stage of `a`
    (if the path has ≥ 2 lines) + the edge weights along the path + the latency of `i` -/
theorem cpPath_spec (k : List Ins) (es : List Edge) (hne : k ≠ []) :
    ∃ i ∈ k, ∃ a rest, cpPath k es = a :: rest ∧ isPath es ((a :: rest).map instrNode) = true ∧
      (∀ l ∈ a :: rest, l ∈ k.map (·.line)) ∧ lastLine ((a :: rest).map instrNode) = i.line ∧
      ((k.map (·.line)).Nodup → UniquePairs es → cpTotal k es =
        (if rest = [] then 0 else loadEdgeOf es a) + pathW (edgeW es) ((a :: rest).map instrNode) + i.lat) := by
  obtain ⟨i, hlast⟩ : ∃ i, cpLast k (cpTable k es) = some i := by
    cases h : cpLast k (cpTable k es) with
    | none => exact absurd (cpLast_none k _ h) hne
    | some i => exact ⟨i, rfl⟩
  obtain ⟨hik, htot⟩ := cpLast_spec k es i hlast
  refine ⟨i, hik, ?_⟩
  rw [htot]
  have hi : i.line ∈ k.map (·.line) := List.mem_map_of_mem hik
  obtain ⟨r, hr, hrl, hfr⟩ := find?_of_mem_keys (fun r : CpRow => r.line) (cpTable k es) i.line
    (by rw [cpTable_lines]; exact hi)
  have hpath : cpPath k es = cpBack (cpTable k es) k.length (r.longer.map (·.2)) [i.line] := by
    rw [cpPath]; simp only [hlast, hfr, Option.bind_some]
  have hcl : chainLengthAt k (cpTable k es) i =
      (match r.longer with | some (v, _) => v | none => 0) + i.lat := by
    rw [chainLengthAt, hfr]; rfl
  cases hl : r.longer with
  | none =>
    rw [hl, Option.map_none, cpBack_none] at hpath
    refine ⟨i.line, [], hpath, rfl, fun l hl => List.mem_singleton.mp hl ▸ hi, rfl, fun _ _ => ?_⟩
    rw [hcl, hl, if_pos rfl]
    exact congrArg (· + i.lat) (add_zero 0).symm
  | some x =>
    obtain ⟨v0, p0⟩ := x
    rw [hl, Option.map_some] at hpath
    -- invariant of the walk: `acc = a :: rest` is such a path, some value `c` enters `a` from the
    -- pointer `q`, and `c` + the edge weights along `acc` is `v0`, the `longer` value of the last line
    let Inv : Option Nat → List Nat → Prop := fun q acc =>
      ∃ a rest c, acc = a :: rest ∧ isPath es (acc.map instrNode) = true ∧
        (∀ l ∈ acc, l ∈ k.map (·.line)) ∧ lastLine (acc.map instrNode) = i.line ∧
        Enters es (cpTable k es) c a q ∧ (q = none → rest ≠ []) ∧
        (UniquePairs es → c + pathW (edgeW es) (acc.map instrNode) = v0)
    have hinit : Inv (some p0) [i.line] :=
      ⟨i.line, [], v0, rfl, rfl, fun l hl => List.mem_singleton.mp hl ▸ hi, rfl,
        hrl ▸ cpTable_longer k es r hr v0 p0 hl, nofun, fun _ => add_zero v0⟩
    have hstep : ∀ p acc, Inv (some p) acc → Inv (cpPredOf (cpTable k es) p) (p :: acc) := by
      rintro p _ ⟨a, rest, c, rfl, hp, hlines, hlst, ⟨e, he, hs, hd, rp, hfp, hc⟩, _, hval⟩
      have hrpm := List.mem_of_find?_eq_some hfp
      have hrpl : rp.line = p := by simpa using List.find?_some hfp
      refine ⟨p, a :: rest, rp.carried.1, rfl, ?_, ?_, hlst, ?_, fun _ => List.cons_ne_nil _ _,
        fun hu => ?_⟩
      · exact (isPath_cons₂ es _ _ _).mpr ⟨⟨e, he, hs, hd⟩, hp⟩
      · refine List.forall_mem_cons.mpr ⟨?_, hlines⟩
        rw [← hrpl, ← cpTable_lines k es]
        exact List.mem_map_of_mem hrpm
      · rw [show cpPredOf (cpTable k es) p = rp.carried.2 by rw [cpPredOf, hfp]; rfl, ← hrpl]
        exact enters_carried k es rp hrpm
      · have hw := edgeW_eq es hu e he
        rw [hs, hd] at hw
        rw [← hval hu, hc, pathW_instr_cons, show edgeW es (instrNode p) (instrNode a) = e.w from hw]
        exact (add_assoc _ _ _).symm
    obtain ⟨q', ⟨a, rest, c, hres, hp, hlines, hlst, hen, hne, hval⟩, hterm⟩ :=
      cpBack_inv (cpTable k es) Inv hstep k.length (some p0) [i.line] hinit
    rw [← hpath] at hres hp hlines hlst hval
    refine ⟨a, rest, hres, hres ▸ hp, hres ▸ hlines, hres ▸ hlst, fun hnd hu => ?_⟩
    -- the position in the kernel decreases along the pointers and starts below the fuel `k.length`
    obtain rfl : q' = none := hterm (fun p => (k.map (·.line)).idxOf p) (cpPredOf_lt k es hnd) (by
      intro p hp
      obtain rfl := Option.some.inj hp
      have h1 := cpTable_longer_lt k es hnd r hr v0 p0 hl
      have h2 := List.idxOf_le_length (a := r.line) (l := k.map (·.line))
      rw [List.length_map] at h2
      omega)
    rw [hcl, hl, if_neg (hne rfl), ← hres, ← hval hu, show c = loadEdgeOf es a from hen]

/-- **`cp_lines_form_chain`, core**: consecutive lines of `cpPath` are linked by an edge of `es`
    between their instruction nodes (any kernel, any edge list) -/
theorem cpPath_isPath (k : List Ins) (es : List Edge) :
    isPath es ((cpPath k es).map instrNode) = true := by
  rcases eq_or_ne k [] with rfl | hne
  · rfl
  · obtain ⟨i, _, a, rest, hp, h, _⟩ := cpPath_spec k es hne
    rw [hp]; exact h

theorem cpPath_lines (k : List Ins) (es : List Edge) : ∀ l ∈ cpPath k es, l ∈ k.map (·.line) := by
  rcases eq_or_ne k [] with rfl | hne
  · exact fun l hl => absurd hl List.not_mem_nil
  · obtain ⟨i, _, a, rest, hp, _, h, _⟩ := cpPath_spec k es hne
    rw [hp]; exact h

theorem cpPath_sorted (k : List Ins) (es : List Edge) (hfw : ForwardEdges es) :
    (cpPath k es).Pairwise (· < ·) := by
  have hp := cpPath_isPath k es
  cases hc : cpPath k es with
  | nil => simp
  | cons a rest =>
    rw [hc] at hp
    have := (instr_path_sorted es hfw (instrNode a) (rest.map instrNode) (by simpa using hp) rfl).2
    simpa [List.map_map, Function.comp_def, instrNode] using this

/-! ### the per-line CP latencies add up to the total -/

/-- the marks along a path are the assignments `entries` (`Lemmas/CritPath.lean`) along its instruction
    nodes -/
theorem cpMarksFrom_eq (k : List Ins) (es : List Edge) (path : List Nat) :
    cpMarksFrom k es path = entries (latOfK k) (edgeW es) (path.map instrNode) := by
  induction path using cpMarksFrom.induct with
  | case1 => rfl
  | case2 a => rw [cpMarksFrom, cpLatOf_eq]; rfl
  | case3 a b rest ih => rw [cpMarksFrom, ih, cpEdgeW_eq]; rfl

/-- `cpMarks` as a function of the path -/
def marksOf (k : List Ins) (es : List Edge) (path : List Nat) : List (Nat × Rat) :=
  match path with
  | a :: b :: rest => (a, loadEdgeOf es a + cpEdgeW es a b) :: cpMarksFrom k es (b :: rest)
  | p => cpMarksFrom k es p

theorem cpMarks_eq (k : List Ins) (es : List Edge) : cpMarks k es = marksOf k es (cpPath k es) := rfl

theorem cpMarks_lines (k : List Ins) (es : List Edge) : (cpMarks k es).map (·.1) = cpPath k es := by
  have h : ∀ path, (cpMarksFrom k es path).map (·.1) = path := fun path => by
    rw [cpMarksFrom_eq, entries_keys, List.map_map]; exact List.map_id _
  rw [cpMarks_eq]
  match cpPath k es with
  | [] => rfl
  | [a] => rfl
  | a :: b :: rest => exact congrArg (a :: ·) (h (b :: rest))

theorem marksOf_sum (k : List Ins) (es : List Edge) (a : Nat) (rest : List Nat) :
    ((marksOf k es (a :: rest)).map (·.2)).sum =
      (if rest = [] then 0 else loadEdgeOf es a) + pathW (edgeW es) ((a :: rest).map instrNode) +
        latOfK k (lastLine ((a :: rest).map instrNode)) := by
  cases rest with
  | nil =>
    rw [if_pos rfl, zero_add]
    exact (congrArg (fun m => (m.map (·.2)).sum) (cpMarksFrom_eq k es [a])).trans
      (entries_sum _ _ _ (List.cons_ne_nil _ _))
  | cons b rest =>
    show (((a, loadEdgeOf es a + cpEdgeW es a b) :: cpMarksFrom k es (b :: rest)).map (·.2)).sum = _
    rw [List.map_cons, List.sum_cons, cpEdgeW_eq, cpMarksFrom_eq,
      entries_sum _ _ _ (show (b :: rest).map instrNode ≠ [] from List.cons_ne_nil _ _),
      if_neg (List.cons_ne_nil _ _), pathW_instr_cons]
    show _ = _ + _ + latOfK k (lastLine ((b :: rest).map instrNode))
    ring

/-- **`cp_lines_sum`, core**: the `latency_cp` values of the marked lines add up to the reported total
    (kernels with distinct lines, edge lists with unique pairs) -/
theorem cpMarks_sum (k : List Ins) (es : List Edge) (hnd : (k.map (·.line)).Nodup)
    (hu : UniquePairs es) : ((cpMarks k es).map (·.2)).sum = cpTotal k es := by
  rcases eq_or_ne k [] with rfl | hne
  · rfl
  · obtain ⟨i, hi, a, rest, hp, _, _, hlst, hval⟩ := cpPath_spec k es hne
    rw [cpMarks_eq, hp, marksOf_sum k es a rest, hlst, hval hnd hu, latOfK_eq k hnd i hi]

/-! ### the marked lines, read as a chain of the property -/

/-- **the chain through the marked lines is a genuine chain of the property and has the reported total
    as its length**, over a forward graph whose load-node edges carry the load stages -/
theorem cpPath_chain (k : List Ins) (es : List Edge) (hnd : (k.map (·.line)).Nodup)
    (hfw : ForwardEdges es) (hu : UniquePairs es) (hls : LoadStagesAgree k es) (hne : k ≠ []) :
    (chainOf es ((cpPath k es).map instrNode)).Valid (infosOf k) (wedgesOf es) ∧
    (chainOf es ((cpPath k es).map instrNode)).len (infosOf k) = cpTotal k es := by
  obtain ⟨i, hi, a, rest, hp, hpath, hlines, hlst, hval⟩ := cpPath_spec k es hne
  rw [hp]
  refine ⟨chainOf_valid k es hfw _ (List.cons_ne_nil _ _) hpath fun n hn => ?_, ?_⟩
  · obtain ⟨l, hl, rfl⟩ := List.mem_map.mp hn
    exact hlines l hl
  obtain ⟨j, hj, hja⟩ := List.mem_map.mp (hlines a List.mem_cons_self)
  have hst : stageOf (infosOf k) a = loadEdgeOf es a := by
    rw [← hja, hls j hj]
    exact stageOf_eq (infosOf k) (by rw [infosOf_lines]; exact hnd) ⟨j.line, j.lat, loadStageOf j⟩
      (List.mem_map_of_mem hj)
  rw [chainOf_len k es ((a :: rest).map instrNode) (List.cons_ne_nil _ _),
    instrPart_eq_self _ (fun _ h => by cases h; rfl), hlst, hval hnd hu, latOfK_eq k hnd i hi]
  cases rest with
  | nil => rfl
  | cons b rest =>
    rw [if_neg (show edgesOf es ((a :: b :: rest).map instrNode) ≠ [] from List.cons_ne_nil _ _),
      if_neg (List.cons_ne_nil _ _)]
    exact congrArg (· + _ + _) hst

/-! ### the graph `create` builds satisfies the hypotheses -/

/-- `latency_wo_load` is known for every instruction with a separate load node (the code computes
    `latency − latency_wo_load` for the load edge; the oracle's load stage is 0 when it is unknown) -/
def LoadsKnown (k : List Ins) : Prop := ∀ i ∈ k, (i.hasLd && !i.isLd) = true → i.latWoLoad.isSome = true

instance (k : List Ins) : Decidable (LoadsKnown k) := by unfold LoadsKnown; infer_instance

/-- non-negative latencies (`latency`, and `latency_wo_load` where known) -/
def NonnegLats (k : List Ins) : Prop := ∀ i ∈ k, 0 ≤ i.lat ∧ 0 ≤ i.latWoLoad.getD 0

instance (k : List Ins) : Decidable (NonnegLats k) := by unfold NonnegLats; infer_instance

/-- non-negative machine-model parameters (store-to-load forwarding, index write-back latency) -/
def NonnegParams (par : Params) : Prop := 0 ≤ par.stlf ∧ 0 ≤ par.pIdx

instance (par : Params) : Decidable (NonnegParams par) := by unfold NonnegParams; infer_instance

/-- the edge `create_DG` adds from the load node of `p` -/
def loadEdgeE (p : Ins) : Edge :=
  { src := ⟨p.line, true⟩, dst := ⟨p.line, false⟩, w := p.lat - (p.latWoLoad.getD 0) }

theorem loadEdge_eq (p : Ins) : loadEdge p = if p.hasLd && !p.isLd then [loadEdgeE p] else [] := rfl

theorem wf_line_inj {k : List Ins} (hk : WFKernel k) {a b : Ins} (ha : a ∈ k) (hb : b ∈ k)
    (hl : a.line = b.line) : a = b := by
  have h1 := find?_of_nodup_key (fun i : Ins => i.line) k hk.nodup a ha
  have h2 := find?_of_nodup_key (fun i : Ins => i.line) k hk.nodup b hb
  rw [← hl] at h2
  exact Option.some.inj (h1.symm.trans h2)

theorem mem_emissions_cases (isa : Isa) (fd : Bool) (par : Params) (k : List Ins) (e : Edge)
    (he : e ∈ emissions isa fd par k) :
    ∃ p ∈ k, ((p.hasLd && !p.isLd) = true ∧ e = loadEdgeE p) ∨ ∃ x, e = depEdge par p x := by
  induction k with
  | nil => simp [emissions] at he
  | cons p rest ih =>
    rw [emissions_cons] at he
    simp only [List.mem_append, List.mem_map] at he
    rcases he with (he | ⟨x, _, rfl⟩) | he
    · rw [loadEdge_eq] at he
      split at he
      · rename_i h
        exact ⟨p, List.mem_cons_self, Or.inl ⟨h, List.mem_singleton.mp he⟩⟩
      · cases he
    · exact ⟨p, List.mem_cons_self, Or.inr ⟨x, rfl⟩⟩
    · obtain ⟨q, hq, h⟩ := ih he
      exact ⟨q, List.mem_cons_of_mem _ hq, h⟩

theorem loadEdge_mem_emissions (isa : Isa) (fd : Bool) (par : Params) (k : List Ins) (p : Ins)
    (hp : p ∈ k) (h : (p.hasLd && !p.isLd) = true) : loadEdgeE p ∈ emissions isa fd par k := by
  induction k with
  | nil => cases hp
  | cons q rest ih =>
    rw [emissions_cons]
    rcases List.mem_cons.mp hp with rfl | hp
    · rw [loadEdge_eq, if_pos h]
      exact List.mem_append_left _ (List.mem_append_left _ List.mem_cons_self)
    · exact List.mem_append_right _ (ih hp)

theorem create_mem_emissions (isa : Isa) (fd : Bool) (par : Params) (k : List Ins) (e : Edge)
    (he : e ∈ create isa fd par k) : e ∈ emissions isa fd par k := by
  obtain ⟨pre, post, h, _⟩ := (mem_dedupLast _ e).mp he
  rw [h]; exact List.mem_append_right _ List.mem_cons_self

theorem create_loadStagesAgree (isa : Isa) (fd : Bool) (par : Params) (k : List Ins) (hk : WFKernel k)
    (hkn : LoadsKnown k) : LoadStagesAgree k (create isa fd par k) := by
  intro i hi
  unfold loadEdgeOf
  cases hfind : (create isa fd par k).find? (fun e => e.src == ⟨i.line, true⟩ && e.dst == ⟨i.line, false⟩) with
  | none =>
    cases hflag : (i.hasLd && !i.isLd) with
    | false => rw [loadStageOf, hflag]; rfl
    | true =>
      -- the load edge is emitted, so its pair occurs in `create`, which `find?` would have found
      have hmem := loadEdge_mem_emissions isa fd par k i hi hflag
      obtain ⟨f, hf, hp⟩ := List.mem_map.mp ((dedupLast_pairs_iff _ _).mpr
        (List.mem_map.mpr ⟨_, hmem, rfl⟩) : pairOf (loadEdgeE i) ∈ (create isa fd par k).map pairOf)
      obtain ⟨h1, h2⟩ := Prod.mk.inj hp
      have := List.find?_eq_none.mp hfind f hf
      rw [h1, h2] at this
      exact absurd (Bool.and_eq_true _ _ ▸ ⟨beq_self_eq_true _, beq_self_eq_true _⟩) this
  | some e =>
    have hpe := List.find?_some hfind
    simp only [Bool.and_eq_true, beq_iff_eq] at hpe
    obtain ⟨p, hp, ⟨hflag, rfl⟩ | ⟨x, rfl⟩⟩ := mem_emissions_cases isa fd par k e
      (create_mem_emissions isa fd par k e (List.mem_of_find?_eq_some hfind))
    · obtain rfl : p = i := wf_line_inj hk hp hi (congrArg Node.line hpe.1)
      cases hl : p.latWoLoad with
      | none => have := hkn p hi hflag; rw [hl] at this; cases this
      | some l => rw [loadStageOf, if_pos hflag, hl, loadEdgeE, hl]; rfl
    · cases congrArg Node.load hpe.1

theorem edgeWeight_nonneg (par : Params) (hpar : NonnegParams par) (p : Ins)
    (hp : 0 ≤ p.lat ∧ 0 ≤ p.latWoLoad.getD 0) (tag : Tag) : 0 ≤ edgeWeight par p tag := by
  have hbase : 0 ≤ (match p.latWoLoad with | some l => l | none => p.lat) := by
    cases hl : p.latWoLoad with
    | none => exact hp.1
    | some l => have := hp.2; rw [hl] at this; exact this
  cases tag with
  | plain => exact hbase
  | storeLoad => exact add_nonneg hbase hpar.1
  | pIndexed => exact hpar.2

theorem create_nonnegWeights (isa : Isa) (fd : Bool) (par : Params) (k : List Ins)
    (hst : NonnegStages k) (hlat : NonnegLats k) (hpar : NonnegParams par) :
    NonnegWeights (create isa fd par k) := by
  intro e he
  obtain ⟨p, hp, ⟨hflag, rfl⟩ | ⟨x, rfl⟩⟩ := mem_emissions_cases isa fd par k e
    (create_mem_emissions isa fd par k e he)
  · have h1 := hst p hp
    rw [loadStageOf, if_pos hflag] at h1
    cases hl : p.latWoLoad with
    | none => rw [loadEdgeE, hl]; exact le_of_le_of_eq (hlat p hp).1 (sub_zero _).symm
    | some l => rw [hl] at h1; rw [loadEdgeE, hl]; exact h1
  · exact edgeWeight_nonneg par hpar p (hlat p hp) x.2

end OsacaVerif.LCD
