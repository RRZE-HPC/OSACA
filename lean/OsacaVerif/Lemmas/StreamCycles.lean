import OsacaVerif.Lemmas.EdgeLocal
/-
  Helper development for C14: the infinite instruction stream `k^ω` of a loop body, the dependency
  relation `streamDep` between stream positions (a function of the segment between them, periodic,
  and shifted by `r` under rotation by `r`), and dependency cycles with winding number 1 as
  ascending position lists (`IsStreamCycle`).
-/
namespace OsacaVerif.LCD
open OsacaVerif OsacaVerif.DG

/-- occurrence `t` of the stream `body^ω`, line number erased -/
def sAt (body : List Ins) (t : Nat) : Ins :=
  ((body.map eraseLine)[t % body.length]?).getD (eraseLine default)

/-- the stream segment strictly between positions `a` and `b` -/
def segAt (body : List Ins) (a b : Nat) : List Ins :=
  (List.range (b - a - 1)).map (fun d => sAt body (a + 1 + d))

/-- **the dependency relation of the infinite repetition**: weight of the dependency of stream
    occurrence `b` on occurrence `a` (`none`: no dependency) — by construction a function of the
    segment `a … b` only -/
def streamDep (isa : Isa) (fd : Bool) (par : Params) (body : List Ins) (a b : Nat) : Option Rat :=
  depW isa fd par (sAt body a) (segAt body a b) (sAt body b)

variable (isa : Isa) (fd : Bool) (par : Params)

theorem sAt_congr (body body' : List Ins) (h : body'.map eraseLine = body.map eraseLine) (t : Nat) :
    sAt body' t = sAt body t := by
  have hl : body'.length = body.length := by simpa using congrArg List.length h
  unfold sAt
  rw [h, hl]

theorem sAt_add_length (body : List Ins) (t : Nat) : sAt body (t + body.length) = sAt body t := by
  unfold sAt
  rw [Nat.add_mod_right]

theorem segAt_add_length (body : List Ins) (a b : Nat) :
    segAt body (a + body.length) (b + body.length) = segAt body a b := by
  unfold segAt
  rw [Nat.add_sub_add_right]
  refine List.map_congr_left fun d _ => ?_
  rw [Nat.add_right_comm a, Nat.add_right_comm (a + 1), sAt_add_length]

theorem streamDep_periodic (body : List Ins) (a b : Nat) :
    streamDep isa fd par body (a + body.length) (b + body.length) = streamDep isa fd par body a b := by
  unfold streamDep
  rw [sAt_add_length, sAt_add_length, segAt_add_length]

theorem sAt_rotate (body : List Ins) (r : Nat) (hr : r ≤ body.length) (t : Nat) :
    sAt (body.drop r ++ body.take r) t = sAt body (t + r) := by
  by_cases hn : body.length = 0
  · rw [List.eq_nil_of_length_eq_zero hn, List.drop_nil, List.take_nil]; rfl
  have hj := Nat.mod_lt t (Nat.pos_of_ne_zero hn)
  have hlen : (body.drop r ++ body.take r).length = body.length := by
    rw [List.length_append, List.length_drop, List.length_take, Nat.min_eq_left hr, Nat.sub_add_cancel hr]
  unfold sAt
  rw [hlen, ← Nat.mod_add_mod t, List.map_append, List.map_drop, List.map_take]
  congr 1
  -- with `j = t mod |body|`: either `j` falls into `drop r` (no wrap-around: `j + r < |body|`) …
  by_cases hlt : t % body.length < body.length - r
  · rw [List.getElem?_append_left (by rw [List.length_drop, List.length_map]; exact hlt), List.getElem?_drop,
      Nat.mod_eq_of_lt (Nat.add_lt_of_lt_sub hlt), Nat.add_comm]
  · -- … or into `take r`, at index `j + r − |body|` (one wrap-around)
    have hge := Nat.le_of_not_lt hlt
    have h1 : body.length ≤ t % body.length + r := Nat.le_add_of_sub_le hge
    have h2 : t % body.length + r - body.length < r := Nat.sub_lt_left_of_lt_add h1 (Nat.add_lt_add_right hj r)
    rw [List.getElem?_append_right (by rw [List.length_drop, List.length_map]; exact hge), List.length_drop,
      List.length_map, Nat.sub_sub_right _ hr, List.getElem?_take, if_pos h2, Nat.mod_eq_sub_mod h1,
      Nat.mod_eq_of_lt (Nat.lt_of_lt_of_le h2 hr)]

theorem segAt_rotate (body : List Ins) (r : Nat) (hr : r ≤ body.length) (a b : Nat) :
    segAt (body.drop r ++ body.take r) a b = segAt body (a + r) (b + r) := by
  unfold segAt
  rw [Nat.add_sub_add_right]
  refine List.map_congr_left fun d _ => ?_
  rw [sAt_rotate body r hr, Nat.add_right_comm (a + 1) d r, Nat.add_right_comm a 1 r]

/-- **rotation shifts the dependency relation**: the relation of the rotated body at `(a, b)` is the
    relation of the body at `(a + r, b + r)` — the same stream, another starting point -/
theorem streamDep_rotate (body : List Ins) (r : Nat)
    (hr : r ≤ body.length) (a b : Nat) :
    streamDep isa fd par (body.drop r ++ body.take r) a b = streamDep isa fd par body (a + r) (b + r) := by
  unfold streamDep
  rw [sAt_rotate body r hr, sAt_rotate body r hr, segAt_rotate body r hr]

theorem streamDep_congr (body body' : List Ins)
    (h : body'.map eraseLine = body.map eraseLine) (a b : Nat) :
    streamDep isa fd par body' a b = streamDep isa fd par body a b := by
  unfold streamDep segAt
  simp only [sAt_congr body body' h]

/-! ### chains and cycles of stream positions -/

/-- consecutive positions ascend and are linked by `D` with the recorded weight; the last one is linked to `tgt` -/
def Chain (D : Nat → Nat → Option Rat) (tgt : Nat) : List (Nat × Rat) → Prop
  | [] => True
  | x :: rest => x.1 < nextV tgt rest ∧ D x.1 (nextV tgt rest) = some x.2 ∧ Chain D tgt rest

def decChain (D : Nat → Nat → Option Rat) (tgt : Nat) : (a : List (Nat × Rat)) → Decidable (Chain D tgt a)
  | [] => isTrue trivial
  | _ :: rest =>
    have := decChain D tgt rest
    inferInstanceAs (Decidable (_ ∧ _ ∧ _))

instance (D : Nat → Nat → Option Rat) (tgt : Nat) (a : List (Nat × Rat)) : Decidable (Chain D tgt a) :=
  decChain D tgt a

/-- a dependency cycle with winding number 1 in the stream: positions `a₀ < a₁ < … < aₘ₋₁`, each
    depending on the previous one, closed by `aₘ₋₁ → a₀ + n` (the same instruction one iteration later) -/
def IsStreamCycle (D : Nat → Nat → Option Rat) (n : Nat) : List (Nat × Rat) → Prop
  | [] => False
  | x :: rest => Chain D (x.1 + n) (x :: rest)

instance (D : Nat → Nat → Option Rat) (n : Nat) : (a : List (Nat × Rat)) → Decidable (IsStreamCycle D n a)
  | [] => isFalse (fun h => h)
  | x :: rest => inferInstanceAs (Decidable (Chain D (x.1 + n) (x :: rest)))

/-- the cycle starts inside the body (first iteration) -/
def StartsBelow (n : Nat) : List (Nat × Rat) → Prop
  | [] => False
  | x :: _ => x.1 < n

instance (n : Nat) : (a : List (Nat × Rat)) → Decidable (StartsBelow n a)
  | [] => isFalse (fun h => h)
  | x :: _ => inferInstanceAs (Decidable (x.1 < n))

/-- shift all positions by `s` -/
def shiftPos (s : Nat) (a : List (Nat × Rat)) : List (Nat × Rat) := a.map (fun x => (x.1 + s, x.2))

theorem nextV_shift (s tgt : Nat) (a : List (Nat × Rat)) : nextV (tgt + s) (shiftPos s a) = nextV tgt a + s := by
  cases a <;> simp [nextV, shiftPos]

theorem chain_shift (D D' : Nat → Nat → Option Rat) (s : Nat) (h : ∀ x y, D' x y = D (x + s) (y + s))
    (tgt : Nat) (a : List (Nat × Rat)) : Chain D' tgt a ↔ Chain D (tgt + s) (shiftPos s a) := by
  induction a with
  | nil => simp [Chain, shiftPos]
  | cons x rest ih =>
    have hn := nextV_shift s tgt rest
    simp only [shiftPos, List.map_cons, Chain] at hn ⊢
    simp only [shiftPos] at ih
    rw [hn, ih, h, Nat.add_lt_add_iff_right]

theorem cycle_shift (D D' : Nat → Nat → Option Rat) (s n : Nat) (h : ∀ x y, D' x y = D (x + s) (y + s))
    (a : List (Nat × Rat)) : IsStreamCycle D' n a ↔ IsStreamCycle D n (shiftPos s a) := by
  cases a with
  | nil => simp [IsStreamCycle, shiftPos]
  | cons x rest =>
    have := chain_shift D D' s h (x.1 + n) (x :: rest)
    simp only [IsStreamCycle, shiftPos, List.map_cons] at this ⊢
    rw [this, Nat.add_right_comm]

variable {D : Nat → Nat → Option Rat}

theorem chain_increasing {tgt : Nat} {a : List (Nat × Rat)} (h : Chain D tgt a) :
    (verts a ++ [tgt]).Pairwise (· < ·) := by
  induction a with
  | nil => exact List.pairwise_singleton _ _
  | cons x rest ih => exact pairwise_cons_of_lt_head (ih h.2.2) (nextV_eq_head tgt rest) h.1

theorem chain_lt {tgt : Nat} {a : List (Nat × Rat)} (h : Chain D tgt a) :
    ∀ x ∈ a, x.1 < tgt := fun x hx =>
  (List.pairwise_append.mp (chain_increasing h)).2.2 x.1 (List.mem_map_of_mem hx) tgt List.mem_cons_self

theorem length_le_of_increasing (n : Nat) (l : List Nat) (h : l.Pairwise (· < ·)) (hb : ∀ x ∈ l, x < n) :
    l.length ≤ n := by
  have hn : l.Nodup := h.imp (fun h => Nat.ne_of_lt h)
  have hsub : l ⊆ List.range n := fun x hx => List.mem_range.mpr (hb x hx)
  have := hn.length_le_of_subset hsub
  simpa using this

theorem chain_length_le {tgt : Nat} {a : List (Nat × Rat)} (h : Chain D tgt a) :
    a.length ≤ tgt := by
  have := length_le_of_increasing tgt (verts a) (List.pairwise_append.mp (chain_increasing h)).1
    (fun v hv => by obtain ⟨x, hx, rfl⟩ := List.mem_map.mp hv; exact chain_lt h x hx)
  rwa [length_verts] at this

theorem cycle_bounds {n : Nat} {x : Nat × Rat} {rest : List (Nat × Rat)}
    (h : IsStreamCycle D n (x :: rest)) : ∀ y ∈ x :: rest, x.1 ≤ y.1 ∧ y.1 < x.1 + n := by
  intro y hy
  refine ⟨?_, chain_lt h y hy⟩
  rcases List.mem_cons.mp hy with rfl | hy
  · exact Nat.le_refl _
  · have hinc : (x.1 :: (verts rest ++ [x.1 + n])).Pairwise (· < ·) := chain_increasing h
    exact Nat.le_of_lt ((List.pairwise_cons.mp hinc).1 y.1 (List.mem_append_left _ (List.mem_map_of_mem hy)))

/-- a cycle is a non-empty chain into its first position one period later (`IsStreamCycle` is defined by a
    match on the list: this spares its users the case split) -/
theorem IsStreamCycle.cons {n : Nat} {a : List (Nat × Rat)} (h : IsStreamCycle D n a) :
    ∃ x rest, a = x :: rest ∧ Chain D (x.1 + n) (x :: rest) := by
  cases a with
  | nil => exact h.elim
  | cons x rest => exact ⟨x, rest, rfl, h⟩

theorem startsBelow_cons {n : Nat} {x : Nat × Rat} {rest : List (Nat × Rat)} :
    StartsBelow n (x :: rest) ↔ x.1 < n := Iff.rfl

theorem cycle_increasing {n : Nat} {a : List (Nat × Rat)} (h : IsStreamCycle D n a) :
    (verts a).Pairwise (· < ·) := by
  obtain ⟨x, rest, rfl, hch⟩ := h.cons
  exact (List.pairwise_append.mp (chain_increasing hch)).1

theorem startsBelow_of_lt {n : Nat} {a : List (Nat × Rat)} (h : IsStreamCycle D n a)
    (hlt : ∀ y ∈ a, y.1 < n) : StartsBelow n a := by
  obtain ⟨x, rest, rfl, _⟩ := h.cons
  exact hlt x List.mem_cons_self

theorem cycle_lt_two {n : Nat} {a : List (Nat × Rat)} (h : IsStreamCycle D n a)
    (hst : StartsBelow n a) : ∀ y ∈ a, y.1 < 2 * n := by
  obtain ⟨x, rest, rfl, _⟩ := h.cons
  intro y hy
  exact Nat.lt_of_lt_of_le (cycle_bounds h y hy).2 (Nat.two_mul n ▸ Nat.add_le_add_right (Nat.le_of_lt hst) n)

theorem map_add_mod_cancel (n a b : Nat) (hab : a + b = n) (l : List (Nat × Rat)) (hl : ∀ x ∈ l, x.1 < n) :
    (l.map (fun x => ((x.1 + a) % n, x.2))).map (fun x => ((x.1 + b) % n, x.2)) = l := by
  rw [List.map_map]
  refine map_eq_self fun x hx => Prod.ext ?_ rfl
  show ((x.1 + a) % n + b) % n = x.1
  rw [Nat.mod_add_mod, Nat.add_assoc, hab, Nat.add_mod_right, Nat.mod_eq_of_lt (hl x hx)]

end OsacaVerif.LCD
