import OsacaVerif.Lemmas.EndToEnd
import OsacaVerif.Lemmas.Compose
import OsacaVerif.Lemmas.Ports
import OsacaVerif.Props.C08
import OsacaVerif.Props.C01
import OsacaVerif.Props.C02
import OsacaVerif.Lemmas.Round2
import OsacaVerif.Lemmas.Duality
/-
  End to end, optimal scheduling: `analyseWith … P` (the composition with the per-line pressure vectors
  supplied) is `analyse` with the pressure cells of the kernel lines replaced — selection, exceptions,
  graph, critical path and LCD do not read the pressure; the pressure `assign_tp_lt` stores is the
  uniform split of `Compose.uopsOf`; and what the totals theorems need of `Spec.Feasible`, `Props.C02.totals`
  and `roundHalfEven` (last section).
-/
namespace OsacaVerif.EndToEnd
open OsacaVerif OsacaVerif.Text OsacaVerif.Pipeline OsacaVerif.Ports

/-- the line with the pressure vector `P` names for its number -/
def setPressure (P : Pressures) (l : PLine) : PLine :=
  match P l.num with
  | some v => { l with sem := { l.sem with pressure := v } }
  | none => l

theorem withPressure_pl (P : Pressures) (l : Line) : (withPressure P l).pl = setPressure P l.pl := by
  unfold withPressure setPressure PLine.num
  cases P l.pl.sel.num <;> rfl

theorem withPressure_err (P : Pressures) (l : Line) : (withPressure P l).err = l.err := by
  unfold withPressure
  cases P l.pl.num <;> rfl

theorem setPressure_sel (P : Pressures) (l : PLine) : (setPressure P l).sel = l.sel := by
  unfold setPressure
  cases P l.num <;> rfl

theorem setPressure_num (P : Pressures) (l : PLine) : (setPressure P l).num = l.num := by
  simp [PLine.num, setPressure_sel]

theorem setPressure_isInstr (P : Pressures) (l : PLine) : (setPressure P l).isInstr = l.isInstr := by
  simp [PLine.isInstr, setPressure_sel]

theorem setPressure_text (P : Pressures) (l : PLine) : (setPressure P l).text = l.text := by
  unfold setPressure
  cases P l.num <;> rfl

theorem setPressure_uniform (l : PLine) : setPressure uniformP l = l := rfl

theorem map_withPressure_pl (P : Pressures) (lines : List Line) :
    (lines.map (withPressure P)).map (·.pl) = (lines.map (·.pl)).map (setPressure P) := by
  simp [List.map_map, Function.comp_def, withPressure_pl]

/-! ### selection does not read the payload -/

def mapOutcome {α β : Type} (f : α → β) : Pipeline.Outcome α → Pipeline.Outcome β
  | .ok a => .ok (f a)
  | .badIsa => .badIsa
  | .raised => .raised
  | .badLines => .badLines
  | .emptyKernel => .emptyKernel

theorem select_map (g : PLine → PLine) (hg : ∀ l, (g l).sel = l.sel) (mode : Mode) (file : List PLine) :
    select mode (file.map g) = mapOutcome (List.map g) (select mode file) := by
  have hsel : (file.map g).map (·.sel) = file.map (·.sel) := by
    simp [List.map_map, Function.comp_def, hg]
  cases mode with
  | lines spec =>
    simp only [select]
    cases Marker.getLineRange spec with
    | none => rfl
    | some r =>
      simp only [mapOutcome, selectRange]
      congr 1
      rw [List.filter_map]
      congr 1
      apply List.filter_congr
      intro l _
      simp [PLine.num, hg]
  | markers isa =>
    simp only [select, selectMarkers]
    cases Pipeline.cfgOf isa with
    | none => rfl
    | some c =>
      simp only [selectWith, hsel]
      cases Marker.findMarkedSection c (file.map (·.sel)) with
      | none => rfl
      | some se => simp [mapOutcome, Pipeline.sliceOf_map]

theorem firstErr_withPressure (P : Pressures) (lines : List Line) (k : List PLine) :
    firstErr (lines.map (withPressure P)) (k.map (setPressure P)) = firstErr lines k := by
  unfold firstErr
  rw [List.filter_map, List.findSome?_map]
  congr 1
  · funext l
    simp [withPressure_err, withPressure_pl, setPressure_num]
  · congr 1
    funext l
    simp [Function.comp_def, withPressure_pl, setPressure_num, List.any_map]

/-! ### the analysis reads the pressure only for the rows and the column sums -/

theorem semOf_setPressure (P : Pressures) (n : Nat) (l : PLine) :
    semOf n (setPressure P l) = if l.isInstr then (setPressure P l).sem else noiseSem n := by
  simp [semOf, setPressure_isInstr]

/-- what the later stages read of a line changes in the pressure only.  The right side names the new pressure by the
    left side itself: rewrite ONCE (`rw`), what remains is `semOf n l` with one field replaced, and every other
    projection of it reduces to that of `semOf n l` -/
theorem semOf_setPressure_eq (P : Pressures) (n : Nat) (l : PLine) :
    semOf n (setPressure P l) = { semOf n l with pressure := (semOf n (setPressure P l)).pressure } := by
  unfold semOf setPressure PLine.isInstr
  cases P l.num <;> cases l.sel.mnem <;> rfl

theorem toIns_setPressure (P : Pressures) (n : Nat) (l : PLine) : toIns n (setPressure P l) = toIns n l := by
  unfold toIns
  rw [semOf_setPressure_eq, setPressure_num]

/-- `analyze` on lines whose pressures were replaced: the same graph, critical path and LCD -/
theorem analyze_setPressure (P : Pressures) (c : Cfg) (k : List PLine) :
    analyze c (k.map (setPressure P)) =
      { analyze c k with
        rows := (k.map (setPressure P)).map (rowOf c.nports)
        colSums := Ports.colSums Gen.tpSumSkipValue Gen.tpSumDigits ((k.map (setPressure P)).map (toPorts c.nports)) } := by
  have h : (k.map (setPressure P)).map (toIns c.nports) = k.map (toIns c.nports) := by
    simp [List.map_map, Function.comp_def, toIns_setPressure]
  simp only [analyze, analyzeCore, h]

theorem textOf_setPressure (P : Pressures) (k : List PLine) (n : Nat) :
    textOf (k.map (setPressure P)) n = textOf k n := by
  unfold textOf
  rw [List.find?_map]
  have : ((fun l : PLine => l.num == n) ∘ setPressure P) = fun l : PLine => l.num == n := by
    funext l; simp [setPressure_num]
  rw [this]
  cases k.find? (fun l => l.num == n) with
  | none => rfl
  | some l => simp [setPressure_text]

/-- **`assemble` on lines with replaced pressures**: the same outcome kind; an analysis is the analysis
    of the same kernel with the pressures replaced -/
theorem assemble_withPressure (isa : Operand.Isa) (m : Model) (o : Opts) (lines : List Line) (P : Pressures) :
    assemble isa m o (lines.map (withPressure P)) =
      match assemble isa m o lines with
      | .ok r => .ok (resultOf m o (r.parsed.map (setPressure P)) (r.kernel.map (setPressure P))
                        (analyze (cfgOf isa m o) (r.kernel.map (setPressure P))))
      | .parseError n e => .parseError n e
      | .semError n e => .semError n e
      | .badIsa => .badIsa
      | .raised => .raised
      | .badLines => .badLines
      | .emptyKernel => .emptyKernel := by
  unfold assemble
  simp only [map_withPressure_pl]
  rw [select_map (setPressure P) (setPressure_sel P)]
  cases hs : select o.mode (lines.map (·.pl)) with
  | ok k =>
    simp only [mapOutcome, firstErr_withPressure]
    cases firstErr lines k with
    | some ne => rfl
    | none =>
      simp only [Pipeline.run]
      rw [select_map (setPressure P) (setPressure_sel P), hs]
      cases k with
      | nil => rfl
      | cons x xs => simp [mapOutcome, resultOf]
  | _ => rfl

theorem kernelOf_ok {isa : Operand.Isa} {m : Model} {o : Opts} {file : Txt} {r : Result}
    (h : analyse isa m o file = .ok r) : kernelOf isa m o file = some r.kernel := by
  unfold kernelOf
  rw [h]

end OsacaVerif.EndToEnd

/-! ### the pressure `assign_tp_lt` stores is the uniform split of `Compose.uopsOf` -/

namespace OsacaVerif.Compose
open OsacaVerif OsacaVerif.Text OsacaVerif.Operand OsacaVerif.Match OsacaVerif.Ports OsacaVerif.Spec
open OsacaVerif.Lemmas.Compose

theorem resolvedOr_ok (ports : List Txt) (y : Y) (us : List Uop) (h : resolveList ports y = .ok us) :
    resolvedOr ports y = us := by
  simp [resolvedOr, h]

theorem multOr_ok (tbl : Option (List (Y × Y))) (rt : Option Txt) (q : Rat) (h : multiplier tbl rt = .ok q) :
    multOr tbl rt = q := by
  simp [multOr, h]

theorem handleFound_uniform (m : MModel) (e : Entry) (i : Ins) (r : Compose.Result) (h : handleFound m e i = .ok r) :
    r.pressure = uniform m.ports.length (resolvedOr m.ports e.pp) := by
  unfold handleFound at h
  simp only [bind_ok] at h
  obtain ⟨v, hv, _, _, _, _, _, _, hr⟩ := h
  simp only [pure, Except.pure, Except.ok.injEq] at hr
  obtain ⟨us, hus, hu, _⟩ := averageY_ok m.ports e.pp v hv
  rw [← hr, resolvedOr_ok _ _ _ hus]
  exact hu

theorem compose_uniform (m : MModel) (e : Entry) (i : Ins) (ops' : List POperand) (r : Compose.Result)
    (h : compose m e i ops' = .ok r) :
    r.pressure = uniform m.ports.length (composeUops m e i ops') := by
  obtain ⟨p, rt, hn, hreg, _, _, _, ⟨eop, heop, hrt⟩, hld0, hld1, hst0, hst1, _, _, _, hc⟩ :=
    Props.C08.compose_spec m e i ops' r h
  have hp := hc.pressure
  simp only [Props.C08.observed] at hp
  rw [hp, hn]
  -- `compose_spec` gives the pressure as the uniform split of `Parts.uops`; these are `composeUops`, part by part:
  -- the register form's micro-ops, then the load micro-ops × load multiplier, then the store micro-ops × store multiplier
  congr 1
  unfold composeUops
  simp only [heop, hrt, resolvedOr_ok _ _ _ hreg, Parts.uops, Parts.dataUops]
  congr 2
  · unfold loadUops
    cases hl : hasLd i with
    | false =>
      obtain ⟨a, _⟩ := hld0 hl
      simp [a]
    | true =>
      obtain ⟨_, mem, hm, hres, hmu⟩ := hld1 hl
      simp [hm, resolvedOr_ok _ _ _ hres, multOr_ok _ _ _ hmu]
  · unfold storeUops
    cases hs : hasSt i with
    | false =>
      obtain ⟨a, _⟩ := hst0 hs
      simp [a]
    | true =>
      obtain ⟨hwb, mem, hm, hres, hmu⟩ := hst1 hs
      rw [hwb] at hres
      simp [hm, resolvedOr_ok _ _ _ hres, multOr_ok _ _ _ hmu]

/-- **the stored pressure is the uniform split of the line's micro-ops** (own entry, composition with the
    multipliers, unknown, non-instruction) -/
theorem assignTpLt_uniform (m : MModel) (i : Ins) (r : Compose.Result) (h : assignTpLt m i = .ok r) :
    r.pressure = uniform m.ports.length (uopsOf m i) := by
  unfold assignTpLt at h
  unfold uopsOf
  cases hn : i.mnemonic with
  | none =>
    simp only [hn] at h ⊢
    cases h; simp [nonInstruction, zerosN, uniform_nil]
  | some name =>
    simp only [hn] at h ⊢
    cases he : lookupWithFallbacks m.isa m.db name i.operands with
    | some e =>
      simp only [he] at h ⊢
      exact handleFound_uniform m e i r h
    | none =>
      simp only [he] at h ⊢
      cases hls : (hasLd i || hasSt i) with
      | false =>
        simp only [hls, Bool.false_eq_true, if_false] at h ⊢
        cases h; simp [unknown, zerosN, uniform_nil]
      | true =>
        simp only [hls, if_true] at h ⊢
        cases he2 : lookupWithFallbacks m.isa m.db name (substituteMem i.operands) with
        | some e2 =>
          simp only [he2] at h ⊢
          exact compose_uniform m e2 i _ r h
        | none =>
          simp only [he2] at h ⊢
          cases h; simp [unknown, zerosN, uniform_nil]

end OsacaVerif.Compose

/-! ### kernel totals: the left fold of `get_throughput_sum` is `Props.C02.totals`; rounding moves a sum by at most half a cent -/

namespace OsacaVerif.EndToEnd
open OsacaVerif OsacaVerif.Ports OsacaVerif.Spec OsacaVerif.Props

theorem feasible_mono {ε ε' : Rat} {n : Nat} {us : List Uop} {v : List Rat} (h : Feasible ε n us v) (hle : ε ≤ ε') :
    Feasible ε' n us v where
  len := h.len
  nonneg := fun p hp => (neg_le_neg hle).trans (h.nonneg p hp)
  support := h.support
  totalLo := (sub_le_sub_left (mul_le_mul_of_nonneg_right hle n.cast_nonneg) _).trans h.totalLo
  totalHi := h.totalHi.trans (add_le_add_right (mul_le_mul_of_nonneg_right hle n.cast_nonneg) _)
  hall := fun S hS hSn => (sub_le_sub_left (mul_le_mul_of_nonneg_right hle S.length.cast_nonneg) _).trans (h.hall S hS hSn)

theorem totals_spec (n : Nat) (k : List C02.Instr) (h : ∀ i ∈ k, i.v.length = n) (p : Nat) :
    (C02.totals n k).length = n ∧ (C02.totals n k).getD p 0 = (k.map (·.v.getD p 0)).sum := by
  induction k with
  | nil => exact ⟨by simp [C02.totals, zeros], by rw [show C02.totals n [] = zeros n from rfl, getD_zeros]; rfl⟩
  | cons i k ih =>
    obtain ⟨i1, i2⟩ := ih (fun j hj => h j (List.mem_cons_of_mem _ hj))
    have hi := h i List.mem_cons_self
    have e : C02.totals n (i :: k) = addVec i.v (C02.totals n k) := rfl
    rw [e]
    refine ⟨by rw [C01.length_addVec _ _ (by rw [hi, i1]), hi], ?_⟩
    rw [C01.getD_addVec _ _ (by rw [hi, i1]), i2]
    simp

/-- **`get_throughput_sum` before rounding is `Props.C02.totals`** of the summed lines (those whose
    throughput differs from the skip value), whenever there is such a line -/
theorem colSumsExact_eq_totals (skip : Rat) (n : Nat) (L : List Ports.Line) (ins : List C02.Instr)
    (hl : ∀ l ∈ L, l.pressure.length = n) (hne : L.filter (·.tp != skip) ≠ [])
    (hv : ins.map (·.v) = (L.filter (·.tp != skip)).map (·.pressure)) :
    colSumsExact skip L = C02.totals n ins := by
  have hlen : ∀ i ∈ ins, i.v.length = n := by
    intro i hi
    have : i.v ∈ ins.map (·.v) := List.mem_map.mpr ⟨i, hi, rfl⟩
    rw [hv] at this
    obtain ⟨l, hl', e⟩ := List.mem_map.mp this
    rw [← e]; exact hl l (List.mem_filter.mp hl').1
  apply List.ext_getElem
  · rw [(C01.colSums_spec skip n L hl hne 0).1, (totals_spec n ins hlen 0).1]
  · intro p h1 h2
    have a := (C01.colSums_spec skip n L hl hne p).2
    have b := (totals_spec n ins hlen p).2
    rw [List.getD_eq_getElem?_getD, List.getElem?_eq_getElem h1, Option.getD_some] at a
    rw [List.getD_eq_getElem?_getD, List.getElem?_eq_getElem h2, Option.getD_some] at b
    rw [a, b]
    have : ins.map (·.v.getD p 0) = (ins.map (·.v)).map (·.getD p 0) := by simp [List.map_map, Function.comp_def]
    rw [this, hv]
    simp [List.map_map, Function.comp_def]

theorem rnd_ge (y : Rat) : y - 1/2 ≤ rnd y := by
  have up : y - 1/2 ≤ ((y.floor + 1 : Int) : Rat) := by
    rw [Int.cast_add, Int.cast_one]
    exact (sub_le_self y one_half_pos.le).trans (Int.lt_floor_add_one y).le
  unfold rnd
  split_ifs with h1 h2
  · exact sub_le_comm.mp h1.le
  · exact up
  · exact sub_le_comm.mp (not_lt.mp h2)
  · exact up

/-- Python `round(x, 2)` moves a value by at most half a cent -/
theorem round2_ge (x : Rat) : x - 1/200 ≤ roundHalfEven x 2 := by
  rw [roundHalfEven_two, le_div_iff₀ (by norm_num), show (x - 1/200) * 100 = x * 100 - 1/2 by ring]
  exact rnd_ge _

theorem maxLoad_map_round_ge (v : List Rat) (p : Nat) (hp : p < v.length) :
    v.getD p 0 - 1/200 ≤ maxLoad (v.map (roundHalfEven · 2)) := by
  have hp' : p < (v.map (roundHalfEven · 2)).length := by rwa [List.length_map]
  have h := Duality.getD_le_maxLoad (v.map (roundHalfEven · 2)) p hp'
  rw [List.getD_eq_getElem _ _ hp', List.getElem_map] at h
  rw [List.getD_eq_getElem _ _ hp]
  exact (round2_ge _).trans h

end OsacaVerif.EndToEnd
