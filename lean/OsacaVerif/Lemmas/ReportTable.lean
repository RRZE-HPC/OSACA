import OsacaVerif.Lemmas.Report
/-
  C13: the lines of the combined table are read back (`parseTableLines` inverts `tableLines`), and none of them
  contains a line feed, so the text of `combinedView` splits into exactly these lines.
-/
namespace OsacaVerif.Report
open OsacaVerif.Text OsacaVerif.Fmt OsacaVerif.Spec.Report
open OsacaVerif.Gen.Report

/-! ### first maximal entry -/

/-- Python's `max(ds, key=latency)` as `firstMax` folds it: the result is an entry, and none has a larger latency -/
theorem foldl_firstMax_spec (ds : List Dep) (d : Dep) :
    ds.foldl (fun best e => if best.lat < e.lat then e else best) d ∈ d :: ds ∧
    ∀ e ∈ d :: ds, e.lat ≤ (ds.foldl (fun best e => if best.lat < e.lat then e else best) d).lat := by
  induction ds generalizing d with
  | nil => exact ⟨List.mem_cons_self, fun e he => by rw [List.mem_singleton.mp he]; exact Rat.le_refl⟩
  | cons x xs ih =>
    obtain ⟨hm, hge⟩ := ih (if d.lat < x.lat then x else d)
    -- the running best after `x` is `d` or `x` and below neither
    have hb : (if d.lat < x.lat then x else d) ∈ d :: x :: xs ∧ d.lat ≤ (if d.lat < x.lat then x else d).lat ∧
        x.lat ≤ (if d.lat < x.lat then x else d).lat := by
      by_cases h : d.lat < x.lat
      · rw [if_pos h]; exact ⟨by simp, Rat.le_of_lt h, Rat.le_refl⟩
      · rw [if_neg h]; exact ⟨by simp, Rat.le_refl, Rat.not_lt.mp h⟩
    have hb' := hge _ List.mem_cons_self
    rw [List.foldl_cons]
    refine ⟨?_, fun e he => ?_⟩
    · rcases List.mem_cons.mp hm with h | h
      · rw [h]; exact hb.1
      · exact List.mem_cons_of_mem _ (List.mem_cons_of_mem _ h)
    · rcases List.mem_cons.mp he with rfl | he
      · exact Rat.le_trans hb.2.1 hb'
      · rcases List.mem_cons.mp he with rfl | he
        · exact Rat.le_trans hb.2.2 hb'
        · exact hge e (List.mem_cons_of_mem _ he)

theorem firstMax_spec (ds : List Dep) (d : Dep) (h : firstMax ds = some d) :
    d ∈ ds ∧ ∀ e ∈ ds, e.lat ≤ d.lat := by
  cases ds with
  | nil => cases h
  | cons e es => cases h; exact foldl_firstMax_spec es e

/-! ### what `WF` gives for the looked-up CP and LCD texts -/

theorem lookupFirst_getD {P : Txt → Prop} (n : Nat) (l : List (Nat × Txt)) (h0 : P []) (h : ∀ p ∈ l, P p.2) :
    P ((lookupFirst n l).getD []) := by
  fun_induction lookupFirst n l with
  | case1 => exact h0
  | case2 w r => exact h _ List.mem_cons_self
  | case3 k w r hk ih => exact ih fun p hp => h p (List.mem_cons_of_mem _ hp)

theorem lookupLast_getD {P : Txt → Prop} (n : Nat) (l : List (Nat × Txt)) (h0 : P []) (h : ∀ p ∈ l, P p.2) :
    P ((lookupLast n l).getD []) := by
  fun_induction lookupLast n l with
  | case1 => exact h0
  | case2 k w r w' hr ih =>
    rw [hr] at ih
    exact ih fun p hp => h p (List.mem_cons_of_mem _ hp)
  | case3 w r hr ih => exact h _ List.mem_cons_self
  | case4 k w r hr hk ih => exact h0

theorem lcdMembers_ok (a : Analysis) (hwf : WF a) : ∀ m ∈ lcdMembers a, TokOk m.2 ∧ NoNL m.2 := by
  unfold lcdMembers
  cases h : firstMax a.deps with
  | none => simp
  | some d => exact (hwf.deps d (firstMax_spec _ _ h).1).1

theorem cpLcd_ok (a : Analysis) (hwf : WF a) (n : Nat) :
    (TokOk ((lookupFirst n a.cp).getD []) ∧ NoNL ((lookupFirst n a.cp).getD [])) ∧
    (TokOk ((lookupLast n (lcdMembers a)).getD []) ∧ NoNL ((lookupLast n (lcdMembers a)).getD [])) :=
  have h0 : TokOk [] ∧ NoNL [] := ⟨fun _ h => (nomatch h), List.not_mem_nil⟩
  ⟨lookupFirst_getD (P := fun t => TokOk t ∧ NoNL t) n _ h0 hwf.cp,
    lookupLast_getD (P := fun t => TokOk t ∧ NoNL t) n _ h0 (lcdMembers_ok a hwf)⟩

theorem rowOk_of_wf (a : Analysis) (hwf : WF a) (r : Row) (hr : r ∈ a.rows) :
    RowOk a (maxPortLen a.ports a.rows) r :=
  have h := hwf.rows r hr
  ⟨h.1, h.2.1, cellsOk_maxPortLen a.ports a.rows r hr h.1, (cpLcd_ok a hwf r.line).1.1, (cpLcd_ok a hwf r.line).2.1⟩

/-! ### the port line -/

theorem portSegs_length_ge (names : List Txt) (plens seps : List Nat) (h1 : plens.length = names.length)
    (h2 : seps.length = names.length) : names.length ≤ (portSegs names plens seps).length := by
  fun_induction portSegs names plens seps with
  | case1 n ns l ls s ss ih =>
    rw [List.length_append, List.length_cons, List.length_cons]
    exact Nat.le_trans (Nat.succ_le_succ (ih (Nat.succ.inj h1) (Nat.succ.inj h2))) (Nat.le_add_left _ _)
  | case2 names plens seps h =>
    cases names with
    | nil => exact Nat.le_refl _
    | cons n ns =>
      obtain ⟨l, ls, rfl⟩ := List.exists_cons_of_length_eq_add_one h1
      obtain ⟨s, ss, rfl⟩ := List.exists_cons_of_length_eq_add_one h2
      exact absurd rfl (h n ns l ls s ss rfl rfl)

theorem sepList_map (f : Nat → Nat) (s s2 : Nat) (names : List Txt) :
    (sepList s s2 names).map f = sepList (f s) (f s2) names := by
  fun_induction sepList s s2 names with
  | case1 => rfl
  | case2 => rfl
  | case3 a b r ih => rw [sepList, List.map_cons, ih]; cases sameGroup a b <;> rfl

theorem sepList_forall {P : Nat → Prop} {s s2 : Nat} (hs : P s) (hs2 : P s2) (names : List Txt) :
    ∀ c ∈ sepList s s2 names, P c := by
  fun_induction sepList s s2 names with
  | case1 => exact fun c hc => List.mem_singleton.mp hc ▸ hs
  | case2 => exact fun c hc => List.mem_singleton.mp hc ▸ hs
  | case3 a b r ih =>
    intro c hc
    rcases List.mem_cons.mp hc with rfl | hc
    · split
      · exact hs2
      · exact hs
    · exact ih c hc

/-- the port line of `tableLines a` (the expression bound to `portLine` there) -/
def portLineOf (a : Analysis) : Txt :=
  linenoFiller ++ portNumberLine a.ports (maxPortLen a.ports a.rows) colSep ++
    colSep :: center cpTitleWidth cpTitle ++ colSep :: center cpTitleWidth lcdTitle ++ [colSep]

theorem parsePortLine_render (a : Analysis) (hwf : WF a) :
    parsePortLine (portLineOf a) =
      some (colsOf a.ports (maxPortLen a.ports a.rows) (sepList colSep groupSep a.ports)) := by
  -- the header separates the ports of a group by `-` where the kernel lines have a blank; `parseCols` maps `-` back
  -- to the blank, so the separators `sepList 124 45` of the header are read as `sepList 124 32` (`sepList_map`)
  have hsl := sepList_length 124 45 a.ports hwf.ports_ne
  have hfuel := portSegs_length_ge a.ports (maxPortLen a.ports a.rows) (sepList 124 45 a.ports)
    (maxPortLen_length _ _) hsl
  unfold portLineOf portNumberLine parsePortLine
  rw [colSep, headerGroupSep, groupSep]
  simp only [List.append_assoc, List.cons_append]
  rw [skipSpaces_append _ _ linenoFiller_spaces (headNot_blank_cons (by decide))]
  -- `simp only []`, here and below: reduces the `match` on the constructor that the rewrite has just exposed
  simp only []
  rw [parseCols_render a.ports (maxPortLen a.ports a.rows) _ _ _ (maxPortLen_length _ _) hsl
    (sepList_forall (P := fun s => isSepC s = true) rfl rfl _)
    (fun n hn => (hwf.names n hn).1) (maxPortLen_ge_min _ _)
    (by rw [List.length_append, List.length_cons]; exact Nat.lt_succ_of_le (Nat.le_trans hfuel (Nat.le_add_right _ _))),
    sepList_map]
  rfl

/-! ### the table lines -/

theorem renderRow_ne_nil (a : Analysis) (plens seps : List Nat) (r : Row) : renderRow a plens seps r ≠ [] := by
  have := natDigits_ne_nil r.line
  simp [renderRow, padLeft, this]

theorem sumsOf_ne_nil (a : Analysis) (hwf : WF a) : sumsOf a ≠ [] := by
  unfold sumsOf
  split
  · -- the first line has one pressure per port, and there is a port
    obtain ⟨r, rs, hr⟩ := List.exists_cons_of_ne_nil hwf.rows_ne
    rw [hr, List.headD_cons]
    intro h
    have := (hwf.rows r (hr ▸ List.mem_cons_self)).1
    rw [h] at this
    exact hwf.ports_ne (List.length_eq_zero_iff.mp this.symm)
  · rename_i h
    exact fun h' => h (by rw [h']; rfl)

theorem lcdSumRepr_ok (a : Analysis) (hwf : WF a) : WordOk (lcdSumRepr a) ∧ NoNL (lcdSumRepr a) := by
  unfold lcdSumRepr
  cases h : firstMax a.deps with
  | none => exact ⟨⟨by decide, by decide⟩, by unfold NoNL; decide⟩
  | some d => exact (hwf.deps d (firstMax_spec _ _ h).1).2

/-- the missing-data warning starts with a line of the form `---… <number> …`: it begins with a dash and its first
    run of digits is the number -/
theorem splitOn_missingError (n : Nat) :
    ∃ l rest, splitOn 10 (missingError n) = l :: rest ∧ l.head? = some 45 ∧ firstNat l = some n := by
  -- `missingMid` up to its first line feed starts with a blank
  obtain ⟨m1, m2, hm, h10, hh⟩ : ∃ m1 m2, missingMid = m1 ++ 10 :: m2 ∧ 10 ∉ m1 ∧ m1.head? = some 32 := by
    have h : (missingMid.dropWhile (· != 10)).head? = some 10 ∧ 10 ∉ missingMid.takeWhile (· != 10) ∧
        (missingMid.takeWhile (· != 10)).head? = some 32 := by decide +kernel
    obtain ⟨m2, hm2⟩ := List.head?_eq_some_iff.mp h.1
    exact ⟨_, m2, by rw [← hm2, List.takeWhile_append_dropWhile], h.2⟩
  have hpre : (∀ c ∈ missingPre, (!isDigitC c) = true ∧ c ≠ 10) ∧ missingPre.head? = some 45 := by
    decide +kernel
  have hm1 : HeadNot isDigitC m1 := fun c r e => by rw [e] at hh; cases hh; rfl
  refine ⟨missingPre ++ (natDigits n ++ m1), splitOn 10 (m2 ++ (dashes (natDigits n).length ++ missingPost)),
    ?_, ?_, ?_⟩
  · rw [missingError, hm]
    simp only [List.append_assoc, List.cons_append]
    rw [← List.append_assoc (natDigits n), ← List.append_assoc missingPre, splitOn_append_sep]
    simp only [List.mem_append, not_or]
    exact ⟨fun h => (hpre.1 10 h).2 rfl, not_mem_digits (natDigits_digits n) (by decide), h10⟩
  · rw [List.head?_append, hpre.2]; rfl
  · rw [firstNat, dropWhile_append_stop _ _ _ (fun c hc => (hpre.1 c hc).1)
      (natDigits_headNot n m1 fun c hc => by rw [hc]; rfl)]
    cases hd : natDigits n ++ m1 with
    | nil => exact absurd (List.append_eq_nil_iff.mp hd).1 (natDigits_ne_nil n)
    | cons c r =>
      simp only []
      rw [← hd, spanDigits_append _ _ (natDigits_digits n) hm1, natVal_natDigits]

theorem summaryRow_head (a : Analysis) (plens : List Nat) : (summaryRow a plens).head? ≠ some 45 := by
  unfold summaryRow
  have : linenoFiller = 32 :: linenoFiller.tail := by decide
  rw [this]; simp

/-- the lines after the title, with the port line, the table lines and the line after the empty line as variables -/
theorem parseTableLines_parts (dash head portLine sep l : Txt) (rowLines rest : List Txt) (cols : List Col)
    (rows : List RowView) (tl : TailView) (hp : parsePortLine portLine = some cols)
    (hne : ∀ x ∈ rowLines, (!x.isEmpty) = true) (hr : mapM' (parseRow cols) rowLines = some rows)
    (hl : (if l.head? = some 45 then (firstNat l).map TailView.missing else parseSummary l) = some tl) :
    parseTableLines (dash :: head :: portLine :: sep :: (rowLines ++ [] :: l :: rest)) = some ⟨cols, rows, tl⟩ := by
  rw [parseTableLines, hp]
  simp only []
  rw [span_append_stop _ _ _ hne (headNot_cons rfl), hr]
  simp only []
  split at hl
  · rename_i h
    rw [if_pos h]
    cases hf : firstNat l with
    | none => rw [hf] at hl; cases hl
    | some n => rw [hf] at hl; cases hl; rfl
  · rename_i h
    rw [if_neg h, hl]; rfl

/-- **the lines of the combined view are read back**: the table lines (after the title) followed by
    whatever the text after them splits into -/
theorem parseTableLines_render (a : Analysis) (hwf : WF a) (dash : Txt) :
    parseTableLines (dash :: (tableLines a ++ splitOn 10 (tailTxt a))) = some (view a) := by
  have hne : ∀ x ∈ a.rows.map (renderRow a (maxPortLen a.ports a.rows) (sepList colSep groupSep a.ports)),
      (!x.isEmpty) = true := by
    intro l hl
    obtain ⟨r, _, rfl⟩ := List.mem_map.mp hl
    simpa using renderRow_ne_nil a _ _ r
  have hrows := mapM'_map _ _ (rowView a (maxPortLen a.ports a.rows)) a.rows fun r hr =>
    parseRow_render a _ r hwf.ports_ne (maxPortLen_length _ _) (rowOk_of_wf a hwf r hr)
  have hpl := parsePortLine_render a hwf
  unfold portLineOf at hpl
  unfold tableLines view tailView tailTxt
  rw [List.append_assoc, List.append_assoc, List.append_assoc]
  by_cases hst : showsTotals a = true
  · simp only [hst, if_true, List.cons_append, List.nil_append]
    refine parseTableLines_parts _ _ _ _ _ _ _ _ _ _ hpl hne hrows ?_
    rw [if_neg (summaryRow_head a _)]
    exact parseSummary_render a _ (sumsOf_ne_nil a hwf) hwf.cpSum.1 (lcdSumRepr_ok a hwf).1
  · obtain ⟨l, rest, hrest, hl45, hln⟩ := splitOn_missingError (numMissing a.rows)
    simp only [hst, Bool.false_eq_true, if_false, List.cons_append, List.nil_append, hrest]
    refine parseTableLines_parts _ _ _ _ _ _ rest _ _ _ hpl hne hrows ?_
    rw [if_pos hl45, hln]; rfl

/-! ### no line of the table contains a newline, so the text splits into exactly these lines -/

@[simp] theorem noNL_nil : NoNL [] := List.not_mem_nil
@[simp] theorem noNL_append {a b : Txt} : NoNL (a ++ b) ↔ NoNL a ∧ NoNL b := by simp [NoNL]
@[simp] theorem noNL_cons {c : Nat} {t : Txt} : NoNL (c :: t) ↔ c ≠ 10 ∧ NoNL t := by
  simp [NoNL, eq_comm]
@[simp] theorem noNL_renderShown (s : Shown) : NoNL (renderShown s) :=
  renderShown_not_mem s (by decide) (by decide) (by decide)
@[simp] theorem noNL_natDigits (n : Nat) : NoNL (natDigits n) :=
  not_mem_digits (natDigits_digits n) (by decide)
@[simp] theorem noNL_spaces (k : Nat) : NoNL (spaces k) := by simp [NoNL, spaces]
@[simp] theorem noNL_dashes (k : Nat) : NoNL (dashes k) := by simp [NoNL, dashes]
@[simp] theorem noNL_padLeft (w : Nat) {t : Txt} : NoNL (padLeft w t) ↔ NoNL t := by simp [padLeft]
@[simp] theorem noNL_center (w : Nat) {t : Txt} : NoNL (center w t) ↔ NoNL t := by simp [center]

theorem noNL_cellBody (x : Rat) (u : Bool) (l s : Nat) (hs : s ≠ 10) : NoNL (cellBody x u l s) := by
  unfold cellBody
  split
  · simp [hs]
  · simp only []
    split <;> simp [hs, fmtFixed]

theorem noNL_lcdCp {cp lcd : Txt} (hcp : NoNL cp) (hlcd : NoNL lcd) : NoNL (lcdCp cp lcd) := by
  simp [lcdCp, hcp, hlcd, colSep]

theorem noNL_cellBodies (xs : List Rat) (us : List Bool) (ls ss : List Nat) (hs : ∀ s ∈ ss, s ≠ 10) :
    NoNL ((cellBodies xs us ls ss).flatMap (fun b => 32 :: b)) := by
  fun_induction cellBodies xs us ls ss with
  | case1 x xs u us l ls s ss ih =>
    simp [noNL_cellBody x u l s (hs s (by simp)), ih (fun s' h' => hs s' (by simp [h']))]
  | case2 => exact noNL_nil

theorem noNL_cleanLine {t : Txt} (ht : NoNL t) : NoNL (cleanLine t) := by
  unfold cleanLine untab strip NoNL
  intro h
  simp only [List.mem_map] at h
  obtain ⟨c, hc, he⟩ := h
  have hc' := lstrip_sub t c (rstrip_sub _ c hc)
  split at he
  · omega
  · subst he; exact ht hc'

theorem noNL_flagSymbolsOf (flags : List Txt) : NoNL (flagSymbolsOf flags) := by
  unfold flagSymbolsOf
  simp only []
  split
  · unfold NoNL; decide
  · exact fun h => flagView_forall (P := (· ≠ 10)) (by decide) flags 10 h rfl

theorem noNL_portPressure (xs : List Rat) (us : List Bool) (ls ss : List Nat) (hs : ∀ s ∈ ss, s ≠ 10) :
    NoNL (portPressure xs us ls ss) := by
  rw [portPressure_eq]
  exact noNL_cons.mpr ⟨getLastD_forall (P := (· ≠ 10)) (by decide) hs, noNL_cellBodies _ _ _ _ hs⟩

theorem noNL_renderRow (a : Analysis) (hwf : WF a) (r : Row) (hr : r ∈ a.rows) :
    NoNL (renderRow a (maxPortLen a.ports a.rows) (sepList colSep groupSep a.ports) r) := by
  have hseps := sepList_forall (P := (· ≠ 10)) (s := colSep) (s2 := groupSep) (by decide) (by decide) a.ports
  obtain ⟨⟨_, hcp⟩, _, hlcd⟩ := cpLcd_ok a hwf r.line
  have hflags : NoNL (if r.hasMnemonic = true then flagSymbolsOf r.flags else [32]) := by
    split
    · exact noNL_flagSymbolsOf _
    · unfold NoNL; decide
  simp [renderRow, noNL_portPressure _ _ _ _ hseps, noNL_lcdCp hcp hlcd, hflags, noNL_cleanLine (hwf.rows r hr).2.2]

theorem noNL_portSegs (names : List Txt) (plens seps : List Nat) (hn : ∀ n ∈ names, NoNL n)
    (hs : ∀ s ∈ seps, s ≠ 10) : NoNL (portSegs names plens seps) := by
  fun_induction portSegs names plens seps with
  | case1 n ns l ls s ss ih =>
    simp [hn n (by simp), hs s (by simp), ih (fun n' h' => hn n' (by simp [h'])) (fun s' h' => hs s' (by simp [h']))]
  | case2 => exact noNL_nil

theorem noNL_summaryRow (a : Analysis) (hwf : WF a) (plens : List Nat) : NoNL (summaryRow a plens) := by
  have h1 : NoNL linenoFiller := by unfold NoNL; decide
  have hs : ∀ s ∈ (sumsOf a).map (fun _ => (32 : Nat)), s ≠ 10 := by
    intro s hs; simp only [List.mem_map] at hs; obtain ⟨_, _, rfl⟩ := hs; decide
  simp [summaryRow, h1, noNL_portPressure _ _ _ _ hs, hwf.cpSum.2, (lcdSumRepr_ok a hwf).2]

theorem noNL_tableLines (a : Analysis) (hwf : WF a) : ∀ l ∈ tableLines a, NoNL l := by
  have hseps := sepList_forall (P := (· ≠ 10)) (s := colSep) (s2 := headerGroupSep) (by decide) (by decide) a.ports
  have hport := noNL_portSegs a.ports (maxPortLen a.ports a.rows) _ (fun n hn => (hwf.names n hn).2) hseps
  have hlit : NoNL headline ∧ NoNL linenoFiller ∧ NoNL cpTitle ∧ NoNL lcdTitle := by unfold NoNL; decide
  intro l hl
  simp only [tableLines, List.mem_append, List.mem_cons, List.mem_map, List.not_mem_nil, or_false] at hl
  rcases hl with (((rfl | rfl | rfl) | ⟨r, hr, rfl⟩) | rfl) | hl
  · simp [hlit]
  · simp [portNumberLine, hlit, hport, show colSep ≠ 10 by decide]
  · simp
  · exact noNL_renderRow a hwf r hr
  · exact noNL_nil
  · split at hl
    · obtain rfl := List.mem_singleton.mp hl
      exact noNL_summaryRow a hwf _
    · cases hl
/-! ### the title block -/

theorem combinedTitle_lines :
    combinedTitle = [[], [], titleCombined, dashes titleCombined.length].flatMap (fun l => l ++ [10]) := by
  decide +kernel

/-- a report section: two empty lines, the title, dashes, then the lines `ls` and whatever follows; the reader
    finds the title and returns the dashes and what follows them -/
theorem afterTitle_section (title : Txt) (k : Nat) (ls : List Txt) (tail : Txt) (hne : title ≠ [])
    (ht : NoNL title) (hls : ∀ l ∈ ls, NoNL l) :
    afterTitle title (splitOn 10 ([[], [], title, dashes k].flatMap (fun l => l ++ [10]) ++ (unlines ls ++ tail))) =
      some (dashes k :: (ls ++ splitOn 10 tail)) := by
  rw [splitOn_unlines _ _ (by
      intro l hl
      simp only [List.mem_cons, List.not_mem_nil, or_false] at hl
      rcases hl with rfl | rfl | rfl | rfl
      · exact noNL_nil
      · exact noNL_nil
      · exact ht
      · exact noNL_dashes _), unlines, splitOn_unlines _ _ hls]
  simp [afterTitle, hne.symm]

end OsacaVerif.Report
