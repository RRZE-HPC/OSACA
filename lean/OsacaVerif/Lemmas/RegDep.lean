import OsacaVerif.Model.RegDep
import OsacaVerif.Spec.RegUniverse
import OsacaVerif.Lemmas.Text
/-
  `RegDep.x86` compares two names, but each name enters only through a key: which branch of the
  method it takes and the datum compared in that branch.  Dependence is equality of keys, so the
  comparison with the architectural families is one look at each register of the universe.
-/
namespace OsacaVerif.RegDep
open OsacaVerif.Text OsacaVerif.Spec

/-- the branch of `x86` a name takes, with what that branch compares: a vector register's name
    without its first letter, a legacy GPR's group, a numbered GPR's number; any other name is
    dependent only on itself -/
inductive X86Key
  | vec (tail : Txt)
  | legacy (group : List Txt)
  | numbered (num : Txt)
  | other (name : Txt)
  deriving DecidableEq

def x86Key (a : Txt) : X86Key :=
  if isVectorRegister a then .vec ((upper a).drop Gen.vectorNameDrop)
  else if isBasicGpr a then
    match Gen.gprGroups.find? (·.contains (upper a)) with
    | some g => .legacy g
    | none => .other (upper a)
  else
    match otherGprNum (upper a) with
    | some n => .numbered n
    | none => .other (upper a)

/-- every ingredient of the key sees the name through `upper` or `lower` only; the `simp` lemmas of
    `Lemmas/Text` (`upper_upper`, `lower_upper`, `rstripDigits_upper`, `anyDigit_upper`) are there for this -/
theorem x86Key_upper (a : Txt) : x86Key (upper a) = x86Key a := by
  simp [x86Key, isVectorRegister, isBasicGpr]

theorem vector_startsWith (a : Txt) (h : isVectorRegister a = true) :
    ∃ v ∈ Gen.vectorNames, startsWith (lower a) v = true := by
  obtain ⟨s, hs⟩ := rstripDigits_prefix a
  refine ⟨_, List.contains_iff_mem.mp h, ?_⟩
  conv => lhs; arg 1; rw [hs]
  simp only [lower, List.map_append]
  exact startsWith_append _ _

theorem vector_not_basic (a : Txt) (h : isVectorRegister a = true) : isBasicGpr a = false := by
  obtain ⟨v, hv, hs⟩ := vector_startsWith a h
  have : Gen.basicGprExcluded.any (fun p => startsWith (lower a) p) = true :=
    List.any_eq_true.mpr ⟨v, hv, hs⟩
  simp [isBasicGpr, this]

theorem otherGprNum_of_vector (a : Txt) (h : isVectorRegister a = true) : otherGprNum (upper a) = none := by
  obtain ⟨v, hv, hs⟩ := vector_startsWith a h
  cases a with
  | nil => rfl
  | cons c cs =>
    have hc : upperC c ≠ Gen.otherGprHead := by
      intro hc
      have : lowerC c = 114 := by rw [← lowerC_upperC, hc]; rfl
      simp only [lower, List.map_cons, this] at hs
      simp [Gen.vectorNames] at hv
      rcases hv with rfl | rfl | rfl | rfl <;> simp [startsWith] at hs
    simp [upper, otherGprNum, hc]

theorem otherGprNum_of_basic (a : Txt) (h : isBasicGpr a = true) : otherGprNum (upper a) = none := by
  have hd : anyDigit a = false := by
    simp [isBasicGpr] at h; exact h.1
  cases a with
  | nil => rfl
  | cons c cs =>
    have h1 : anyDigit (upper cs) = false := by
      rw [anyDigit_upper]; simp [anyDigit] at hd ⊢; exact hd.2
    simp [upper, otherGprNum]
    intro _
    simpa [upper] using spanDigits_of_not_anyDigit _ h1

/-- no name is in two groups: looking a name up finds the group it was taken from -/
theorem gprGroups_find :
    ∀ g ∈ Gen.gprGroups, ∀ X ∈ g, Gen.gprGroups.find? (·.contains X) = some g := by
  decide +kernel

theorem inSameGroup_eq (A B : Txt) :
    inSameGroup A B =
      match Gen.gprGroups.find? (·.contains A), Gen.gprGroups.find? (·.contains B) with
      | some g, some h => decide (g = h)
      | _, _ => false := by
  rw [Bool.eq_iff_iff]
  constructor
  · intro h
    obtain ⟨g, hg, hA, hB⟩ : ∃ g ∈ Gen.gprGroups, A ∈ g ∧ B ∈ g := by simpa [inSameGroup] using h
    rw [gprGroups_find g hg A hA, gprGroups_find g hg B hB]
    simp
  · intro h
    split at h
    · rename_i g h' hA hB
      obtain rfl : g = h' := by simpa using h
      have hA' := List.find?_some (p := fun x : List Txt => x.contains A) hA
      have hB' := List.find?_some (p := fun x : List Txt => x.contains B) hB
      exact List.any_eq_true.mpr ⟨g, List.mem_of_find?_eq_some hA, by simp only [hA', hB', Bool.and_self]⟩
    · cases h

/-- Dependence is equality of keys, for all names.  Equal upper-case names have equal keys; for
    different ones the method's branch on `a` is the constructor of `a`'s key, and `b` gets through
    that branch exactly when its key has the same constructor, since a vector name is no basic GPR
    and neither of the two has a register number. -/
theorem x86_iff_key (a b : Txt) : x86 a b = true ↔ x86Key a = x86Key b := by
  by_cases hAB : upper a = upper b
  · have hk : x86Key a = x86Key b := by rw [← x86Key_upper a, hAB, x86Key_upper]
    simp [x86, hAB, hk]
  · have h1 := vector_not_basic b
    have h2 := otherGprNum_of_vector b
    have h3 := otherGprNum_of_basic b
    simp only [x86, x86Key, inSameGroup_eq, beq_iff_eq, hAB, if_false]
    cases isVectorRegister a <;> cases hvb : isVectorRegister b
    · -- neither is a vector register; inside: is `a`, is `b` a basic GPR
      cases isBasicGpr a <;> cases hgb : isBasicGpr b
      · cases otherGprNum (upper a) <;> cases otherGprNum (upper b) <;> simp [hAB]
      · rw [h3 hgb]
        cases otherGprNum (upper a) <;> cases Gen.gprGroups.find? (·.contains (upper b)) <;> simp [hAB]
      · cases otherGprNum (upper b) <;> cases Gen.gprGroups.find? (·.contains (upper a)) <;> simp [hAB]
      · cases Gen.gprGroups.find? (·.contains (upper a)) <;>
          cases Gen.gprGroups.find? (·.contains (upper b)) <;> simp [hAB]
    · -- only `b` is a vector register: `a`'s key (split on its group / its number) is never `.vec`
      rw [h1 hvb, h2 hvb]
      cases isBasicGpr a <;> simp
      all_goals split <;> simp
    · -- only `a` is: `b`'s key (split on `isBasicGpr b`, then on its group / its number) is never `.vec`
      simp
      split <;> split <;> simp
    · simp

/-- on all names, not only on those of a register universe -/
theorem x86_equivalence : Equivalence fun a b : Txt => x86 a b = true where
  refl a := (x86_iff_key a a).mpr rfl
  symm h := (x86_iff_key _ _).mpr ((x86_iff_key _ _).mp h).symm
  trans h1 h2 := (x86_iff_key _ _).mpr (((x86_iff_key _ _).mp h1).trans ((x86_iff_key _ _).mp h2))

/-! The families of `Spec.x86Universe` and the keys of its names determine each other: a map in
    each direction, both checked on every register, so that neither needs to be shown injective. -/

/-- the key that the names of family `f` have.  Family numbers as in `Spec.x86Universe`: legacy 0–7,
    `100 + n` for r8–r15, `200 + n` for x/y/zmm`n`, `300 + n` for mm`n`, `400 + n` for k`n`; register
    numbers are below 100; 77 is `M`, 75 is `K` (keys are upper case, vector keys lack the first letter) -/
def famKey (f : Nat) : X86Key :=
  let num (n : Nat) : Txt := if n < 10 then [48 + n] else [48 + n / 10, 48 + n % 10]
  if f < 100 then .legacy (Gen.gprGroups.getD f [])
  else if f < 200 then .numbered (num (f - 100))
  else if f < 300 then .vec (77 :: 77 :: num (f - 200))
  else if f < 400 then .vec (77 :: num (f - 300))
  else .other (75 :: num (f - 400))

/-- the family whose names have key `k`; the value 0 on other keys is never met, since
    `x86Universe_keys` checks both maps on every register -/
def keyFam : X86Key → Nat
  | .legacy g => Gen.gprGroups.idxOf g
  | .numbered d => 100 + num d
  | .vec (77 :: 77 :: d) => 200 + num d
  | .vec (_ :: d) => 300 + num d
  | .other (_ :: d) => 400 + num d
  | _ => 0
where num (d : Txt) : Nat := d.foldl (fun n c => 10 * n + (c - 48)) 0

theorem x86Universe_keys :
    ∀ r ∈ x86Universe, x86Key r.name = famKey r.fam ∧ keyFam (x86Key r.name) = r.fam := by
  decide +kernel

theorem x86_eq_archOverlap (a b : Reg) (ha : a ∈ x86Universe) (hb : b ∈ x86Universe) :
    x86 a.name b.name = archOverlap a b := by
  obtain ⟨ka, fa⟩ := x86Universe_keys a ha
  obtain ⟨kb, fb⟩ := x86Universe_keys b hb
  rw [Bool.eq_iff_iff, x86_iff_key, archOverlap, beq_iff_eq]
  constructor
  · intro h
    rw [← fa, ← fb, h]
  · intro h
    rw [ka, kb, h]

end OsacaVerif.RegDep
