import OsacaVerif.Lemmas.ParseX86Tok
/-
  C09 — operand level.  Memory operands: `disp ( base , index , scale )` in every combination the
  renderer writes, with arbitrary blanks inside, is read back part by part.  Operands: on the
  rendering of an operand of the domain, followed by blanks and a separator, the longest-match choice
  among the grammar's alternatives picks the intended one.
-/
namespace OsacaVerif.ParseX86
open OsacaVerif.Text OsacaVerif.X86 OsacaVerif.Spec.X86R

/-! ### the blank slots of a layout and the punctuation after each position -/

/-- the nine blank slots of a layout, one by one -/
theorem blanks_all {L : OpLayout} (h : L.blanks.all blank = true) :
    blank L.pre = true ∧ blank L.post = true ∧ blank L.w1 = true ∧ blank L.w2 = true ∧
    blank L.w3 = true ∧ blank L.w4 = true ∧ blank L.w5 = true ∧ blank L.w6 = true ∧ blank L.w7 = true := by
  simpa [OpLayout.blanks, and_assoc] using h

theorem blanks_allWs {L : OpLayout} (h : L.blanks.all blank = true) :
    AllWs L.pre ∧ AllWs L.post ∧ AllWs L.w1 ∧ AllWs L.w2 ∧ AllWs L.w3 ∧ AllWs L.w4 ∧ AllWs L.w5 ∧
    AllWs L.w6 ∧ AllWs L.w7 := by
  obtain ⟨h0, h1, h2, h3, h4, h5, h6, h7, h8⟩ := blanks_all h
  exact ⟨blank_allWs h0, blank_allWs h1, blank_allWs h2, blank_allWs h3, blank_allWs h4, blank_allWs h5,
    blank_allWs h6, blank_allWs h7, blank_allWs h8⟩

/-- punctuation sets for the different positions -/
def SepC (c : Nat) : Bool := c == 44 || c == 35 || c == 47          -- after an operand
def SOpen (c : Nat) : Bool := c == 40                                -- after a displacement
def SInner (c : Nat) : Bool := c == 44 || c == 41                    -- after base / index

theorem forall_sep {P : Nat → Prop} (h44 : P 44) (h35 : P 35) (h47 : P 47) : ∀ c, SepC c = true → P c := by
  intro c h
  simp only [SepC, Bool.or_eq_true, beq_iff_eq] at h
  rcases h with (rfl | rfl) | rfl <;> assumption

theorem SepC_punct : ∀ c, SepC c = true → Punct c = true := forall_sep rfl rfl rfl
theorem SOpen_punct (c : Nat) (h : SOpen c = true) : Punct c = true := by
  rw [eq_of_beq h]; rfl
theorem SInner_punct (c : Nat) (h : SInner c = true) : Punct c = true := by
  simp only [SInner, Bool.or_eq_true, beq_iff_eq] at h
  rcases h with rfl | rfl <;> rfl

def validScale (s : Nat) : Bool := s == 1 || s == 2 || s == 4 || s == 8

/-- what the grammar sees of the scale: the character, if written -/
def scaleSeen (L : OpLayout) (scale : Nat) (index : Option Txt) : Option Nat :=
  if index.isSome && (scale != 1 || L.showScale) then some (48 + scale) else none

/-! ### the parenthesised part `( base , index , scale )` -/

/-- at the closing parenthesis an optional `,` slot finds nothing and stays there -/
theorem slot_close {α : Type} {P : Txt → Option (α × Txt)} {k : Txt} (hP : P (41 :: k) = none) :
    opt P (optR (lit [44]) (41 :: k)) = (none, 41 :: k) := by
  have h44 : lit [44] (41 :: k) = none := rfl
  have hsk : skipWs (41 :: k) = 41 :: k := rfl
  simp only [optR, h44, Option.getD_none, hsk, opt, hP]

theorem register_inner {n b w X : Txt} (hn : validReg n = true) (hb : AllWs b) (hw : AllWs w)
    (hX : ∃ c r, X = c :: r ∧ SInner c = true) : register (b ++ 37 :: (n ++ (w ++ X))) = some (n, X) := by
  obtain ⟨c, r, rfl, hc⟩ := hX
  have hcw : isWs c = false := punct_not_ws c (SInner_punct c hc)
  have := register_ok SInner_punct rfl hn hb (Tail.append hw (Tail.cons r hc hcw))
  rwa [skipWs_append hw, skipWs_cons_not hcw] at this

theorem scale_step (L : OpLayout) (h6 : AllWs L.w6) (h7 : AllWs L.w7) (scale : Nat)
    (hs : validScale scale = true) (k : Txt) :
    ∃ r, opt scaleP (optR (lit [44]) (renderScale L scale ++ 41 :: k)) =
        (if scale != 1 || L.showScale then some (48 + scale) else none, r) ∧ lit [41] r = some k := by
  unfold renderScale
  split
  · have hc : isScaleC (48 + scale) = true ∧ isWs (48 + scale) = false := by
      simp only [validScale, Bool.or_eq_true, beq_iff_eq] at hs
      rcases hs with ((rfl | rfl) | rfl) | rfl <;> exact ⟨rfl, rfl⟩
    have h2 : scaleP (L.w6 ++ (48 + scale) :: (L.w7 ++ 41 :: k)) = some (48 + scale, L.w7 ++ 41 :: k) :=
      word1_append h6 hc.2 hc.1
    refine ⟨L.w7 ++ 41 :: k, ?_, lit1_append h7 rfl⟩
    simp only [List.cons_append, List.append_assoc, optR, lit1_cons (x := 44) rfl, Option.getD_some, opt, h2]
  · exact ⟨41 :: k, slot_close rfl, rfl⟩

theorem renderScale_inner (L : OpLayout) (scale : Nat) (k : Txt) :
    ∃ c r, renderScale L scale ++ 41 :: k = c :: r ∧ SInner c = true := by
  unfold renderScale
  split
  · exact ⟨44, _, rfl, rfl⟩
  · exact ⟨41, _, rfl, rfl⟩

theorem renderIndex_inner (L : OpLayout) (scale : Nat) (index : Option Txt) (k : Txt) :
    ∃ c r, renderIndex L scale index ++ 41 :: k = c :: r ∧ SInner c = true := by
  cases index
  · exact ⟨41, _, rfl, rfl⟩
  · exact ⟨44, _, rfl, rfl⟩

theorem index_step (L : OpLayout) (h4 : AllWs L.w4) (h5 : AllWs L.w5) (h6 : AllWs L.w6)
    (h7 : AllWs L.w7) (index : Option Txt) (scale : Nat) (hi : index.all validReg = true)
    (hs : validScale scale = true) (k : Txt) :
    ∃ r r', opt register (optR (lit [44]) (renderIndex L scale index ++ 41 :: k)) = (index, r) ∧
      opt scaleP (optR (lit [44]) r) = (scaleSeen L scale index, r') ∧ lit [41] r' = some k := by
  cases index with
  | none => exact ⟨41 :: k, 41 :: k, slot_close rfl, slot_close rfl, rfl⟩
  | some iname =>
    obtain ⟨r', hs1, hs2⟩ := scale_step L h6 h7 scale hs k
    -- `scaleSeen L scale (some _)` reduces to the `if` of `scale_step`
    refine ⟨renderScale L scale ++ 41 :: k, r', ?_, hs1, hs2⟩
    simp only [renderIndex, List.cons_append, List.append_assoc, optR, lit1_cons (x := 44) rfl,
      Option.getD_some, opt, register_inner hi h4 h5 (renderScale_inner L scale k)]

/-- **the parenthesised part** `( base , index , scale )` of a memory operand: every combination with
    a base or an index, scale written or omitted, any blanks -/
theorem parenPart_ok (L : OpLayout) (hbl : L.blanks.all blank = true) (base index : Option Txt)
    (scale : Nat) (hb : base.all validReg = true) (hi : index.all validReg = true)
    (hs : validScale scale = true) (k : Txt) :
    parenPart (40 :: (L.w2 ++ (renderBase L base ++ (renderIndex L scale index ++ 41 :: k)))) =
      some ((base, index, scaleSeen L scale index), k) := by
  obtain ⟨_, _, _, h2, h3, h4, h5, h6, h7⟩ := blanks_allWs hbl
  have hY := renderIndex_inner L scale index k
  have hbase : opt register (L.w2 ++ (renderBase L base ++ (renderIndex L scale index ++ 41 :: k))) =
      (base, renderIndex L scale index ++ 41 :: k) := by
    cases base with
    | some bn =>
      simp only [renderBase, List.cons_append, List.append_assoc, opt,
        register_inner hb h2 h3 hY]
    | none =>
      obtain ⟨c, r, hY, hc⟩ := hY
      have hcw : isWs c = false := punct_not_ws c (SInner_punct c hc)
      have : register (L.w2 ++ (renderIndex L scale index ++ 41 :: k)) = none :=
        register_none (nextC_forall (by rw [nextC_append h2, hY, nextC_cons hcw]) (ne_of_not_mem rfl hc))
      simp only [renderBase, List.nil_append, opt, this, skipWs_append h2]
      rw [hY, skipWs_cons_not hcw]
  obtain ⟨r, r', hi1, hi2, hi3⟩ := index_step L h4 h5 h6 h7 index scale hi hs k
  simp only [parenPart, lit1_cons (x := 40) rfl, Option.bind_some, hbase, hi1,
    hi2, hi3, Option.map_some]

/-! ### the rules skip leading blanks themselves

Every rule begins with a token that calls `skipWs`, so blanks skipped beforehand change nothing
(`skipWs_skipWs` after unfolding down to the tokens).  Needed where `Optional` has left the position
after the blanks. -/

@[simp] theorem word1_skipWs (p : Nat → Bool) (t : Txt) : word1 p (skipWs t) = word1 p t := by simp [word1]

theorem offsetG_skipWs (t : Txt) : offsetG (skipWs t) = offsetG t := by
  simp only [offsetG, hexNumber, decimalNumber, identifier, optR, idOffset, word, skipWs_skipWs]

theorem register_skipWs (t : Txt) : register (skipWs t) = register t := by
  simp only [register, lit, skipWs_skipWs]

theorem parenPart_skipWs (t : Txt) : parenPart (skipWs t) = parenPart t := by
  simp only [parenPart, lit, skipWs_skipWs]

theorem opt_skipWs {α : Type} (P : Txt → Option (α × Txt)) (hP : ∀ t, P (skipWs t) = P t)
    (t : Txt) : opt P (skipWs t) = opt P t := by simp only [opt, hP, skipWs_skipWs]

/-! ### the displacement before the parenthesis -/

theorem offsetG_none {t : Txt}
    (h : ∀ c, nextC t = some c → c ≠ 45 ∧ isDigitC c = false ∧ isIdFirst c = false) : offsetG t = none := by
  have h1 : hexNumber t = none := hexNumber_none (fun c hc => by
    obtain ⟨a, b, _⟩ := h c hc
    exact ⟨a, by intro e; subst e; simp [isDigitC] at b⟩)
  have h2 : decimalNumber t = none := decimalNumber_none (fun c hc => ⟨(h c hc).1, (h c hc).2.1⟩)
  have h3 : identifier isIdRest true t = none := identifier_none (fun c hc => ⟨(h c hc).2.2, (h c hc).2.1⟩)
  simp [offsetG, h1, h2, h3]

theorem maskCore_none {t : Txt} (h : ∀ c, nextC t = some c → c ≠ 123) : maskCore t = none := by
  simp [maskCore, lit1_none h]

/-- how the grammar sees a displacement of the domain -/
def rawOff (f : NumFmt) : Option Off → Option RawOff
  | some (.imm v) => some (.num (renderInt f v))
  | some (.ident n) => some (.ident n)
  | _ => none

theorem validOff_cases {off : Option Off} (h : validOff off = true) :
    off = none ∨ (∃ v, off = some (.imm v)) ∨ ∃ n, off = some (.ident n) ∧ validIdent n = true := by
  match off, h with
  | none, _ => exact Or.inl rfl
  | some (.imm v), _ => exact Or.inr (Or.inl ⟨v, rfl⟩)
  | some (.ident n), h => exact Or.inr (Or.inr ⟨n, rfl, h⟩)

theorem renderInt_next (f : NumFmt) (v : Int) {b k : Txt} (hb : AllWs b) :
    ∃ c, nextC (b ++ (renderInt f v ++ k)) = some c ∧ (c = 45 ∨ isDigitC c = true) := by
  obtain ⟨c, cs, hc, hcc⟩ := renderInt_head f v
  exact ⟨c, by rw [nextC, renderInt_skip f v hb k, hc]; rfl, hcc⟩

theorem validIdent_next {n b : Txt} (hn : validIdent n = true) (hb : AllWs b) (k : Txt) :
    ∃ c, nextC (b ++ (n ++ k)) = some c ∧ isIdStart c = true := by
  cases n with
  | nil => cases hn
  | cons c r =>
    have hc : isIdStart c = true := by
      simp only [validIdent, Bool.and_eq_true] at hn; exact hn.1
    exact ⟨c, nextC_blanks_cons hb (spec_idStart c hc).2.2, hc⟩

/-- `Group(hex_number | decimal_number | identifier)` on a label of the domain -/
theorem offsetG_ident {S : Nat → Bool} (hS : ∀ c, S c = true → Punct c = true) {n b k : Txt}
    (hn : validIdent n = true) (hb : AllWs b) (hk : Tail S k) :
    offsetG (b ++ (n ++ k)) = some (.ident n, skipWs k) := by
  obtain ⟨c, hnx, hc⟩ := validIdent_next hn hb k
  have h1 := hexNumber_none (nextC_forall hnx ⟨ne_of_not_mem rfl hc, ne_of_not_mem rfl hc⟩)
  have h2 := decimalNumber_none (nextC_forall hnx ⟨ne_of_not_mem rfl hc, (spec_idStart c hc).2.1⟩)
  simp only [offsetG, h1, h2, identifier_ok hS hn hb hk, Option.map_some]

/-- characters a memory operand with parentheses can start with: `(`, or the first of a displacement -/
def MemStart (c : Nat) : Prop := c = 40 ∨ c = 45 ∨ isDigitC c = true ∨ isIdStart c = true

theorem MemStart.ne {c : Nat} (h : MemStart c) : c ≠ 37 ∧ c ≠ 36 ∧ c ≠ 42 := by
  rcases h with rfl | rfl | h | h
  · decide
  · decide
  · exact ⟨ne_of_not_mem rfl h, ne_of_not_mem rfl h, ne_of_not_mem rfl h⟩
  · exact ⟨ne_of_not_mem rfl h, ne_of_not_mem rfl h, ne_of_not_mem rfl h⟩

/-- the first visible character of a displacement (or, where there is none, the opening parenthesis) -/
theorem disp_next (f : NumFmt) (off : Option Off) (hoff : validOff off = true) {b w1 : Txt}
    (hb : AllWs b) (hw1 : AllWs w1) (X : Txt) :
    ∃ c, nextC (b ++ (renderOff f off ++ (w1 ++ 40 :: X))) = some c ∧ MemStart c := by
  rcases validOff_cases hoff with rfl | ⟨v, rfl⟩ | ⟨n, rfl, h⟩
  · exact ⟨40, by simp only [renderOff, List.nil_append]; rw [nextC_append hb, nextC_append hw1]; rfl,
      Or.inl rfl⟩
  · obtain ⟨c, hn, hcc⟩ := renderInt_next f v (k := w1 ++ 40 :: X) hb
    exact ⟨c, hn, Or.inr (hcc.imp id Or.inl)⟩
  · obtain ⟨c, hn, hc⟩ := validIdent_next h hb (w1 ++ 40 :: X)
    exact ⟨c, hn, Or.inr (Or.inr (Or.inr hc))⟩

/-- what `offset` makes of the displacement (or its absence) before the opening parenthesis -/
theorem disp_step (f : NumFmt) (off : Option Off) (hoff : validOff off = true) {b w1 : Txt}
    (hb : AllWs b) (hw1 : AllWs w1) (X : Txt) :
    ∃ r, opt offsetG (b ++ (renderOff f off ++ (w1 ++ 40 :: X))) = (rawOff f off, r) ∧
      skipWs r = 40 :: X := by
  have hT : Tail SOpen (w1 ++ 40 :: X) := Tail.append hw1 (Tail.cons _ rfl rfl)
  have hTs : skipWs (w1 ++ 40 :: X) = 40 :: X := by
    rw [skipWs_append hw1]; rfl
  rcases validOff_cases hoff with rfl | ⟨v, rfl⟩ | ⟨n, rfl, h⟩
  · have hn : nextC (b ++ (w1 ++ 40 :: X)) = some 40 := by
      rw [nextC_append hb, nextC_append hw1]; rfl
    have := offsetG_none (nextC_forall hn (by decide))
    exact ⟨skipWs (b ++ (w1 ++ 40 :: X)), by simp only [renderOff, List.nil_append, rawOff, opt, this],
      by rw [skipWs_skipWs, skipWs_append hb, hTs]⟩
  · exact ⟨w1 ++ 40 :: X, by simp only [renderOff, rawOff, opt, offsetG_num SOpen_punct f v hb hT], hTs⟩
  · exact ⟨skipWs (w1 ++ 40 :: X), by simp only [renderOff, rawOff, opt, offsetG_ident SOpen_punct h hb hT],
      by rw [skipWs_skipWs]; exact hTs⟩

/-! ### memory operands with parentheses -/

theorem renderMem_paren (L : OpLayout) (off : Option Off) {base index : Option Txt} (scale : Nat) (k : Txt)
    (h : (base.isNone && index.isNone) = false) :
    renderMem L off base index scale ++ k = renderOff L.num off ++ (L.w1 ++ 40 :: (L.w2 ++
      (renderBase L base ++ (renderIndex L scale index ++ 41 :: k)))) := by
  simp only [renderMem, h, Bool.false_eq_true, if_false, List.append_assoc, List.cons_append,
    List.nil_append]

/-- a memory operand of the domain: its parts are of the domain, and it is either a number standing
    alone or has parentheses -/
theorem validMem_cases {off : Option Off} {base index : Option Txt} {scale : Nat} {seg : Bool}
    (hv : validOperand (.mem off base index scale seg) = true) :
    seg = false ∧ validOff off = true ∧ base.all validReg = true ∧ index.all validReg = true ∧
    validScale scale = true ∧ (index.isSome || scale == 1) = true ∧
    ((∃ v, off = some (.imm v) ∧ base = none ∧ index = none) ∨ (base.isNone && index.isNone) = false) := by
  simp only [validOperand, Bool.and_eq_true, Bool.not_eq_true'] at hv
  obtain ⟨⟨⟨⟨⟨⟨hseg, hoff⟩, hbv⟩, hiv⟩, hsc⟩, his⟩, hcomb⟩ := hv
  refine ⟨hseg, hoff, hbv, hiv, hsc, his, ?_⟩
  cases base with
  | some _ => exact Or.inr rfl
  | none =>
    cases index with
    | some _ => exact Or.inr rfl
    | none =>
      match off, hcomb with
      | some (.imm v), _ => exact Or.inl ⟨v, rfl, rfl, rfl⟩

/-- **memory operand with parentheses**: all six combinations of base/index with and without a
    displacement (number or label), scale written or omitted, blanks anywhere -/
theorem memory_paren (L : OpLayout) (hbl : L.blanks.all blank = true) (off : Option Off)
    (base index : Option Txt) (scale : Nat) (hoff : validOff off = true)
    (hb : base.all validReg = true) (hi : index.all validReg = true) (hs : validScale scale = true)
    (hnn : (base.isNone && index.isNone) = false) {b k : Txt} (hb0 : AllWs b)
    (hk : ∀ c, nextC k = some c → c ≠ 123) :
    memory (b ++ (renderMem L off base index scale ++ k)) =
      some ({ off := rawOff L.num off, base := base, index := index,
              scale := scaleSeen L scale index, empty := false }, skipWs k) := by
  have hw1 : AllWs L.w1 := (blanks_allWs hbl).2.2.1
  rw [renderMem_paren L off scale k hnn]
  obtain ⟨c, hc, hcc⟩ := disp_next L.num off hoff hb0 hw1
    (L.w2 ++ (renderBase L base ++ (renderIndex L scale index ++ 41 :: k)))
  obtain ⟨r, hoffs, hr⟩ := disp_step L.num off hoff hb0 hw1
    (L.w2 ++ (renderBase L base ++ (renderIndex L scale index ++ 41 :: k)))
  have hpp := parenPart_ok L hbl base index scale hb hi hs k
  unfold memory memMain
  simp only [optR, lit1_none (nextC_forall hc hcc.ne.2.2), Option.getD_none]
  rw [opt_skipWs offsetG offsetG_skipWs, hoffs]
  simp only []  -- reduces the pair that `hoffs` has put under the `let`
  rw [← parenPart_skipWs, hr, hpp]
  -- the first alternative has matched, so the `orElse` chain stops; no mask follows (`hk`), and the
  -- `empty` flag is false because a base or an index is there
  cases base <;> cases index <;> simp [maskCore_none hk] at hnn ⊢

/-! ### `memory` where no parenthesis and no segment follows -/

theorem memory_eq_bare {t : Txt} (h42 : ∀ c, nextC t = some c → c ≠ 42)
    (h40 : ∀ c, nextC (opt offsetG t).2 = some c → c ≠ 40)
    (hseg : ∀ p, register t = some p → ∀ c, nextC p.2 = some c → c ≠ 58) : memory t = memBare t := by
  have hmain : memMain t = none := by
    unfold memMain
    simp only [optR, lit1_none h42, Option.getD_none]
    rw [opt_skipWs offsetG offsetG_skipWs]
    simp only [parenPart, lit1_none h40, Option.bind_none, Option.map_none]
  have habs : memAbs t = none := by simp only [memAbs, lit1_none h42, Option.bind_none]
  have hsg : memSeg t = none := by
    simp only [memSeg, optR, lit1_none h42, Option.getD_none, register_skipWs]
    cases hr : register t with
    | none => rfl
    | some p => simp only [Option.bind_some, lit1_none (hseg p hr), Option.bind_none]
  simp only [memory, hmain, habs, hsg, Option.orElse_none]

theorem memory_none_of_next {t : Txt}
    (h : ∀ c, nextC t = some c →
      c ≠ 42 ∧ c ≠ 37 ∧ c ≠ 45 ∧ c ≠ 40 ∧ isDigitC c = false ∧ isIdFirst c = false) :
    memory t = none := by
  have hoff : offsetG t = none :=
    offsetG_none fun c hc => ⟨(h c hc).2.2.1, (h c hc).2.2.2.2.1, (h c hc).2.2.2.2.2⟩
  have hhex : hexNumber t = none := hexNumber_none fun c hc =>
    ⟨(h c hc).2.2.1, fun e => absurd (h c hc).2.2.2.2.1 (by rw [e]; decide)⟩
  have hdec : decimalNumber t = none := decimalNumber_none fun c hc => ⟨(h c hc).2.2.1, (h c hc).2.2.2.2.1⟩
  rw [memory_eq_bare (fun c hc => (h c hc).1)
    (by simp only [opt, hoff, nextC_skipWs]; exact fun c hc => (h c hc).2.2.2.1)
    (fun p hp => by rw [register_none fun c hc => (h c hc).2.1] at hp; cases hp)]
  simp only [memBare, hhex, hdec, Option.map_none]

theorem memory_none_reg {n b k : Txt} (hn : validReg n = true) (hb : AllWs b) (hk : Tail SepC k) :
    memory (b ++ 37 :: (n ++ k)) = none := by
  have hnx : nextC (b ++ 37 :: (n ++ k)) = some 37 := nextC_blanks_cons hb rfl
  have hoff := offsetG_none (nextC_forall hnx (by decide))
  rw [memory_eq_bare (nextC_forall hnx (by decide))
    (by simp only [opt, hoff, nextC_skipWs]; exact nextC_forall hnx (by decide))
    (fun p hp => by
      rw [register_ok SepC_punct rfl hn hb hk] at hp
      cases hp; exact hk.skip.next_ne rfl)]
  simp only [memBare, hexNumber_none (nextC_forall hnx (by decide)),
    decimalNumber_none (nextC_forall hnx (by decide)), Option.map_none]

theorem memory_none_ident {n b k : Txt} (hn : validIdent n = true) (hb : AllWs b) (hk : Tail SepC k) :
    memory (b ++ (n ++ k)) = none := by
  have hoff := offsetG_ident SepC_punct hn hb hk
  obtain ⟨c, hnx, hc⟩ := validIdent_next hn hb k
  rw [memory_eq_bare (nextC_forall hnx (ne_of_not_mem rfl hc))
    (by simp only [opt, hoff]; exact hk.skip.next_ne rfl)
    (fun p hp => by rw [register_none (nextC_forall hnx (ne_of_not_mem rfl hc))] at hp; cases hp)]
  simp only [memBare, hexNumber_none (nextC_forall hnx ⟨ne_of_not_mem rfl hc, ne_of_not_mem rfl hc⟩),
    decimalNumber_none (nextC_forall hnx ⟨ne_of_not_mem rfl hc, (spec_idStart c hc).2.1⟩), Option.map_none]

/-- **displacement standing alone** (bare number): the last alternative of `memory` -/
theorem memory_bare (f : NumFmt) (v : Int) {b k : Txt} (hb : AllWs b) (hk : Tail SepC k) :
    memory (b ++ (renderInt f v ++ k)) =
      some ({ off := some (.num (renderInt f v)), offIsStr := true }, skipWs k) := by
  obtain ⟨c, hnx, hcc⟩ := renderInt_next f v (k := k) hb
  have hc : c ≠ 42 ∧ c ≠ 37 :=
    hcc.elim (fun h => h ▸ by decide) fun h => ⟨ne_of_not_mem rfl h, ne_of_not_mem rfl h⟩
  rw [memory_eq_bare (nextC_forall hnx hc.1)
    (by simp only [opt, offsetG_num SepC_punct f v hb hk]; exact hk.next_ne rfl)
    (fun p hp => by rw [register_none (nextC_forall hnx hc.2)] at hp; cases hp)]
  exact memBare_num SepC_punct f v hb hk

/-! ### the alternatives of an operand: which one can match at which first character -/

theorem immediate_none {t : Txt} (h : ∀ c, nextC t = some c → c ≠ 36) : immediate t = none := by
  simp only [immediate, lit1_none h, Option.bind_none]

theorem numericIdentifier_none {t : Txt} (h : ∀ c, nextC t = some c → isDigitC c = false) :
    numericIdentifier t = none := by
  simp only [numericIdentifier, word_none h, Option.map_none]

/-- after the last operand: nothing that could be an operand starts at `,`, `#`, `/` or the end -/
theorem operand_none {t : Txt} (h : ∀ c, nextC t = some c → SepC c = true) :
    operandFirst t = none ∧ operandRest t = none := by
  have h1 : register t = none := register_none fun c hc => ne_of_not_mem rfl (h c hc)
  have h2 : immediate t = none := immediate_none fun c hc => ne_of_not_mem rfl (h c hc)
  have h3 : memory t = none :=
    memory_none_of_next fun c hc => by apply forall_sep _ _ _ c (h c hc) <;> decide
  have h4 : identifier isIdRest true t = none :=
    identifier_none fun c hc => by apply forall_sep _ _ _ c (h c hc) <;> decide
  have h5 : numericIdentifier t = none :=
    numericIdentifier_none fun c hc => by apply forall_sep _ _ _ c (h c hc) <;> rfl
  simp only [operandFirst, operandRest, h1, h2, h3, h4, h5, Option.map_none, longest, and_self]

/-- at `$` only the immediate rule can match -/
theorem operand_dollar {b X : Txt} (hb : AllWs b) :
    operandFirst (b ++ 36 :: X) = (offsetG X).map (fun p => (.imm p.1, p.2)) ∧
    operandRest (b ++ 36 :: X) = (offsetG X).map (fun p => (.imm p.1, p.2)) := by
  have hnx : nextC (b ++ 36 :: X) = some 36 := nextC_blanks_cons hb rfl
  have h1 := register_none (nextC_forall hnx (by decide))
  have h2 : immediate (b ++ 36 :: X) = offsetG X := by
    simp only [immediate, lit1_append hb (show isWs 36 = false from rfl), Option.bind_some]
  have h3 := memory_none_of_next (nextC_forall hnx (by decide))
  have h4 := identifier_none (restP := isIdRest) (trail := true) (nextC_forall hnx (by decide))
  have h5 := numericIdentifier_none (nextC_forall hnx rfl)
  cases ho : offsetG X <;> simp [operandFirst, operandRest, h1, h2, h3, h4, h5, ho, longest]

/-- where neither `%` nor `$` stands and the name rules do not get further than `memory`, both
    operand rules return what `memory` returns (`^` prefers the earlier among equals) -/
theorem operand_mem {t r : Txt} {m : RawMem} (h37 : ∀ c, nextC t = some c → c ≠ 37)
    (h36 : ∀ c, nextC t = some c → c ≠ 36)
    (hm : memory t = some (m, r))
    (hI : ∀ p, identifier isIdRest true t = some p → r.length ≤ p.2.length)
    (hN : ∀ p, numericIdentifier t = some p → r.length ≤ p.2.length) :
    operandFirst t = some (.mem m, r) ∧ operandRest t = some (.mem m, r) := by
  have h1 := register_none h37
  have h2 := immediate_none h36
  refine ⟨?_, by simp only [operandRest, h1, h2, hm, Option.map_none, Option.map_some, longest]⟩
  simp only [operandFirst, h1, h2, hm, Option.map_none, Option.map_some]
  cases hi : identifier isIdRest true t with
  | none =>
    cases hn : numericIdentifier t with
    | none => rfl
    | some q => have := hN q hn; simp [longest]; omega
  | some p =>
    have := hI p hi
    cases hn : numericIdentifier t with
    | none => simp [longest]; omega
    | some q =>
      have := hN q hn
      by_cases h : q.2.length < p.2.length <;> simp [longest, h] <;> omega

/-! ### the identifier and numeric-label alternatives on a displacement -/

/-- digits that neither `+` nor a `b`/`f` suffix follows: no identifier (its offset prefix needs the
    `+`, a name cannot start with a digit); the numeric label is exactly the digits -/
theorem digits_first {D R b : Txt} (hne : D ≠ []) (hD : ∀ c ∈ D, isDigitC c = true) (hR : Stops isDigitC R)
    (h43 : ∀ c, nextC R = some c → c ≠ 43) (hsuf : ∀ c, nextC R = some c → isSuffixC c = false) (hb : AllWs b) :
    identifier isIdRest true (b ++ (D ++ R)) = none ∧
    numericIdentifier (b ++ (D ++ R)) = some (D, skipWs R) := by
  have hw : word isDigitC (b ++ (D ++ R)) = some (D, R) :=
    word_append hb hne hD (fun c hc => digit_not_ws c (hD c hc)) hR
  obtain ⟨d, D', rfl⟩ := List.exists_cons_of_ne_nil hne
  have hd := hD d (by simp)
  have hsk : skipWs (b ++ (d :: D' ++ R)) = d :: (D' ++ R) :=
    skipWs_blanks_cons hb (digit_not_ws d hd)
  have hf := digit_not_idFirst d hd
  constructor
  · simp only [identifier, optR, idOffset, hw, Option.bind_some, lit1_none h43, Option.getD_none,
      hsk, skipWs_cons_not (digit_not_ws d hd), nameRaw, hf, Bool.false_eq_true, if_false]
  · simp only [numericIdentifier, hw, Option.map_some, optR, word1_none hsuf, Option.map_none,
      Option.getD_none]

/-- on a rendered integer followed by a tail, the identifier alternative (a name may start with
    `-`) and the numeric-label alternative never get further than the blanks of the tail -/
theorem nameRules_on_num {S : Nat → Bool} (hS : ∀ c, S c = true → Punct c = true) (f : NumFmt) (v : Int)
    {b T : Txt} (hb : AllWs b) (hT : Tail S T) :
    (∀ p, identifier isIdRest true (b ++ (renderInt f v ++ T)) = some p → (skipWs T).length ≤ p.2.length) ∧
    (∀ p, numericIdentifier (b ++ (renderInt f v ++ T)) = some p → (skipWs T).length ≤ p.2.length) := by
  have hTP := hT.mono hS
  -- a name starting with `-` goes up to the tail; no numeric label starts with `-`
  have minus : ∀ B : Txt, (∀ c ∈ B, isIdRest c = true) →
      (∀ p, identifier isIdRest true (b ++ 45 :: (B ++ T)) = some p → (skipWs T).length ≤ p.2.length) ∧
      (∀ p, numericIdentifier (b ++ 45 :: (B ++ T)) = some p → (skipWs T).length ≤ p.2.length) := by
    intro B hB
    have hnx : nextC (b ++ 45 :: (B ++ T)) = some 45 := nextC_blanks_cons hb rfl
    rw [identifier_tail hS rfl hB hb hT, numericIdentifier_none (nextC_forall hnx rfl)]
    exact ⟨fun p hp => by cases hp; exact Nat.le_refl _, nofun⟩
  rcases renderInt_shape f v with ⟨D, hne, hD, hR | hR⟩ | ⟨H, hne, hH, hR | hR⟩ <;> rw [hR]
  · obtain ⟨hI, hN⟩ := digits_first hne hD (hT.stops hS digit_idRest) (hTP.next_ne rfl)
      (fun c hc => by apply forall_punct _ _ _ _ _ c (hTP.2 c hc) <;> rfl) hb
    rw [hI, hN]
    exact ⟨nofun, fun p hp => by cases hp; exact Nat.le_refl _⟩
  · exact minus D fun c hc => digit_idRest c (hD c hc)
  · obtain ⟨hI, hN⟩ := digits_first (D := [48]) (R := 120 :: (H ++ T)) (by simp)
      (fun c hc => by rw [List.mem_singleton.mp hc]; rfl) (Stops.cons rfl)
      (nextC_forall (c := 120) rfl (by decide)) (nextC_forall (c := 120) rfl rfl) hb
    rw [show 48 :: 120 :: H ++ T = [48] ++ 120 :: (H ++ T) from rfl, hI, hN]
    refine ⟨nofun, fun p hp => ?_⟩
    cases hp
    have := skipWs_length_le T
    rw [show skipWs (120 :: (H ++ T)) = 120 :: (H ++ T) from rfl]
    simp only [List.length_cons, List.length_append]
    omega
  · exact minus (48 :: 120 :: H) fun c hc => renderInt_idRest f v c (by rw [hR]; exact List.mem_cons_of_mem _ hc)

/-- on a displacement of any kind before the opening parenthesis, too, the identifier and the
    numeric-label alternative never get further than the blanks of the tail -/
theorem nameRules_on_disp (f : NumFmt) {off : Option Off} (hoff : validOff off = true) {b T : Txt}
    (hb : AllWs b) (hT : Tail SOpen T) :
    (∀ p, identifier isIdRest true (b ++ (renderOff f off ++ T)) = some p → (skipWs T).length ≤ p.2.length) ∧
    (∀ p, numericIdentifier (b ++ (renderOff f off ++ T)) = some p → (skipWs T).length ≤ p.2.length) := by
  rcases validOff_cases hoff with rfl | ⟨v, rfl⟩ | ⟨n, rfl, h⟩
  · have h40 : ∀ c, nextC (b ++ T) = some c → c = 40 := fun c hc =>
      eq_of_beq (hT.2 c (by rwa [nextC_append hb] at hc))
    have hI := identifier_none (restP := isIdRest) (trail := true) fun c hc =>
      show isIdFirst c = false ∧ isDigitC c = false from h40 c hc ▸ ⟨rfl, rfl⟩
    have hN := numericIdentifier_none fun c hc => show isDigitC c = false from h40 c hc ▸ rfl
    simp only [renderOff, List.nil_append, hI, hN]
    exact ⟨nofun, nofun⟩
  · exact nameRules_on_num SOpen_punct f v hb hT
  · obtain ⟨d, hnd, hd⟩ := validIdent_next h hb T
    simp only [renderOff, identifier_ok SOpen_punct h hb hT,
      numericIdentifier_none (nextC_forall hnd (spec_idStart d hd).2.1)]
    exact ⟨fun p hp => by cases hp; exact Nat.le_refl _, nofun⟩

/-! ### operands -/

/-- how the grammar sees a memory operand of the domain -/
def rawMem (L : OpLayout) (off : Option Off) (base index : Option Txt) (scale : Nat) : RawMem :=
  if base.isNone && index.isNone then { off := rawOff L.num off, offIsStr := true }
  else { off := rawOff L.num off, base := base, index := index, scale := scaleSeen L scale index,
         empty := false }

/-- how the grammar sees an operand of the domain, before post-processing -/
def rawOp (L : OpLayout) : Operand → RawOp
  | .reg n => .reg n
  | .imm v => .imm (.num (renderInt L.num v))
  | .ident n => if L.bare then .ident n else .imm (.ident n)
  | .mem off base index scale _ => .mem (rawMem L off base index scale)

/-- **operands** — registers, immediates, `$label`, a bare label, memory operands in all seven
    combinations: on the rendering of an operand of the domain, after any blanks and followed by
    blanks and a separator (or the end), both operand rules of the grammar return exactly this
    operand and stop at the separator. -/
theorem operand_ok (L : OpLayout) (hbl : L.blanks.all blank = true) (o : Operand)
    (hv : validOperand o = true) {b k : Txt} (hb : AllWs b) (hk : Tail SepC k) :
    ∃ r, skipWs r = skipWs k ∧
      operandFirst (b ++ (renderOperand L o ++ k)) = some (rawOp L o, r) ∧
      (L.bare = false → operandRest (b ++ (renderOperand L o ++ k)) = some (rawOp L o, r)) := by
  cases o with
  | reg n =>
    have hnx : nextC (b ++ 37 :: (n ++ k)) = some 37 := nextC_blanks_cons hb rfl
    have h1 := register_ok SepC_punct rfl hv hb hk
    have h2 := immediate_none (nextC_forall hnx (by decide))
    have h3 := memory_none_reg hv hb hk
    have h4 := identifier_none (restP := isIdRest) (trail := true) (nextC_forall hnx (by decide))
    have h5 := numericIdentifier_none (nextC_forall hnx rfl)
    exact ⟨skipWs k, skipWs_skipWs k,
      by simp [renderOperand, rawOp, operandFirst, h1, h2, h3, h4, h5, longest],
      fun _ => by simp [renderOperand, rawOp, operandRest, h1, h2, h3, longest]⟩
  | imm v =>
    obtain ⟨hF, hR⟩ := operand_dollar (X := renderInt L.num v ++ k) hb
    have h := offsetG_num SepC_punct L.num v (b := []) AllWs.nil hk
    exact ⟨k, rfl, by rw [renderOperand, List.cons_append, hF]; exact congrArg _ h,
      fun _ => by rw [renderOperand, List.cons_append, hR]; exact congrArg _ h⟩
  | ident n =>
    cases hbare : L.bare
    · -- `$name`
      obtain ⟨hF, hR⟩ := operand_dollar (X := n ++ k) hb
      have h := offsetG_ident SepC_punct (b := []) hv AllWs.nil hk
      simp only [renderOperand, rawOp, hbare, Bool.false_eq_true, if_false, List.cons_append]
      exact ⟨skipWs k, skipWs_skipWs k, by rw [hF]; exact congrArg _ h, fun _ => by rw [hR]; exact congrArg _ h⟩
    · -- bare name
      simp only [renderOperand, rawOp, hbare, if_true]
      obtain ⟨c, hnx, hc⟩ := validIdent_next hv hb k
      have h1 := register_none (nextC_forall hnx (ne_of_not_mem rfl hc))
      have h2 := immediate_none (nextC_forall hnx (ne_of_not_mem rfl hc))
      have h3 := memory_none_ident hv hb hk
      have h4 := identifier_ok SepC_punct hv hb hk
      have h5 := numericIdentifier_none (nextC_forall hnx (spec_idStart c hc).2.1)
      exact ⟨skipWs k, skipWs_skipWs k, by simp [operandFirst, h1, h2, h3, h4, h5, longest],
        fun h => by cases h⟩
  | mem off base index scale seg =>
    obtain ⟨_, hoff, hbv, hiv, hsc, _, ⟨v, rfl, rfl, rfl⟩ | hnn⟩ := validMem_cases hv
    · -- displacement alone
      obtain ⟨c, hnx, hcc⟩ := renderInt_next L.num v (k := k) hb
      obtain ⟨h37, h36, _⟩ := MemStart.ne (Or.inr (hcc.imp id Or.inl))
      obtain ⟨hI, hN⟩ := nameRules_on_num SepC_punct L.num v hb hk
      obtain ⟨hF, hR⟩ := operand_mem (nextC_forall hnx h37) (nextC_forall hnx h36) (memory_bare L.num v hb hk) hI hN
      exact ⟨skipWs k, skipWs_skipWs k, hF, fun _ => hR⟩
    · -- with parentheses
      have hw1 : AllWs L.w1 := (blanks_allWs hbl).2.2.1
      have h3 := memory_paren L hbl off base index scale hoff hbv hiv hsc hnn hb (hk.next_ne rfl)
      simp only [renderOperand, rawOp, rawMem, hnn, Bool.false_eq_true, if_false]
      have htxt := renderMem_paren L off scale k hnn
      have hXlen : k.length ≤ (L.w2 ++ (renderBase L base ++ (renderIndex L scale index ++ 41 :: k))).length := by
        simp only [List.length_append, List.length_cons]; omega
      generalize L.w2 ++ (renderBase L base ++ (renderIndex L scale index ++ 41 :: k)) = X at htxt hXlen
      obtain ⟨c, hnx, hcc⟩ := disp_next L.num off hoff hb hw1 X
      -- the name rules stop before the opening parenthesis
      have hT : Tail SOpen (L.w1 ++ 40 :: X) := Tail.append hw1 (Tail.cons _ rfl rfl)
      have hTlen : (skipWs k).length ≤ (skipWs (L.w1 ++ 40 :: X)).length := by
        have h1 := skipWs_length_le k
        rw [skipWs_append hw1, show skipWs (40 :: X) = 40 :: X from rfl, List.length_cons]
        omega
      have hbound := nameRules_on_disp L.num hoff hb hT
      rw [← htxt] at hnx hbound
      obtain ⟨hF, hR⟩ := operand_mem (nextC_forall hnx hcc.ne.1) (nextC_forall hnx hcc.ne.2.1) h3
        (fun p hp => Nat.le_trans hTlen (hbound.1 p hp)) (fun p hp => Nat.le_trans hTlen (hbound.2 p hp))
      exact ⟨skipWs k, skipWs_skipWs k, hF, fun _ => hR⟩

end OsacaVerif.ParseX86
