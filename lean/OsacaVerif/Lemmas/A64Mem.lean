import OsacaVerif.Lemmas.A64Ident
import OsacaVerif.Lemmas.Text
/-
  Memory references `[base]`, `[base, #imm]`, `[base, index]`, `[base, index, lsl #n]`, with `!` or a
  post-index immediate — as the last operand of a line: the grammar on the rendered pieces, the operand
  alternatives, and the post-processing (`process_memory_address`) against the specification's expectation.
-/
namespace OsacaVerif.ParseA64
open OsacaVerif.Text OsacaVerif.Spec.A64 OsacaVerif.Gen

/-! ## the grammar on the rendered pieces -/
/-! ### shift / extend operators -/
/-- literal and text agree (caselessly) as far as both go -/
def ciCompat : Txt → Txt → Bool
  | [], _ => true
  | _ :: _, [] => true
  | a :: l, c :: t => lowerC c == a && ciCompat l t

theorem dropPrefixCI_incompat (l w rest : Txt) (h : ciCompat l w = false) : dropPrefixCI (w ++ rest) l = none := by
  induction w generalizing l with
  | nil => cases l <;> simp [ciCompat] at h
  | cons c w ih =>
    cases l with
    | nil => simp [ciCompat] at h
    | cons a l =>
      simp only [List.cons_append, dropPrefixCI]
      by_cases hc : lowerC c = a
      · simp only [hc, beq_self_eq_true, if_true]
        apply ih
        simpa [ciCompat, hc] using h
      · simp [hc]

theorem ciCompat_lower (l w : Txt) : ciCompat l (lower w) = ciCompat l w := by
  induction w generalizing l with
  | nil => cases l <;> rfl
  | cons c w ih =>
    cases l with
    | nil => rfl
    | cons a l =>
      have : lowerC (lowerC c) = lowerC c := lowerC_lowerC c
      simp only [lower, List.map_cons, ciCompat, this] at ih ⊢
      rw [ih]

/-- the operators that scale a memory index -/
def scaleOps : List Txt := [ofString "lsl", ofString "uxtw", ofString "sxtw", ofString "sxtx"]

theorem scaleOps_in_shiftOps : ∀ l ∈ scaleOps, l ∈ A64.shiftOps := by decide +kernel
theorem scaleOps_valid : ∀ l ∈ scaleOps, A64.validShiftOps.contains l = true := by decide +kernel
theorem scaleOps_distinct : ∀ l ∈ scaleOps, ∀ l' ∈ A64.shiftOps, l' ≠ l → ciCompat l' l = false := by decide +kernel
theorem scaleOps_head : ∀ l ∈ scaleOps, headAlpha l = true := by decide +kernel

/-- a shift operator as written (any case) is read as its lower-case form -/
theorem shiftOp_match (g op after : Txt) (hg : Blank g) (hop : lower op ∈ scaleOps)
    (hend : ∀ c r, after = c :: r → isWordEndC c = false) :
    shiftOp (g ++ (op ++ after)) = some (lower op, after) := by
  have hhead : ∃ c w, op = c :: w ∧ isWs c = false := by
    have := scaleOps_head _ hop
    cases op with
    | nil => simp [lower, headAlpha] at this
    | cons c w =>
      refine ⟨c, w, rfl, alpha_not_ws c (alpha_of_lowerC_alpha c ?_)⟩
      simpa [lower, headAlpha] using this
  obtain ⟨c, w, hcw, hws⟩ := hhead
  rw [shiftOp_eq]
  suffices h : clitOr true A64.shiftOps (g ++ (op ++ after)) = some (lower op, after) by
    rw [h]; exact wordEnd_stop _ after hend
  apply clitOr_pointwise A64.shiftOps _ (lower op) after (scaleOps_in_shiftOps _ hop)
  intro l' hl'
  rw [hcw, List.cons_append, clit_gap l' g c _ hg hws, ← List.cons_append, ← hcw]
  by_cases h : l' = lower op
  · rw [h, dropPrefixCI_append op (lower op) after rfl]; simp
  · have := scaleOps_distinct _ hop l' hl' h
    rw [ciCompat_lower] at this
    rw [dropPrefixCI_incompat l' op after this]; simp [h]

/-! ### base and index registers -/
theorem registerCore_scalar (g : Txt) (p n : Nat) (rest : Txt) (hg : Blank g) (hp : isScalarPrefixC p = true)
    (hstop : StopsAt isDigitC rest) :
    registerCore (g ++ p :: (showNat n ++ rest)) = some ({ pre := some [p], name := some (showNat n) }, rest) := by
  obtain ⟨d, ds, hd, hdd⟩ := showNat_cons n
  have hws := alpha_not_ws p (scalarPrefix_alpha p hp)
  unfold registerCore
  rw [scalarP_text g p n rest hg hp hstop]
  rw [vectorP_none_prefix g p _ hg hws (scalarPrefix_not_vector p hp)]
  rw [hd, List.cons_append]
  rw [aliasP_none_digit _ g p d _ hg hws hdd aliasSp_names, aliasP_none_digit _ g p d _ hg hws hdd aliasZr_names]
  simp [RegTok.ofElem]

/-- base / index register of the covered domain: a scalar register or one of the sp/zr aliases -/
inductive MemRegOk : RegA → Prop where
  | scalar (p n : Nat) (hp : isScalarPrefixC p = true) : MemRegOk (.scalar p n)
  | alias (t : Txt) (ht : t ∈ aliasTexts) : MemRegOk (.alias t)

def memRegTok : RegA → RegTok
  | .scalar p n => { pre := some [p], name := some (showNat n) }
  | .alias t => aliasTok t
  | _ => {}

theorem registerCore_memreg (r : RegA) (hr : MemRegOk r) (g rest : Txt) (hg : Blank g)
    (hstop : StopsAt isDigitC rest) :
    registerCore (g ++ (regText r ++ rest)) = some (memRegTok r, rest) := by
  cases hr with
  | scalar p n hp => simpa [regText, memRegTok] using registerCore_scalar g p n rest hg hp hstop
  | alias t ht => simpa [regText, memRegTok] using registerCore_alias t ht g rest hg

theorem memRegTok_noshift (r : RegA) (hr : MemRegOk r) :
    (memRegTok r).shiftOp = none ∧ (memRegTok r).shift = none := by
  cases hr with
  | scalar p n hp => exact ⟨rfl, rfl⟩
  | alias t ht => simp only [memRegTok, aliasTok]; split <;> exact ⟨rfl, rfl⟩

/-- register without shift: the base, or an index that is not shifted -/
theorem registerP_memreg (r : RegA) (hr : MemRegOk r) (g rest : Txt) (hg : Blank g)
    (hstop : StopsAt isDigitC rest) (hsh : shiftTail rest = none) :
    registerP (g ++ (regText r ++ rest)) = some (memRegTok r, skipWs rest) := by
  obtain ⟨h1, h2⟩ := memRegTok_noshift r hr
  simp only [registerP, registerCore_memreg r hr g rest hg hstop, optP_none true shiftTail _ hsh, sk_true]
  -- the token has no shift fields (`h1`, `h2`): setting them to `none` gives it back
  cases h : memRegTok r
  simp_all

/-- what follows inside the brackets: a gap and the closing bracket -/
theorem follow_bracket (gv E : Txt) (hg : Blank gv) : Follow (gv ++ 93 :: E) := by
  have hsk := skipWs_blank_cons gv 93 E hg (by decide)
  refine ⟨?_, ?_, ?_, ?_⟩
  · exact fun c r hc => (blank_append_head hg 93 E c r hc).imp_right fun e => Or.inr (Or.inr e)
  · intro c r hc; rw [hsk] at hc; exact Or.inr (Or.inr (List.cons.inj hc).1.symm)
  · intro r hl; simp [lit_char 44 _ 93 E hsk] at hl
  · intro r hr; rw [hsk] at hr; simp at hr

/-! ### the shift of an index register -/
/-- shift amount as the grammar reads it -/
def amtTok (a : Option (Bool × Nat)) : Option ImmTok :=
  match a with
  | some x => some (.num (showNat x.2))
  | none => none

/-- text of the optional shift amount: a gap and `#n` / `n` -/
def amtText (a : Option (Bool × Nat)) (ga : Txt) : Txt :=
  match a with
  | some x => ga ++ (optHash x.1 ++ showNat x.2)
  | none => []

/-- an amount without `#` is separated from the operator by at least one blank (`lsl 3`; `lsl3` is a name) -/
def AmtGapOk (a : Option (Bool × Nat)) (ga : Txt) : Prop := ∀ x, a = some x → x.1 = false → ga ≠ []

theorem blank_not_wordEnd (b : Nat) (h : isBlankC b = true) : isWordEndC b = false := by
  simp [isBlankC] at h; rcases h with rfl | rfl <;> decide

/-- behind the shift operator of an index register no word character follows -/
theorem amtText_wordEnd (a : Option (Bool × Nat)) (ga gv E : Txt) (hga : Blank ga) (hgv : Blank gv)
    (hgap : AmtGapOk a ga) : ∀ c r, amtText a ga ++ (gv ++ 93 :: E) = c :: r → isWordEndC c = false := by
  cases a with
  | none => exact stopsAt_gap isWordEndC gv 93 E hgv (by decide)
  | some x =>
    cases ga with
    | cons b g' => exact stopsAt_head _ b _ (blank_not_wordEnd b hga.cons.1)
    | nil =>
      cases hx : x.1 with
      | false => exact absurd rfl (hgap x rfl hx)
      | true =>
        simp only [amtText, hx, optHash, if_true, List.nil_append, List.cons_append]
        exact stopsAt_head _ 35 _ (by decide)

theorem intText_amt (h : Bool) (n : Nat) : intText ⟨h, false, false, false, n⟩ = optHash h ++ showNat n := by
  simp [intText, optNeg]

/-- the optional amount after a shift operator, in front of the closing bracket -/
theorem amt_parse (a : Option (Bool × Nat)) (ga gv E : Txt) (hga : Blank ga) (hgv : Blank gv) :
    ∃ rA, optP true immediate (amtText a ga ++ (gv ++ 93 :: E)) = (amtTok a, rA) ∧
      skipWs rA = 93 :: E ∧ rA.length ≤ (amtText a ga ++ (gv ++ 93 :: E)).length := by
  have hsk := skipWs_blank_cons gv 93 E hgv (by decide)
  cases a with
  | none =>
    refine ⟨skipWs (gv ++ 93 :: E), ?_, by rw [skipWs_idem, hsk], ?_⟩
    · simp [amtText, amtTok, optP_none true immediate _ (immediate_none_head gv 93 E hgv (by decide) (by decide) (by decide) (by decide)), sk_true]
    · simpa [amtText] using skipWs_length_le (gv ++ 93 :: E)
  | some x =>
    refine ⟨gv ++ 93 :: E, ?_, hsk, by simp [amtText]; omega⟩
    have := immediate_int ga ⟨x.1, false, false, false, x.2⟩ (gv ++ 93 :: E) hga (follow_bracket gv E hgv)
    rw [intText_amt] at this
    simp only [amtText, List.append_assoc] at this ⊢
    rw [optP_some true immediate _ _ _ this]
    simp [amtTok, optNeg, intDigits]

/-! ### the part between base and closing bracket -/
theorem memreg_word (r : RegA) (hr : MemRegOk r) :
    ∃ c w, regText r = c :: w ∧ isAlphaC c = true ∧ (∀ d ∈ w, isIdRestC d = true) := by
  cases hr with
  | scalar p n hp =>
    exact ⟨p, showNat n, rfl, scalarPrefix_alpha p hp, fun d hd => digit_idRest d (showNat_digits n d hd)⟩
  | alias t ht => simpa [regText] using alias_word t ht

/-- shift of the index as written: operator and optional amount -/
abbrev ShiftW := Txt × Option (Bool × Nat)

def shiftTextW (s : Option ShiftW) (gw g2 ga : Txt) : Txt :=
  match s with
  | none => []
  | some x => gw ++ 44 :: (g2 ++ (x.1 ++ amtText x.2 ga))

def idxTok (r : RegA) (s : Option ShiftW) : RegTok :=
  { memRegTok r with
    shiftOp := (match s with | some x => some (lower x.1) | none => none),
    shift := (match s with | some x => amtTok x.2 | none => none) }

def ShiftOk (s : Option ShiftW) : Prop := ∀ x, s = some x → lower x.1 ∈ scaleOps

theorem lit_comma_bracket (r : Txt) (E : Txt) (h : skipWs r = 93 :: E) : lit true [44] r = none := by
  simp [lit_char 44 r 93 E h]

/-- **index register** (with optional shift) between base and closing bracket -/
theorem memMid_idx (r : RegA) (hr : MemRegOk r) (s : Option ShiftW) (hs : ShiftOk s) (g gw g2 ga gv E : Txt)
    (hg : Blank g) (hgw : Blank gw) (hg2 : Blank g2) (hga : Blank ga) (hgv : Blank gv)
    (hgap : ∀ x, s = some x → AmtGapOk x.2 ga) :
    ∃ r', memMid (g ++ (regText r ++ (shiftTextW s gw g2 ga ++ (gv ++ 93 :: E)))) =
        some (.idx (idxTok r s), r') ∧ skipWs r' = 93 :: E := by
  obtain ⟨c, w, hcw, hal, hw⟩ := memreg_word r hr
  have hskV := skipWs_blank_cons gv 93 E hgv (by decide)
  have hfV := follow_bracket gv E hgv
  cases s with
  | none =>
    simp only [shiftTextW, List.nil_append]
    have hreg := registerP_memreg r hr g (gv ++ 93 :: E) hg (hfV.stops isDigitC _ (by decide))
      (shiftTail_none _ hfV)
    have hri : registerIndex (g ++ (regText r ++ (gv ++ 93 :: E))) = some (memRegTok r, skipWs (gv ++ 93 :: E)) := by
      simp only [registerIndex, hreg, lit_comma_bracket _ E (by rw [skipWs_idem, hskV])]
    have himm : immediate (g ++ (regText r ++ (gv ++ 93 :: E))) =
        some (.ident ⟨none, c :: w, none⟩, skipWs (gv ++ 93 :: E)) := by
      rw [hcw, List.cons_append]; exact immediate_word g c w _ hg hal hw hfV
    have har := arithP_none_of_immediate _ (gv ++ 93 :: E) _ _ himm (skipWs_idem _) hfV
    refine ⟨skipWs (gv ++ 93 :: E), ?_, by rw [skipWs_idem, hskV]⟩
    simp only [memMid, hri, himm, har, mapR_some, mapR_none, better_none_right]
    rw [better_some_ge _ _ _ _ (Nat.le_refl _)]
    -- an index without shift is the register token itself, which has no shift fields
    have : idxTok r none = memRegTok r := by
      obtain ⟨h1, h2⟩ := memRegTok_noshift r hr
      simp only [idxTok]; cases h : memRegTok r; simp_all
    rw [this]
  | some x =>
    have hsop := shiftOp_match g2 x.1 _ hg2 (hs x rfl) (amtText_wordEnd x.2 ga gv E hga hgv (hgap x rfl))
    obtain ⟨rA, hA, hskA, hlenA⟩ := amt_parse x.2 ga gv E hga hgv
    simp only [shiftTextW, List.append_assoc, List.cons_append]
    -- W: everything behind the register; its comma starts the shift for `registerP`, for `arithP` as well
    have hstopW := fun p hp => stopsAt_gap p gw 44 (g2 ++ (x.1 ++ (amtText x.2 ga ++ (gv ++ 93 :: E)))) hgw hp
    have hskW := skipWs_blank_cons gw 44 (g2 ++ (x.1 ++ (amtText x.2 ga ++ (gv ++ 93 :: E)))) hgw (by decide)
    generalize gw ++ 44 :: (g2 ++ (x.1 ++ (amtText x.2 ga ++ (gv ++ 93 :: E)))) = W at hstopW hskW ⊢
    have hcomma := lit_char 44 W 44 _ hskW
    rw [if_pos rfl] at hcomma
    have hst : shiftTail W = some ((lower x.1, amtTok x.2), rA) := by simp only [shiftTail, hcomma, hsop, hA]
    have hcore := registerCore_memreg r hr g W hg (hstopW isDigitC (by decide))
    have hreg : registerP (g ++ (regText r ++ W)) = some (idxTok r (some x), rA) := by
      simp only [registerP, hcore, optP_some true shiftTail _ _ _ hst, idxTok]
    have hri : registerIndex (g ++ (regText r ++ W)) = some (idxTok r (some x), rA) := by
      simp only [registerIndex, hreg, lit_comma_bracket rA E hskA]
    have hplus : lit true [43] W = none := by simp [lit_char 43 W 44 _ hskW]
    have himm : immediate (g ++ (regText r ++ W)) = some (.ident ⟨none, c :: w, none⟩, skipWs W) := by
      rw [hcw, List.cons_append]
      exact immediate_word' g c w W hg (alpha_idFirst c hal) hw (hstopW isIdRestC (by decide)) hplus
    have har : arithP (g ++ (regText r ++ W)) = some ((.ident ⟨none, c :: w, none⟩, lower x.1, amtTok x.2), rA) := by
      simp only [arithP, himm, lit_skip, hcomma, hsop, hA]
    have hlen1 : rA.length ≤ (skipWs W).length := by
      rw [hskW]; simp only [List.length_cons, List.length_append] at hlenA ⊢; omega
    refine ⟨rA, ?_, hskA⟩
    simp only [memMid, hri, himm, har, mapR_some]
    rw [better_some_ge _ _ _ _ hlen1, better_some_ge _ _ _ _ (Nat.le_refl _)]

theorem registerIndex_none_nonalpha (g : Txt) (c : Nat) (t : Txt) (hg : Blank g) (hc : isWs c = false)
    (ha : isAlphaC c = false) (h123 : c ≠ 123) : registerIndex (g ++ c :: t) = none := by
  simp [registerIndex, registerP_none_nonalpha g c t hg hc ha h123]

/-- **immediate offset** between base and closing bracket -/
theorem memMid_off (i : IntA) (g gv E : Txt) (hg : Blank g) (hgv : Blank gv) :
    memMid (g ++ (intText i ++ (gv ++ 93 :: E))) =
      some (.off (.imm (.num (optNeg i.neg ++ intDigits i))), gv ++ 93 :: E) := by
  have hfV := follow_bracket gv E hgv
  have himm := immediate_int g i (gv ++ 93 :: E) hg hfV
  have har := arithP_none_of_immediate _ (gv ++ 93 :: E) _ _ himm rfl hfV
  obtain ⟨c, t, hct, hc⟩ := intText_numHead i (gv ++ 93 :: E)
  obtain ⟨hws, ha, -, h123, -⟩ := numHead_facts c hc
  have hri : registerIndex (g ++ (intText i ++ (gv ++ 93 :: E))) = none := by
    rw [hct]; exact registerIndex_none_nonalpha g c _ hg hws ha h123
  simp [memMid, hri, himm, har]

/-- **identifier offset** (`#:lo12:name`, `name+8`, …) between base and closing bracket -/
theorem memMid_ident (i : IdentA) (hok : IdentOk i) (g gv E : Txt) (hg : Blank g) (hgv : Blank gv) :
    ∃ r', memMid (g ++ (identText i ++ (gv ++ 93 :: E))) = some (.off (.imm (.ident (identTok i))), r') ∧
      skipWs r' = 93 :: E := by
  have hfV := follow_bracket gv E hgv
  have hskV := skipWs_blank_cons gv 93 E hgv (by decide)
  obtain ⟨r2, himm, hsk2, _⟩ := immediate_identFull g i (gv ++ 93 :: E) hg hok hfV
  have har := arithP_none_of_immediate _ (gv ++ 93 :: E) _ _ himm hsk2 hfV
  have hreg := registerP_none_identFull g i (gv ++ 93 :: E) hg hok hfV
  refine ⟨r2, ?_, by rw [hsk2, hskV]⟩
  have hri : registerIndex (g ++ (identText i ++ (gv ++ 93 :: E))) = none := by simp [registerIndex, hreg]
  simp [memMid, hri, himm, har]

theorem memMid_bracket (E : Txt) : memMid (93 :: E) = none := by
  have hws : isWs 93 = false := by decide
  have h1 := registerIndex_none_nonalpha [] 93 E blank_nil hws (by decide) (by decide)
  have h2 := immediate_none_head [] 93 E blank_nil hws (by decide) (by decide) (by decide)
  simp only [List.nil_append] at h1 h2
  simp [memMid, h1, h2, arithP]

/-! ### pieces of a memory reference -/
def toW (s : Option ShiftA) : Option ShiftW :=
  match s with
  | some x => some (x.op, x.amt)
  | none => none

def midPieces (mid : MemMidA) : List Piece :=
  match mid with
  | .none => []
  | .off o => ([44], 1) :: offPieces o
  | .idx r s =>
    [([44], 1), (regText r, 1)] ++
    (match s with
     | none => []
     | some sh => [([44], 1), (sh.op, 1)] ++ (match sh.amt with | some a => [amtPiece a] | none => []))

def endPieces (pre : Bool) (post : Option IntA) : List Piece :=
  (if pre then [([33], 1)] else []) ++ (match post with | some i => [([44], 1), (intText i, 1)] | none => [])

theorem memPieces_eq (m : MemA) :
    memPieces m = ([91], 1) :: (regText m.base, 1) :: (midPieces m.mid ++ (([93], 1) :: endPieces m.pre m.post)) := by
  simp only [memPieces, List.append_assoc, List.cons_append, List.nil_append]
  rfl

/-- covered memory references: base and index are scalar registers or sp/zr aliases, the offset is an
    integer or an identifier (`IdentOk`), the index shift one of the scaling operators -/
def MidOk : MemMidA → Prop
  | .none => True
  | .off (.int _) => True
  | .off (.ident i) => IdentOk i
  | .idx r s => MemRegOk r ∧ ∀ x, s = some x → lower x.op ∈ scaleOps

def midTok : MemMidA → Option MemMid
  | .none => none
  | .off (.int i) => some (.off (.imm (.num (optNeg i.neg ++ intDigits i))))
  | .off (.ident i) => some (.off (.imm (.ident (identTok i))))
  | .idx r s => some (.idx (idxTok r (toW s)))

theorem innerOk_cons' {p : Piece} {ps : List Piece} {gs : List Txt} (h : InnerOk (p :: ps) gs) :
    ∃ g gs', gs = g :: gs' ∧ Blank g ∧ (p.2 = 2 → g ≠ []) ∧ InnerOk ps gs' := by
  cases gs with
  | nil => exact absurd h (by simp [InnerOk])
  | cons g gs' => exact ⟨g, gs', rfl, h.1, h.2.1, h.2.2⟩

/-- the same without the requirement of a non-empty gap -/
theorem innerOk_cons {p : Piece} {ps : List Piece} {gs : List Txt} (h : InnerOk (p :: ps) gs) :
    ∃ g gs', gs = g :: gs' ∧ Blank g ∧ InnerOk ps gs' :=
  let ⟨g, gs', e, hg, _, hi⟩ := innerOk_cons' h
  ⟨g, gs', e, hg, hi⟩

theorem innerOk_append (ps1 ps2 : List Piece) (gs : List Txt) (h : InnerOk (ps1 ++ ps2) gs) :
    ∃ gs1 gs2, InnerOk ps1 gs1 ∧ InnerOk ps2 gs2 ∧
      joinInner (ps1 ++ ps2) gs = joinInner ps1 gs1 ++ joinInner ps2 gs2 := by
  induction ps1 generalizing gs with
  | nil => exact ⟨[], gs, rfl, h, rfl⟩
  | cons p ps1 ih =>
    cases gs with
    | nil => exact absurd h (by simp [InnerOk])
    | cons g gs' =>
      obtain ⟨gs1, gs2, h1, h2, hj⟩ := ih gs' h.2.2
      exact ⟨g :: gs1, gs2, ⟨h.1, h.2.1, h1⟩, h2, by simp [joinInner, hj, List.append_assoc]⟩

theorem shiftOp_none_memreg (r : RegA) (hr : MemRegOk r) (g rest : Txt) (hg : Blank g) :
    shiftOp (g ++ (regText r ++ rest)) = none := by
  cases hr with
  | scalar p n hp =>
    obtain ⟨d, ds, hd, hdd⟩ := showNat_cons n
    simp only [regText, List.cons_append, hd]
    exact shiftOp_none_snd_digit g p d _ hg (alpha_not_ws p (scalarPrefix_alpha p hp)) hdd
  | alias t ht => exact (alias_no_keyword t ht g rest hg).2.2

/-- `, s'` behind the base register is no shift of the base, and the middle part is what `memMid` reads in `s'` -/
theorem mid_behind_comma (gc s' : Txt) (tok : MemMid) (r' : Txt) (hgc : Blank gc) (hsh : shiftOp s' = none)
    (hmm : memMid s' = some (tok, r')) :
    StopsAt isDigitC (gc ++ 44 :: s') ∧ shiftTail (gc ++ 44 :: s') = none ∧
      optP true memMid (optLit true [44] (gc ++ 44 :: s')) = (some tok, r') := by
  have hl := lit_gap gc 44 s' hgc (by decide)
  exact ⟨stopsAt_gap _ gc 44 _ hgc (by decide), by simp [shiftTail, hl, hsh],
    by simp only [optLit, hl, optP_some true memMid _ _ _ hmm]⟩

/-- everything between the base register and the closing bracket (∀ layouts of its pieces) -/
theorem mid_step (mid : MemMidA) (hmid : MidOk mid) (gs : List Txt) (hgs : InnerOk (midPieces mid) gs)
    (gv E : Txt) (hgv : Blank gv) :
    StopsAt isDigitC (joinInner (midPieces mid) gs ++ (gv ++ 93 :: E)) ∧
    shiftTail (joinInner (midPieces mid) gs ++ (gv ++ 93 :: E)) = none ∧
    ∃ r', optP true memMid (optLit true [44] (joinInner (midPieces mid) gs ++ (gv ++ 93 :: E))) = (midTok mid, r') ∧
      skipWs r' = 93 :: E := by
  have hfV := follow_bracket gv E hgv
  have hskV := skipWs_blank_cons gv 93 E hgv (by decide)
  match mid, hmid with
  | .none, _ =>
    obtain rfl : gs = [] := hgs
    simp only [midPieces, joinInner, List.nil_append]
    refine ⟨hfV.stops _ _ (by decide), shiftTail_none _ hfV, skipWs (skipWs (gv ++ 93 :: E)), ?_,
      by rw [skipWs_idem, skipWs_idem, hskV]⟩
    have hl : optLit true [44] (gv ++ 93 :: E) = skipWs (gv ++ 93 :: E) := by
      simp [optLit, lit_comma_bracket _ E hskV, sk_true]
    rw [hl, hskV, optP_none true memMid _ (memMid_bracket E)]
    simp [midTok, sk_true, skipWs]
  | .off (.int i), _ =>
    obtain ⟨gc, gs1, rfl, hgc, h1⟩ := innerOk_cons hgs
    obtain ⟨g', gs2, rfl, hg', h2⟩ := innerOk_cons h1
    obtain rfl : gs2 = [] := h2
    obtain ⟨c, t, hct, hws, ha, _, _⟩ := intText_head i
    have htext : joinInner (midPieces (.off (.int i))) [gc, g'] ++ (gv ++ 93 :: E) =
        gc ++ 44 :: (g' ++ (intText i ++ (gv ++ 93 :: E))) := by
      simp [midPieces, offPieces, joinInner, List.append_assoc]
    rw [htext]
    have hsh : shiftOp (g' ++ (intText i ++ (gv ++ 93 :: E))) = none := by
      rw [hct, List.cons_append]; exact shiftOp_none_nonalpha g' c _ hg' hws ha
    obtain ⟨h1, h2, h3⟩ := mid_behind_comma gc _ _ _ hgc hsh (memMid_off i g' gv E hg' hgv)
    exact ⟨h1, h2, _, h3, hskV⟩
  | .off (.ident i), hi =>
    have hok : IdentOk i := hi
    obtain ⟨gc, gs1, rfl, hgc, h1⟩ := innerOk_cons hgs
    obtain ⟨g', gs2, rfl, hg', h2⟩ := innerOk_cons h1
    obtain rfl : gs2 = [] := h2
    have htext : joinInner (midPieces (.off (.ident i))) [gc, g'] ++ (gv ++ 93 :: E) =
        gc ++ 44 :: (g' ++ (identText i ++ (gv ++ 93 :: E))) := by
      simp [midPieces, offPieces, joinInner, List.append_assoc]
    rw [htext]
    obtain ⟨r', hmm, hsk⟩ := memMid_ident i hok g' gv E hg' hgv
    obtain ⟨h1, h2, h3⟩ := mid_behind_comma gc _ _ _ hgc
      ((goodRest_identFull i hok).noShift g' (gv ++ 93 :: E) hg' hfV) hmm
    exact ⟨h1, h2, r', h3, hsk⟩
  | .idx r s, hm =>
    obtain ⟨hr, hs⟩ := hm
    obtain ⟨gc, gs1, rfl, hgc, h1⟩ := innerOk_cons hgs
    obtain ⟨g', gs2, rfl, hg', h2⟩ := innerOk_cons h1
    -- the shift part, whatever its layout, has the shape `shiftTextW`
    have hshape : ∃ gw g2 ga, Blank gw ∧ Blank g2 ∧ Blank ga ∧ (∀ x, toW s = some x → AmtGapOk x.2 ga) ∧
        joinInner (midPieces (.idx r s)) (gc :: g' :: gs2) ++ (gv ++ 93 :: E) =
          gc ++ 44 :: (g' ++ (regText r ++ (shiftTextW (toW s) gw g2 ga ++ (gv ++ 93 :: E)))) := by
      cases s with
      | none =>
        obtain rfl : gs2 = [] := h2
        exact ⟨[], [], [], blank_nil, blank_nil, blank_nil, by simp [toW],
          by simp [midPieces, joinInner, toW, shiftTextW]⟩
      | some sh =>
        obtain ⟨gw, gs3, rfl, hgw, h3⟩ := innerOk_cons h2
        obtain ⟨g2, gs4, rfl, hg2, h4⟩ := innerOk_cons h3
        obtain ⟨op, amt⟩ := sh
        cases amt with
        | none =>
          obtain rfl : gs4 = [] := h4
          exact ⟨gw, g2, [], hgw, hg2, blank_nil,
            (by intro x hx y hy; simp [toW] at hx; rw [← hx] at hy; cases hy),
            by simp [midPieces, joinInner, toW, shiftTextW, amtText, List.append_assoc]⟩
        | some a =>
          obtain ⟨ga, gs5, rfl, hga, hne, h5⟩ := innerOk_cons' h4
          obtain rfl : gs5 = [] := h5
          refine ⟨gw, g2, ga, hgw, hg2, hga, ?_,
            by simp [midPieces, joinInner, toW, shiftTextW, amtText, amtPiece, List.append_assoc]⟩
          intro x hx y hy hy1
          simp [toW] at hx; rw [← hx] at hy; cases hy
          apply hne
          simp [amtPiece, hy1]
    obtain ⟨gw, g2, ga, hgw, hg2, hga, hgap, htext⟩ := hshape
    rw [htext]
    have hsW : ShiftOk (toW s) := by
      intro x hx
      cases s with
      | none => simp [toW] at hx
      | some sh => simp [toW] at hx; rw [← hx]; exact hs sh rfl
    obtain ⟨r', hmm, hsk⟩ := memMid_idx r hr (toW s) hsW g' gw g2 ga gv E hg' hgw hg2 hga hgv hgap
    obtain ⟨h1, h2, h3⟩ := mid_behind_comma gc _ _ _ hgc (shiftOp_none_memreg r hr g' _ hg') hmm
    exact ⟨h1, h2, r', h3, hsk⟩

/-! ### after the closing bracket -/
def endTok (pre : Bool) (post : Option IntA) : Option MemPost :=
  if pre then some .bang
  else match post with
    | some i => some (.post (.num (optNeg i.neg ++ intDigits i)))
    | none => none

/-- `!`, a post-index immediate, or nothing — at the end of the line -/
theorem end_step (pre : Bool) (post : Option IntA) (hpp : pre = true → post = none) (gs : List Txt)
    (hgs : InnerOk (endPieces pre post) gs) (rest : Txt) (ht : IsTail rest) :
    ∃ r', optP true memPost (joinInner (endPieces pre post) gs ++ rest) = (endTok pre post, r') ∧
      skipWs r' = skipWs rest := by
  cases pre with
  | true =>
    have hpo := hpp rfl
    subst hpo
    obtain ⟨gb, gs1, rfl, hgb, h1⟩ := innerOk_cons hgs
    obtain rfl : gs1 = [] := h1
    refine ⟨rest, ?_, rfl⟩
    have : memPost (gb ++ 33 :: rest) = some (.bang, rest) := by
      simp [memPost, lit_gap gb 33 rest hgb (by decide)]
    simp only [endPieces, joinInner, if_true, List.append_nil, List.nil_append, List.append_assoc, List.cons_append]
    rw [optP_some true memPost _ _ _ this]; rfl
  | false =>
    cases post with
    | none =>
      obtain rfl : gs = [] := hgs
      have h33 : lit true [33] rest = none := lit_none_of_follow rest ht.follow 33 [] (by omega)
      have h44 : lit true [44] rest = none := by
        rcases ht.skip with h0 | ⟨c, h0⟩ <;> simp [lit, sk_true, h0, dropPrefix]
      have : memPost rest = none := by simp [memPost, h33, h44]
      refine ⟨skipWs rest, ?_, skipWs_idem rest⟩
      simp [endPieces, joinInner, optP_none true memPost _ this, sk_true, endTok]
    | some i =>
      obtain ⟨g1, gs1, rfl, hg1, h1⟩ := innerOk_cons hgs
      obtain ⟨g2, gs2, rfl, hg2, h2⟩ := innerOk_cons h1
      obtain rfl : gs2 = [] := h2
      refine ⟨rest, ?_, rfl⟩
      have himm := immediate_int g2 i rest hg2 ht.follow
      have : memPost (g1 ++ 44 :: (g2 ++ (intText i ++ rest))) =
          some (.post (.num (optNeg i.neg ++ intDigits i)), rest) := by
        have h33 : lit true [33] (g1 ++ 44 :: (g2 ++ (intText i ++ rest))) = none :=
          lit_head_ne g1 44 33 _ [] hg1 (by decide) (by decide)
        simp [memPost, h33, lit_gap g1 44 _ hg1 (by decide), himm]
      have htext : joinInner (endPieces false (some i)) [g1, g2] ++ rest = g1 ++ 44 :: (g2 ++ (intText i ++ rest)) := by
        simp [endPieces, joinInner, List.append_assoc]
      rw [htext, optP_some true memPost _ _ _ this]; rfl

/-! ### the whole memory reference -/
structure MemOk (m : MemA) : Prop where
  base : MemRegOk m.base
  mid : MidOk m.mid
  prepost : m.pre = true → m.post = none

/-- the `memory` group as the grammar leaves it -/
def memTok (m : MemA) : MemTok :=
  { base := some (memRegTok m.base),
    index := (match midTok m.mid with | some (.idx x) => some x | _ => none),
    offset := (match midTok m.mid with | some (.off o) => some o | _ => none),
    pre := (match endTok m.pre m.post with | some .bang => true | _ => false),
    post := (match endTok m.pre m.post with | some (.post i) => some i | _ => none) }

/-- **memory reference** as the grammar reads it (∀ base/index numbers, offsets, shift amounts,
    ∀ layouts of its pieces), at the end of a line -/
theorem memoryP_text (m : MemA) (hm : MemOk m) (g : Txt) (gs : List Txt) (rest : Txt) (hg : Blank g)
    (hgs : InnerOk (memPieces m).tail gs) (ht : IsTail rest) :
    ∃ r', memoryP (g ++ ([91] ++ joinInner (memPieces m).tail gs ++ rest)) = some (memTok m, r') ∧
      skipWs r' = skipWs rest := by
  rw [memPieces_eq] at hgs ⊢
  simp only [List.tail_cons] at hgs ⊢
  obtain ⟨g1, gs1, rfl, hg1, h1⟩ := innerOk_cons hgs
  obtain ⟨gsM, gs2, hM, h2, hj⟩ := innerOk_append _ _ gs1 h1
  obtain ⟨gv, gsE, rfl, hgv, hE⟩ := innerOk_cons h2
  obtain ⟨rE, hend, hskE⟩ := end_step m.pre m.post hm.prepost gsE hE rest ht
  obtain ⟨hstop, hsh, rM, hmid, hskM⟩ := mid_step m.mid hm.mid gsM hM gv (joinInner (endPieces m.pre m.post) gsE ++ rest) hgv
  have htext : g ++ ([91] ++ joinInner ((regText m.base, 1) :: (midPieces m.mid ++ ([93], 1) :: endPieces m.pre m.post))
      (g1 :: gs1) ++ rest) =
      g ++ 91 :: (g1 ++ (regText m.base ++ (joinInner (midPieces m.mid) gsM ++
        (gv ++ 93 :: (joinInner (endPieces m.pre m.post) gsE ++ rest))))) := by
    simp [joinInner, hj, List.append_assoc]
  rw [htext]
  generalize hY : joinInner (midPieces m.mid) gsM ++ (gv ++ 93 :: (joinInner (endPieces m.pre m.post) gsE ++ rest)) = Y
    at hstop hsh hmid ⊢
  have hlb := lit_gap g 91 (g1 ++ (regText m.base ++ Y)) hg (by decide)
  have hbase := registerP_memreg m.base hm.base g1 Y hg1 hstop hsh
  have hrb := lit_char 93 rM 93 _ hskM
  rw [if_pos rfl] at hrb
  refine ⟨rE, ?_, hskE⟩
  simp only [memoryP, hlb, optP_some true registerP _ _ _ hbase, optLit_skip, hmid, hrb, hend, memTok]
  generalize midTok m.mid = a
  generalize endTok m.pre m.post = b
  rcases a with _ | ⟨x | o⟩ <;> rcases b with _ | ⟨_ | i⟩ <;> rfl

/-! ## the memory reference as an operand, and its post-processing -/
theorem pyInt0_int (i : IntA) : pyInt0 (optNeg i.neg ++ intDigits i) = some (intVal i) := by
  simp only [intDigits, intVal]
  cases i.neg <;> cases i.hex <;>
    simp [optNeg, pyInt0_showNat, pyInt0_neg_showNat, pyInt0_showHex, pyInt0_neg_showHex]

/-- **memory reference** in any operand slot, as the last operand -/
theorem goodOp_mem (m : MemA) (hm : MemOk m) (gs : List Txt) (hgs : InnerOk (memPieces m).tail gs) :
    GoodOp true true ([91] ++ joinInner (memPieces m).tail gs) (.mem (memTok m)) := by
  have hws : isWs 91 = false := by decide
  have key : ∀ g rest, Blank g → IsTail rest →
      ∃ r', (mapR RawOp.reg (registerP (g ++ 91 :: (joinInner (memPieces m).tail gs ++ rest))) <^>
          mapR RawOp.mem (memoryP (g ++ 91 :: (joinInner (memPieces m).tail gs ++ rest)))) =
        some (.mem (memTok m), r') ∧ skipWs r' = skipWs rest := by
    intro g rest hg ht
    obtain ⟨r', hmem, hsk⟩ := memoryP_text m hm g gs rest hg hgs ht
    simp only [List.cons_append, List.nil_append] at hmem
    exact ⟨r', by simp [registerP_none_nonalpha g 91 _ hg hws (by decide) (by decide), hmem], hsk⟩
  have hp := fun g t hg => operand_punct g 91 t hg hws (by decide) (by decide) (by decide)
  refine ⟨fun g rest hg ht => ?_, fun _ g rest hg ht => ?_, fun g rest hg _ => ?_,
    ⟨91, joinInner (memPieces m).tail gs, rfl, hws, by decide, by decide⟩⟩
  · obtain ⟨r', h, hsk⟩ := key g rest hg ht
    exact ⟨r', (hp g _ hg).1.trans h, hsk⟩
  · obtain ⟨r', h, hsk⟩ := key g rest hg ht
    exact ⟨r', (hp g _ hg).2.trans h, hsk⟩
  · exact shiftOp_none_nonalpha g 91 _ hg hws (by decide)

/-! ### post-processing -/
theorem forcedPrefix_digits (n : Nat) : forcedPrefix (showNat n) = none := by
  obtain ⟨d, ds, hd, hdd⟩ := showNat_cons n
  have hb := digit_bounds d hdd
  unfold forcedPrefix
  rw [lower_showNat, hd]
  have h1 : (([115, 112] : List Nat) == d :: ds) = false := by
    have : (115 : Nat) ≠ d := by omega
    simp [this]
  have h2 : (([122, 114] : List Nat) == d :: ds) = false := by
    have : (122 : Nat) ≠ d := by omega
    simp [this]
  simp only [A64.memAliasForced, List.find?, h1, h2]

theorem memRegOf_congr (t t' : RegTok) (hpre : t.pre = t'.pre) (hname : t.name = t'.name) :
    memRegOf t = memRegOf t' := by
  simp only [memRegOf, hpre, hname]

theorem memRegOf_memreg (r : RegA) (hr : MemRegOk r) (t : RegTok) (hpre : t.pre = (memRegTok r).pre)
    (hname : t.name = (memRegTok r).name) : memRegOf t = .ok (expectMemReg r) := by
  rw [memRegOf_congr t (memRegTok r) hpre hname]
  cases hr with
  | scalar p n hp => simp [memRegOf, memRegTok, forcedPrefix_digits, expectMemReg, lower, lowerTxt1]
  | alias t' ht => rcases alias_cases t' ht with rfl | rfl | rfl | rfl | rfl | rfl | rfl | rfl <;> rfl

theorem processMemory_parts (m : MemTok) (b : RegTok) (off : Option MemOff) (sc : Nat) (po : Option PostIdx)
    (bpn : Txt × Txt) (ixo : Option MemIdx) (hb : m.base = some b) (ho : memOffsetOf m.offset = .ok off)
    (hs : memScaleOf m.index = .ok sc) (hp : memPostOf m.post = .ok po) (hr : memRegOf b = .ok bpn)
    (hi : memIndexOf m.index = .ok ixo) :
    processMemory m = .ok { offset := off, basePre := bpn.1, baseName := bpn.2, index := ixo, scale := sc,
                            pre := m.pre, post := po } := by
  simp only [processMemory, hb, ho, hs, hp, hr, hi]

theorem processMemory_memTok (m : MemA) (hm : MemOk m) : processMemory (memTok m) = .ok (expectMem m) := by
  obtain ⟨base, mid, pre, post⟩ := m
  obtain ⟨hb, hmid, hpp⟩ := hm
  have hend : memPostOf (memTok ⟨base, mid, pre, post⟩).post = .ok (expectMem ⟨base, mid, pre, post⟩).post ∧
      (memTok ⟨base, mid, pre, post⟩).pre = pre := by
    cases pre with
    | true => cases hpp rfl; exact ⟨rfl, rfl⟩
    | false => cases post with
      | none => exact ⟨rfl, rfl⟩
      | some i =>
        refine ⟨?_, rfl⟩
        show memPostOf (some (.num (optNeg i.neg ++ intDigits i))) = .ok (some (.imm (intVal i)))
        simp only [memPostOf, pyInt0_int]
  have hmid' : memOffsetOf (memTok ⟨base, mid, pre, post⟩).offset = .ok (expectMem ⟨base, mid, pre, post⟩).offset ∧
      memScaleOf (memTok ⟨base, mid, pre, post⟩).index = .ok (expectMem ⟨base, mid, pre, post⟩).scale ∧
      memIndexOf (memTok ⟨base, mid, pre, post⟩).index = .ok (expectMem ⟨base, mid, pre, post⟩).index := by
    match mid, hmid with
    | .none, _ => exact ⟨rfl, rfl, rfl⟩
    | .off (.int i), _ =>
      refine ⟨?_, rfl, rfl⟩
      show memOffsetOf (some (.imm (.num (optNeg i.neg ++ intDigits i)))) = .ok (some (.imm (intVal i)))
      simp only [memOffsetOf, pyInt0_int]
    | .off (.ident i), _ => exact ⟨rfl, rfl, rfl⟩
    | .idx r s, ⟨hr, hs⟩ =>
      have hidx := memRegOf_memreg r hr (idxTok r (toW s)) rfl rfl
      refine ⟨rfl, ?_, ?_⟩
      · match s with
        | none => rfl
        | some ⟨op, none⟩ => rfl
        | some ⟨op, some a⟩ =>
          have hv : lower op ∈ A64.validShiftOps := List.contains_iff_mem.mp (scaleOps_valid _ (hs ⟨op, some a⟩ rfl))
          show memScaleOf (some (idxTok r (toW (some ⟨op, some a⟩)))) = .ok (pow2 a.2)
          simp [memScaleOf, idxTok, toW, amtTok, hv, pyInt10_showNat, A64.scaleBase, pow2]
      · show memIndexOf (some (idxTok r (toW s))) = _
        simp only [memIndexOf, hidx]
        match s with
        | none => rfl
        | some ⟨op, none⟩ => rfl
        | some ⟨op, some a⟩ => rfl
  rw [processMemory_parts _ _ _ _ _ _ _ rfl hmid'.1 hmid'.2.1 hend.1
    (memRegOf_memreg base hb (memRegTok base) rfl rfl) hmid'.2.2, hend.2]
  rfl

theorem covered_mem (fst : Bool) (m : MemA) (hm : MemOk m) : CoveredOp true fst (.mem m) := by
  refine ⟨[91], (memPieces m).tail, .mem (memTok m), ?_, ?_, ?_⟩
  · show memPieces m = ([91], 1) :: (memPieces m).tail
    rw [memPieces_eq]; rfl
  · intro gs hgs
    have := goodOp_mem m hm gs hgs
    exact this.atSlot fst
  · simp [processOperand, processMemory_memTok m hm, expectOp]

end OsacaVerif.ParseA64
