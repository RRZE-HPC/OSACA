import OsacaVerif.Lemmas.KindAgree
/-
  For the lookup theorems of C07: the code's entry test is the specification's (`entryMatches_eq`, `specMatchesB_iff`),
  and the fall-back mnemonics of the code are the ones the property words (`fallbackName_iff`).
-/
namespace OsacaVerif.Lemmas.Lookup
open OsacaVerif OsacaVerif.Text OsacaVerif.Operand OsacaVerif.Match OsacaVerif.Spec OsacaVerif.Lemmas.KindAgree

/-- on the parser domain and for schema-valid entries the code's entry test is the specification's -/
theorem entryMatches_eq (isa : Isa) (name : Txt) (ops : List POperand) (e : Entry)
    (ho : ops.all parserOperand = true) (he : e.operands.all schemaOperand = true) :
    entryMatches isa name ops e = specMatchesB isa name ops e := by
  simp only [entryMatches, specMatchesB, matchOperands_eq isa e.operands ops ho he]

theorem specMatchesB_iff (isa : Isa) (name : Txt) (ops : List POperand) (e : Entry) :
    specMatchesB isa name ops e = true ↔ SpecMatches isa name ops e := by
  simp only [specMatchesB, SpecMatches, Bool.and_eq_true, beq_iff_eq, kindAgreeAll_iff]

theorem gas_eq : Gen.gasSuffixesArch = gasSuffixes := by decide
theorem gas_isa_eq : Gen.gasSuffixesIsa = gasSuffixes := by decide
theorem sep_eq : Gen.suffixSep = dot := by decide

theorem dropGasSuffix_iff (name alt : Txt) :
    dropGasSuffix name = some alt ↔ ∃ c, c ∈ gasSuffixes ∧ name = alt ++ [c] := by
  unfold dropGasSuffix
  rw [gas_eq]
  constructor
  · intro h
    cases hl : name.getLast? with
    | none => simp [hl] at h
    | some c =>
      obtain ⟨ys, hys⟩ := List.getLast?_eq_some_iff.mp hl
      subst hys
      by_cases hc : gasSuffixes.contains c = true
      · simp only [hl, hc, if_true, Option.some.injEq, List.dropLast_concat] at h
        exact ⟨c, by simpa using hc, by rw [h]⟩
      · simp only [hl, hc] at h
        simp at h
  · rintro ⟨c, hc, rfl⟩
    have : gasSuffixes.contains c = true := by simpa using hc
    simp only [List.getLast?_append, List.getLast?_singleton, Option.some_or, this, if_true,
      List.dropLast_concat]

theorem takeWhile_ne_append (alt rest : Txt) (d : Nat) (h : d ∉ alt) :
    (alt ++ d :: rest).takeWhile (· != d) = alt := by
  have ha : ∀ a ∈ alt, (a != d) = true := fun a ha => bne_iff_ne.mpr fun e => h (by rw [← e]; exact ha)
  rw [List.takeWhile_append_of_pos ha, List.takeWhile_cons]
  simp

theorem split_at_first (name : Txt) (d : Nat) (h : d ∈ name) :
    ∃ rest, d ∉ name.takeWhile (· != d) ∧ name = name.takeWhile (· != d) ++ d :: rest := by
  induction name with
  | nil => simp at h
  | cons a as ih =>
    by_cases ha : a = d
    · subst ha
      exact ⟨as, by simp, by simp⟩
    · have hd : d ∈ as := by
        simp only [List.mem_cons] at h
        rcases h with h | h
        · exact absurd h.symm ha
        · exact h
      obtain ⟨rest, r1, r2⟩ := ih hd
      refine ⟨rest, ?_, ?_⟩
      · simp only [List.takeWhile_cons, bne_iff_ne, ne_eq, ha, not_false_eq_true, ite_true,
          List.mem_cons, not_or]
        exact ⟨fun e => ha e.symm, r1⟩
      · simp only [List.takeWhile_cons, bne_iff_ne, ne_eq, ha, not_false_eq_true, ite_true,
          List.cons_append]
        rw [← r2]

theorem cutAtDot_iff (name alt : Txt) :
    cutAtDot name = some alt ↔ ∃ rest, dot ∉ alt ∧ name = alt ++ dot :: rest := by
  unfold cutAtDot
  rw [sep_eq]
  constructor
  · intro h
    by_cases hc : name.contains dot = true
    · simp only [hc, if_true, Option.some.injEq] at h
      obtain ⟨rest, r1, r2⟩ := split_at_first name dot (by simpa using hc)
      rw [h] at r1 r2
      exact ⟨rest, r1, r2⟩
    · simp only [hc] at h
      simp at h
  · rintro ⟨rest, h1, rfl⟩
    have : (alt ++ dot :: rest).contains dot = true := by simp
    rw [if_pos this, takeWhile_ne_append alt rest dot h1]

theorem fallbackName_iff (isa : Isa) (name alt : Txt) :
    fallbackName isa name = some alt ↔ IsFallback isa name alt := by
  cases isa with
  | x86 => exact dropGasSuffix_iff name alt
  | a64 => exact cutAtDot_iff name alt

end OsacaVerif.Lemmas.Lookup
