import OsacaVerif.Model.Import
/-
  Text-level facts of the ibench line format (C20): `NAME-TP` / `NAME-LT` dispatch and the key
  `MNEMONIC-OPERANDS` of a line.  Core Lean only.
-/
namespace OsacaVerif.Import
open OsacaVerif.Text OsacaVerif.ImportText OsacaVerif.Gen.Import

theorem rstrip_append (a b : Txt) (hb : b ≠ []) (h : rstrip b = b) : rstrip (a ++ b) = a ++ b := by
  induction a with
  | nil => simpa using h
  | cons x a ih =>
    simp only [List.cons_append, rstrip, ih]
    cases hab : a ++ b with
    | nil => simp at hab; exact absurd hab.2 hb
    | cons _ _ => rfl

theorem endsWith_append (a b : Txt) : endsWith (a ++ b) b = true := by
  unfold endsWith
  rw [List.isSuffixOf_iff_suffix]
  exact List.suffix_append a b

theorem not_endsWith_of_length (a b c : Txt) (hl : b.length = c.length) (hne : b ≠ c) :
    endsWith (a ++ b) c = false := by
  unfold endsWith
  cases h : c.isSuffixOf (a ++ b) with
  | false => rfl
  | true =>
    rw [List.isSuffixOf_iff_suffix] at h
    have h2 : b <:+ a ++ b := List.suffix_append a b
    have : c = b := by
      have := List.suffix_of_suffix_length_le h h2 (by omega)
      exact this.eq_of_length hl.symm
    exact absurd this.symm hne

theorem hasTag_append (tag k s : Txt) (hs : s ≠ []) (hr : rstrip s = s) :
    hasTag tag (k ++ s) = endsWith (k ++ s) tag := by
  simp only [hasTag, ibDispatchRstrip, ibDispatchSuffix, if_true, rstrip_append k s hs hr]

/-- a name ending in `-TP` is a throughput line … -/
theorem hasTag_tp (k : Txt) : hasTag ibTpTag (k ++ ibTpTag) = true :=
  (hasTag_append _ k _ (by decide) (by decide)).trans (endsWith_append k ibTpTag)

/-- … whatever the mnemonic contains, a name ending in `-LT` is not a throughput line … -/
theorem hasTag_tp_on_lt (k : Txt) : hasTag ibTpTag (k ++ ibLtTag) = false :=
  (hasTag_append _ k _ (by decide) (by decide)).trans (not_endsWith_of_length k ibLtTag ibTpTag (by decide) (by decide))

/-- … and is a latency line -/
theorem hasTag_lt (k : Txt) : hasTag ibLtTag (k ++ ibLtTag) = true :=
  (hasTag_append _ k _ (by decide) (by decide)).trans (endsWith_append k ibLtTag)

theorem splitOn_ne_nil (sep : Nat) (t : Txt) : splitOn sep t ≠ [] := by
  cases t with
  | nil => simp [splitOn]
  | cons c cs =>
    unfold splitOn
    split
    · simp
    · split <;> simp

theorem splitOn_no_sep (sep : Nat) (a : Txt) (h : sep ∉ a) : splitOn sep a = [a] := by
  induction a with
  | nil => rfl
  | cons c cs ih =>
    have hc : c ≠ sep := fun e => h (e ▸ List.mem_cons_self)
    have hcs : sep ∉ cs := fun m => h (List.mem_cons_of_mem _ m)
    simp [splitOn, hc, ih hcs]

theorem splitOn_append (sep : Nat) (a b : Txt) (h : sep ∉ a) :
    splitOn sep (a ++ sep :: b) = a :: splitOn sep b := by
  induction a with
  | nil => simp [splitOn]
  | cons c cs ih =>
    have hc : c ≠ sep := fun e => h (e ▸ List.mem_cons_self)
    have hcs : sep ∉ cs := fun m => h (List.mem_cons_of_mem _ m)
    simp [splitOn, hc, ih hcs]

theorem keyOf_form (mn ops tail : Txt) (h1 : 45 ∉ mn) (h2 : 45 ∉ ops) :
    keyOf (mn ++ 45 :: (ops ++ 45 :: tail)) = mn ++ 45 :: ops := by
  unfold keyOf
  simp only [ibDash, ibKeyFields]
  rw [splitOn_append 45 mn _ h1, splitOn_append 45 ops _ h2]
  simp [join]

theorem viewLine_instr (name rest : Txt) (h : 58 ∉ name) :
    (viewLine (name ++ 58 :: rest)).instr = name := by
  unfold viewLine
  simp only [ibColon]
  rw [splitOn_append 58 name _ h]
  rfl

end OsacaVerif.Import
