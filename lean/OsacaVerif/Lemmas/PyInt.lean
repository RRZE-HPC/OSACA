import OsacaVerif.Model.PyInt
/-
  Facts about the Python text helpers: decimal rendering round-trips through `int`, `split` undoes
  `join`, `strip` leaves digit strings alone.
-/
namespace OsacaVerif.PyInt
open OsacaVerif.Text

abbrev IsDig (c : Nat) : Prop := 48 ≤ c ∧ c ≤ 57

theorem digitVal_dig {c : Nat} (h : IsDig c) : digitVal 10 c = some (c - 48) := by
  unfold digitVal
  simp only [show 48 ≤ c ∧ c ≤ 57 from h, and_self, if_true]
  have : c - 48 < 10 := by omega
  simp [this]

/-- value of a digit string read from the left -/
def decVal (acc : Nat) (ds : Txt) : Nat := ds.foldl (fun a c => a * 10 + (c - 48)) acc

theorem digitsU_dig (ds : Txt) (h : ∀ c ∈ ds, IsDig c) (acc : Nat) (prev : Bool)
    (hp : prev = true ∨ ds ≠ []) : digitsU 10 acc prev ds = some (decVal acc ds) := by
  induction ds generalizing acc prev with
  | nil =>
    rcases hp with rfl | h
    · rfl
    · exact absurd rfl h
  | cons c cs ih =>
    have hc := h c (by simp)
    rw [digitsU, if_neg (by omega), digitVal_dig hc]
    exact ih (fun x hx => h x (List.mem_cons_of_mem _ hx)) _ true (Or.inl rfl)

theorem natDigits_ne_nil (n : Nat) : natDigits n ≠ [] := by
  rw [natDigits]; split <;> simp

theorem isDig_add {d : Nat} (h : d < 10) : IsDig (48 + d) :=
  ⟨Nat.le_add_right 48 d, Nat.add_le_add_left (Nat.le_of_lt_succ h) 48⟩

theorem natDigits_dig (n : Nat) : ∀ c ∈ natDigits n, IsDig c := by
  induction n using natDigits.induct with
  | case1 n h =>
    rw [natDigits, if_pos h]
    intro c hc
    rw [List.mem_singleton] at hc
    exact hc ▸ isDig_add h
  | case2 n h ih =>
    rw [natDigits, if_neg h]
    intro c hc
    rcases List.mem_append.mp hc with h | h
    · exact ih c h
    · rw [List.mem_singleton] at h
      exact h ▸ isDig_add (Nat.mod_lt n (by decide))

theorem decVal_natDigits (n : Nat) : decVal 0 (natDigits n) = n := by
  induction n using natDigits.induct with
  | case1 n h => rw [natDigits, if_pos h]; simp [decVal]
  | case2 n h ih =>
    rw [natDigits, if_neg h]
    unfold decVal at ih ⊢
    rw [List.foldl_append, ih]
    simp only [List.foldl_cons, List.foldl_nil]
    rw [Nat.add_sub_cancel_left, Nat.div_add_mod']

theorem isIntSpaceC_dig {c : Nat} (h : IsDig c) : isIntSpaceC c = false := by
  unfold isIntSpaceC
  simp; omega

theorem stripWith_none (p : Nat → Bool) (t : Txt) (h : ∀ c ∈ t, p c = false) : stripWith p t = t := by
  have hd : ∀ l : Txt, (∀ c ∈ l, p c = false) → l.dropWhile p = l := by
    intro l hl
    cases l with
    | nil => rfl
    | cons c cs => simp [hl c (by simp)]
  rw [stripWith, hd t h, hd t.reverse (by simpa using h), List.reverse_reverse]

theorem signed_dig (body : Txt → Option Nat) (c : Nat) (cs : Txt) (h : IsDig c) :
    signed body (c :: cs) = (body (c :: cs)).map (fun n => (n : Int)) := by
  unfold signed
  split
  · rename_i heq; simp at heq; omega
  · rename_i heq; simp at heq; omega
  · rfl

/-- **`int(str(n)) = n`** for every natural number -/
theorem pyInt10_natDigits (n : Nat) : pyInt10 (natDigits n) = some (n : Int) := by
  unfold pyInt10
  rw [stripWith_none _ _ (fun c hc => isIntSpaceC_dig (natDigits_dig n c hc))]
  cases hd : natDigits n with
  | nil => exact absurd hd (natDigits_ne_nil n)
  | cons c cs =>
    have hall : ∀ x ∈ c :: cs, IsDig x := by rw [← hd]; exact natDigits_dig n
    rw [signed_dig _ c cs (hall c (by simp))]
    rw [digitsU_dig (c :: cs) hall 0 false (Or.inr (by simp))]
    rw [← hd, decVal_natDigits]
    rfl

/-! ### split / join -/

theorem splitOn_ne_nil (sep : Nat) (t : Txt) : splitOn sep t ≠ [] := by
  induction t with
  | nil => simp [splitOn]
  | cons c cs ih =>
    rw [splitOn]
    split
    · simp
    · split <;> simp

theorem splitOn_no_sep (sep : Nat) (t : Txt) (h : sep ∉ t) : splitOn sep t = [t] := by
  induction t with
  | nil => simp [splitOn]
  | cons c cs ih =>
    rw [splitOn, if_neg (List.ne_of_not_mem_cons h).symm, ih (List.not_mem_of_not_mem_cons h)]

theorem splitOn_append_sep (sep : Nat) (a b : Txt) (h : sep ∉ a) :
    splitOn sep (a ++ sep :: b) = a :: splitOn sep b := by
  induction a with
  | nil => simp [splitOn]
  | cons c cs ih =>
    rw [List.cons_append, splitOn, if_neg (List.ne_of_not_mem_cons h).symm,
      ih (List.not_mem_of_not_mem_cons h)]

theorem splitOn_joinWith (sep : Nat) (ps : List Txt) (hne : ps ≠ []) (h : ∀ p ∈ ps, sep ∉ p) :
    splitOn sep (joinWith sep ps) = ps := by
  induction ps with
  | nil => exact absurd rfl hne
  | cons p rest ih =>
    cases rest with
    | nil => simp [joinWith, splitOn_no_sep sep p (h p (by simp))]
    | cons q rest' =>
      rw [joinWith, splitOn_append_sep sep p _ (h p (by simp))]
      rw [ih (by simp) (fun x hx => h x (List.mem_cons_of_mem _ hx))]

theorem map_joinWith (f : Nat → Nat) (sep : Nat) (ps : List Txt) :
    (joinWith sep ps).map f = joinWith (f sep) (ps.map (fun p => p.map f)) := by
  induction ps with
  | nil => rfl
  | cons p rest ih =>
    cases rest with
    | nil => simp [joinWith]
    | cons q rest' =>
      simp only [joinWith, List.map_append, List.map_cons] at ih ⊢
      rw [ih]

end OsacaVerif.PyInt
