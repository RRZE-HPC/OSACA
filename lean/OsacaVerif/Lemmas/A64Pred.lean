import OsacaVerif.Lemmas.A64Head
/-
  Predicate registers `pN`, `pN/z`, `pN/m`, `pN.<shape>` (any case).
-/
namespace OsacaVerif.ParseA64
open OsacaVerif.Text OsacaVerif.Spec.A64 OsacaVerif.Gen

def predTailText : PredTail → Txt
  | .none => []
  | .pred c => [47, c]
  | .shape lanes s => shapeText lanes (some s)

theorem regText_pred (p n : Nat) (tail : PredTail) : regText (.pred p n tail) = p :: (showNat n ++ predTailText tail) := by
  cases tail <;> simp [regText, predTailText, shapeText, lanesText] <;> rename_i l _ <;> cases l <;> rfl

def PredTailOk : PredTail → Prop
  | .none => True
  | .pred c => isPredicationC c = true
  | .shape lanes s => LanesOk lanes ∧ isAlphaC s = true

/-- the `predicate` group as the grammar leaves it -/
def predTok (n : Nat) (tail : PredTail) : RegTok :=
  { pre := some A64.predPrefix, name := some (showNat n),
    pred := (match tail with | .pred c => some [c] | _ => none),
    lanes := (match tail with | .shape l _ => l | _ => none),
    shape := (match tail with | .shape _ s => some [s] | _ => none) }

theorem predication_alpha (c : Nat) (h : isPredicationC c = true) : isAlphaC c = true := by
  simp [isPredicationC, A64.predicationChars] at h
  apply alpha_of_lowerC_alpha
  rcases h with h | h <;> rw [h] <;> decide

theorem predicateP_text (g : Txt) (p n : Nat) (tail : PredTail) (rest : Txt) (hg : Blank g)
    (hp : lowerC p = 112) (ht : PredTailOk tail) (hf : Follow rest) :
    ∃ r', predicateP (g ++ (p :: (showNat n ++ (predTailText tail ++ rest)))) = some (predTok n tail, r') ∧
      skipWs r' = skipWs rest := by
  have hal : isAlphaC p = true := alpha_of_lowerC_alpha p (by rw [hp]; decide)
  have hpws := alpha_not_ws p hal
  obtain ⟨d, ds, hd, hdd⟩ := showNat_cons n
  have hclit : clit true A64.predPrefix (g ++ (p :: (showNat n ++ (predTailText tail ++ rest)))) =
      some (showNat n ++ (predTailText tail ++ rest)) := by
    rw [show A64.predPrefix = [112] from rfl, clit_char 112 g p _ hg hpws, if_pos hp]
  have hstop : StopsAt isDigitC (predTailText tail ++ rest) := by
    cases tail with
    | none => exact hf.stops isDigitC rest (by decide)
    | pred c' => exact stopsAt_head _ 47 _ (by decide)
    | shape l s => exact stopsAt_head _ 46 _ (by decide)
  have hname := word_showNat n (predTailText tail ++ rest) hstop
  cases tail with
  | none =>
    -- a following `//` comment is not a predication
    have hpt : predTail rest = none := by
      have h46 : laneShape true rest = none := laneShape_none _ (lit_none_of_follow rest hf 46 [] (by omega))
      simp only [predTail, h46, mapR_none]
      cases hs : skipWs rest with
      | nil => simp [lit, sk_true, hs, dropPrefix]
      | cons c r =>
        by_cases hc : c = 47
        · subst hc
          obtain ⟨r', hr'⟩ := hf.slash r hs
          subst hr'
          simp [lit, sk_true, hs, dropPrefix, char1, skipWs, isWs, charNS, isPredicationC, A64.predicationChars, lowerC]
        · simp [lit, sk_true, hs, dropPrefix, hc]
    refine ⟨skipWs rest, ?_, skipWs_idem rest⟩
    simp only [predTailText, List.nil_append] at hclit hname ⊢
    simp only [predicateP, hclit, hname, optP_none true predTail _ hpt, sk_true, predTok]
  | pred c =>
    have hc : isPredicationC c = true := ht
    have hcws := alpha_not_ws c (predication_alpha c hc)
    have hpt : predTail (predTailText (.pred c) ++ rest) = some ((some [c], none), rest) := by
      have h47 : lit true [47] (47 :: c :: rest) = some (c :: rest) := by
        simp [lit, sk_true, skipWs_cons 47 _ (by decide : isWs 47 = false), dropPrefix]
      have hch : char1 true isPredicationC (c :: rest) = some (c, rest) := by
        simp only [char1, sk_true, skipWs_cons c _ hcws, charNS, hc]; rfl
      simp only [predTail, predTailText, List.cons_append, List.nil_append, h47, hch, mapR_some, orElseR_some_left]
    refine ⟨rest, ?_, rfl⟩
    simp only [predicateP, hclit, hname, optP_some true predTail _ _ _ hpt, predTok]
  | shape l s =>
    obtain ⟨hl, hs⟩ := ht
    have hls := laneShape_some l s rest hl hs
    have hpt : predTail (predTailText (.shape l s) ++ rest) = some ((none, some (l, [s])), rest) := by
      have h47 : lit true [47] (predTailText (.shape l s) ++ rest) = none := by
        simp [predTailText, shapeText, lit, sk_true, skipWs, isWs, dropPrefix]
      simp only [predTail, h47, orElseR_none_left]
      simp only [predTailText, hls, mapR_some]
    refine ⟨rest, ?_, rfl⟩
    simp only [predicateP, hclit, hname, optP_some true predTail _ _ _ hpt, predTok]

/-- the identifier-like part of a predicate register text -/
def predWord (tail : PredTail) : Txt :=
  match tail with
  | .shape l s => shapeText l (some s)
  | _ => []

def predAfter (tail : PredTail) : Txt :=
  match tail with
  | .pred c => [47, c]
  | _ => []

theorem predTailText_split (tail : PredTail) : predTailText tail = predWord tail ++ predAfter tail := by
  cases tail <;> simp [predTailText, predWord, predAfter]

/-- **predicate register** in any operand slot -/
theorem goodOp_pred (p n : Nat) (tail : PredTail) (hp : lowerC p = 112) (ht : PredTailOk tail) :
    GoodOp false true (regText (.pred p n tail)) (.reg (predTok n tail)) := by
  have hal : isAlphaC p = true := alpha_of_lowerC_alpha p (by rw [hp]; decide)
  have hpws := alpha_not_ws p hal
  obtain ⟨d, ds, hd, hdd⟩ := showNat_cons n
  have hvec : isVectorPrefixC p = false := by simp [isVectorPrefixC, hp, A64.vectorPrefixes]
  have hsc : isScalarPrefixC p = false := by
    have : p = 112 ∨ p = 80 := by simp only [lowerC] at hp; split at hp <;> omega
    rcases this with rfl | rfl <;> decide
  have hw : ∀ c ∈ showNat n ++ predWord tail, isIdRestC c = true := by
    intro c hc
    rcases List.mem_append.mp hc with h | h
    · exact digit_idRest c (showNat_digits n c h)
    · cases tail with
      | none => cases h
      | pred c' => cases h
      | shape l s => exact idRest_shapeText l (some s) ht.1 (fun s' hs' => by cases hs'; exact ht.2) c h
  refine goodOp_reg _ _ p (showNat n ++ predTailText tail) (regText_pred p n tail) hal (fun g rest hg hf => ?_)
  rw [regText_pred, List.cons_append, List.append_assoc]
  obtain ⟨r', hpp, hsk⟩ := predicateP_text g p n tail rest hg hp ht hf
  -- the identifier reading stops in front of the predication `/z`
  have hstop : StopsAt isIdRestC (predAfter tail ++ rest) := by
    cases tail with
    | pred c => exact stopsAt_head _ 47 _ (by decide)
    | none => exact hf.stops isIdRestC rest (by decide)
    | shape l s => exact hf.stops isIdRestC rest (by decide)
  have hslash : ∀ c, skipWs (47 :: c :: rest) = 47 :: c :: rest := fun c => skipWs_cons 47 _ (by decide)
  have hplus : lit true [43] (predAfter tail ++ rest) = none := by
    cases tail with
    | pred c => exact lit_char 43 (47 :: c :: rest) 47 _ (hslash c)
    | none => exact lit_none_of_follow rest hf 43 [] (by omega)
    | shape l s => exact lit_none_of_follow rest hf 43 [] (by omega)
  have himm := immediate_word' g p (showNat n ++ predWord tail) (predAfter tail ++ rest) hg (alpha_idFirst p hal) hw hstop hplus
  have hid := identifier_word' g p (showNat n ++ predWord tail) (predAfter tail ++ rest) hg (alpha_idFirst p hal) hw hstop hplus
  rw [predTailText_split]
  simp only [List.append_assoc] at himm hid ⊢
  refine ⟨?_, ⟨_, skipWs (predAfter tail ++ rest), himm, hid, ?_⟩, ?_, ?_, ?_, ?_⟩
  · have hcore : registerCore (g ++ (p :: (showNat n ++ (predTailText tail ++ rest)))) = some (predTok n tail, r') := by
      unfold registerCore
      rw [hpp, vectorP_none_prefix g p _ hg hpws hvec, scalarP_none_prefix g p _ hg hpws hsc, hd, List.cons_append]
      rw [aliasP_none_digit _ g p d _ hg hpws hdd aliasSp_names, aliasP_none_digit _ g p d _ hg hpws hdd aliasZr_names]
      rfl
    rw [predTailText_split, List.append_assoc] at hcore
    exact registerP_of_core _ _ r' rest hcore hsk hf rfl rfl
  · cases tail with
    | pred c => rw [show predAfter (.pred c) ++ rest = 47 :: c :: rest from rfl, hslash c]
                have := skipWs_length_le rest; simp; omega
    | none => exact Nat.le_refl _
    | shape l s => exact Nat.le_refl _
  · refine arithP_none _ _ _ himm fun r1 hl => ?_
    rw [lit_skip] at hl
    cases tail with
    | pred c => cases (lit_char 44 (47 :: c :: rest) 47 _ (hslash c)).symm.trans hl
    | none => exact hf.noShift r1 hl
    | shape l s => exact hf.noShift r1 hl
  · rw [hd, List.cons_append]; exact conditionP_none_snd_digit g p d _ hg hpws hdd
  · rw [hd, List.cons_append]; exact prefetchP_none_snd_digit g p d _ hg hpws hdd
  · rw [hd, List.cons_append]; exact shiftOp_none_snd_digit g p d _ hg hpws hdd

theorem covered_pred (last fst : Bool) (p n : Nat) (tail : PredTail) (hp : lowerC p = 112) (ht : PredTailOk tail) :
    CoveredOp last fst (.reg (.pred p n tail)) := by
  refine (goodOp_pred p n tail hp ht).covered rfl ?_
  have hsp := showNat_ne_sp n
  simp only [processOperand, predTok, hsp, processRegister, expectOp, expectReg]
  have h112 : lowerC 112 = 112 := by decide
  cases tail <;> simp [lower, lowerTxt1, A64.predPrefix, hp, h112]

end OsacaVerif.ParseA64
