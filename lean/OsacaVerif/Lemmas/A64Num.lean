import OsacaVerif.Model.ParseA64
import OsacaVerif.Spec.RenderA64
/-
  Numerals: `showBase` (digits of a number) and `natOfDigits` (value of a digit string) are inverse,
  for every base ≥ 2 and every digit alphabet on which `digitVal` is the inverse of the digit map;
  `int(text, 0)` / `int(text)` of the model on rendered decimal and hexadecimal numerals.
-/
namespace OsacaVerif.ParseA64
open OsacaVerif.Text OsacaVerif.Spec.A64

theorem showBaseF_indep (b : Nat) (dig : Nat → Nat) (hb : 2 ≤ b) :
    ∀ (n f g : Nat), n < f → n < g → showBaseF b dig f n = showBaseF b dig g n := by
  intro n
  induction n using Nat.strongRecOn with
  | _ n ih =>
    intro f g hf hg
    cases f with
    | zero => omega
    | succ f =>
      cases g with
      | zero => omega
      | succ g =>
        simp only [showBaseF]
        split
        · rfl
        · have hlt : n / b < n := Nat.div_lt_self (by omega) (by omega)
          rw [ih (n / b) hlt f g (by omega) (by omega)]

theorem showBase_lt (b : Nat) (dig : Nat → Nat) (n : Nat) (h : n < b) : showBase b dig n = [dig n] := by
  simp [showBase, showBaseF, h]

theorem showBase_ge (b : Nat) (dig : Nat → Nat) (hb : 2 ≤ b) (n : Nat) (h : b ≤ n) :
    showBase b dig n = showBase b dig (n / b) ++ [dig (n % b)] := by
  have hlt : n / b < n := Nat.div_lt_self (by omega) (by omega)
  show showBaseF b dig (n + 1) n = showBaseF b dig (n / b + 1) (n / b) ++ [dig (n % b)]
  rw [showBaseF, if_neg (by omega), showBaseF_indep b dig hb (n / b) n (n / b + 1) hlt (by omega)]

/-- induction along the digits: what holds of the one-digit numerals and is kept when a digit is
    appended holds of every numeral -/
theorem showBase_rec {b : Nat} {dig : Nat → Nat} (hb : 2 ≤ b) {P : Nat → Txt → Prop}
    (small : ∀ n, n < b → P n [dig n])
    (step : ∀ n t, b ≤ n → P (n / b) t → P n (t ++ [dig (n % b)])) : ∀ n, P n (showBase b dig n) := by
  intro n
  induction n using Nat.strongRecOn with
  | _ n ih =>
    by_cases h : n < b
    · rw [showBase_lt b dig n h]; exact small n h
    · rw [showBase_ge b dig hb n (by omega)]
      exact step n _ (by omega) (ih _ (Nat.div_lt_self (by omega) (by omega)))

theorem showBase_ne_nil (b : Nat) (dig : Nat → Nat) (n : Nat) : showBase b dig n ≠ [] := by
  simp only [showBase, showBaseF]
  split <;> simp

theorem showBase_all (b : Nat) (dig : Nat → Nat) (hb : 2 ≤ b) (P : Nat → Prop)
    (hP : ∀ d, d < b → P (dig d)) : ∀ n, ∀ c ∈ showBase b dig n, P c :=
  showBase_rec (P := fun _ t => ∀ c ∈ t, P c) hb (fun n h c hc => by rw [List.mem_singleton.mp hc]; exact hP n h)
    (fun n t _ ih c hc => by
      rcases List.mem_append.mp hc with hc | hc
      · exact ih c hc
      · rw [List.mem_singleton.mp hc]; exact hP _ (Nat.mod_lt _ (by omega)))

theorem natOfDigits_append (b : Nat) (t : Txt) (c : Nat) :
    natOfDigits b (t ++ [c]) = natOfDigits b t * b + digitVal c := by
  simp [natOfDigits, List.foldl_append]

/-- **round trip of numerals** (∀ n, every base ≥ 2) -/
theorem natOfDigits_showBase (b : Nat) (dig : Nat → Nat) (hb : 2 ≤ b)
    (hd : ∀ d, d < b → digitVal (dig d) = d) : ∀ n, natOfDigits b (showBase b dig n) = n :=
  showBase_rec (P := fun n t => natOfDigits b t = n) hb (fun n h => by simp [natOfDigits, hd n h])
    (fun n t _ ih => by
      rw [natOfDigits_append, ih, hd _ (Nat.mod_lt _ (by omega))]; exact Nat.div_add_mod' n b)

/-- the leading digit of a positive number is not the zero digit -/
theorem showBase_head (b : Nat) (dig : Nat → Nat) (hb : 2 ≤ b) :
    ∀ n, 0 < n → ∃ d r, 0 < d ∧ d < b ∧ showBase b dig n = dig d :: r :=
  showBase_rec (P := fun n t => 0 < n → ∃ d r, 0 < d ∧ d < b ∧ t = dig d :: r) hb
    (fun n h hpos => ⟨n, [], hpos, h, rfl⟩)
    (fun n t hn ih _ => by
      obtain ⟨d, r, hd0, hdb, rfl⟩ := ih (Nat.div_pos hn (by omega))
      exact ⟨d, r ++ [dig (n % b)], hd0, hdb, rfl⟩)

/-! ### decimal -/
theorem isDigitC_iff (c : Nat) : isDigitC c = true ↔ 48 ≤ c ∧ c ≤ 57 := decide_eq_true_iff

/-- the ten decimal digit characters, one by one -/
theorem decDigit_spec : ∀ d < 10, isDigitC (decDigit d) = true ∧ digitVal (decDigit d) = d := by decide

theorem showNat_digits (n : Nat) : ∀ c ∈ showNat n, isDigitC c = true :=
  showBase_all 10 decDigit (by omega) _ (fun d hd => (decDigit_spec d hd).1) n

theorem showNat_all (n : Nat) : (showNat n).all isDigitC = true :=
  List.all_eq_true.mpr (showNat_digits n)

theorem showNat_ne_nil (n : Nat) : showNat n ≠ [] := showBase_ne_nil 10 decDigit n

theorem showNat_cons (n : Nat) : ∃ d ds, showNat n = d :: ds ∧ isDigitC d = true := by
  cases h : showNat n with
  | nil => exact absurd h (showNat_ne_nil n)
  | cons d ds => exact ⟨d, ds, rfl, showNat_digits n d (by rw [h]; exact List.mem_cons_self)⟩

theorem natOfDigits_showNat (n : Nat) : natOfDigits 10 (showNat n) = n :=
  natOfDigits_showBase 10 decDigit (by omega) (fun d hd => (decDigit_spec d hd).2) n

/-- `str(n)` has no leading zero unless `n = 0` -/
theorem showNat_head_zero (n : Nat) (h : (showNat n).head? = some 48) : n = 0 := by
  by_cases hn : n = 0
  · exact hn
  · obtain ⟨d, r, hd0, _, hr⟩ := showBase_head 10 decDigit (by omega) n (by omega)
    rw [showNat, hr, List.head?_cons, decDigit] at h
    injection h; omega

/-! ### `int(text, 0)` and `int(text)` on decimal numerals -/
theorem pyNat0_digits (t : Txt) (hne : t ≠ []) (hd : t.all isDigitC = true)
    (hz : t.head? = some 48 → natOfDigits 10 t = 0) : pyNat0 t = some (natOfDigits 10 t) := by
  unfold pyNat0
  split
  · exact absurd (List.all_eq_true.mp hd 120 (by simp)) (by decide)
  · exact absurd (List.all_eq_true.mp hd 88 (by simp)) (by decide)
  · rw [if_pos (by simp [hne, hd])]
    by_cases h48 : t.head? = some 48
    · simp [hz h48]
    · simp [h48]

theorem pyNat0_showNat (n : Nat) : pyNat0 (showNat n) = some n := by
  rw [pyNat0_digits (showNat n) (showNat_ne_nil n) (showNat_all n)
    (fun h => by rw [natOfDigits_showNat]; exact showNat_head_zero n h), natOfDigits_showNat]

theorem showNat_head_ne_minus (n : Nat) (r : Txt) : showNat n ≠ 45 :: r := by
  intro h
  exact absurd (showNat_digits n 45 (by rw [h]; exact List.mem_cons_self)) (by decide)

/-- **decimal immediates round-trip** (∀ n): `int(str(n), 0) = n` -/
theorem pyInt0_showNat (n : Nat) : pyInt0 (showNat n) = some (n : Int) := by
  unfold pyInt0
  split
  · rename_i r h; exact absurd h (showNat_head_ne_minus n r)
  · rw [pyNat0_showNat]; rfl

/-- negative decimal immediates (∀ n): `int("-" + str(n), 0) = -n` -/
theorem pyInt0_neg_showNat (n : Nat) : pyInt0 (45 :: showNat n) = some (- (n : Int)) := by
  simp [pyInt0, pyNat0_showNat, negInt]

theorem pyNat10_showNat (n : Nat) : pyNat10 (showNat n) = some n := by
  simp [pyNat10, showNat_ne_nil, showNat_all, natOfDigits_showNat]

/-- `int(str(n)) = n` (shift amounts are read in base 10) -/
theorem pyInt10_showNat (n : Nat) : pyInt10 (showNat n) = some (n : Int) := by
  unfold pyInt10
  split
  · rename_i r h; exact absurd h (showNat_head_ne_minus n r)
  · rw [pyNat10_showNat]; rfl

/-! ### hexadecimal -/
/-- the sixteen hexadecimal digit characters in either case, one by one -/
theorem hexDigit_spec : ∀ up, ∀ d < 16, isHexC (hexDigit up d) = true ∧ digitVal (hexDigit up d) = d := by
  decide

theorem showHex_cons (up : Bool) (n : Nat) : ∃ d ds, showHex up n = d :: ds ∧ ∀ c ∈ d :: ds, isHexC c = true := by
  cases h : showHex up n with
  | nil => exact absurd h (showBase_ne_nil 16 (hexDigit up) n)
  | cons d ds => exact ⟨d, ds, rfl, h ▸ showBase_all 16 _ (by omega) _ (fun d hd => (hexDigit_spec up d hd).1) n⟩

theorem hexBody_showHex (up : Bool) (n : Nat) : hexBody (showHex up n) = some n := by
  obtain ⟨d, ds, h, hall⟩ := showHex_cons up n
  have hv : natOfDigits 16 (showHex up n) = n :=
    natOfDigits_showBase 16 (hexDigit up) (by omega) (fun d hd => (hexDigit_spec up d hd).2) n
  rw [hexBody, hv, h, if_pos (by simpa using hall)]

/-- **hexadecimal immediates round-trip** (∀ n, lower- and upper-case digits):
    `int("0x" + hex(n), 0) = n` -/
theorem pyInt0_showHex (up : Bool) (n : Nat) : pyInt0 (48 :: 120 :: showHex up n) = some (n : Int) := by
  simp [pyInt0, pyNat0, hexBody_showHex, posInt]

theorem pyInt0_neg_showHex (up : Bool) (n : Nat) :
    pyInt0 (45 :: 48 :: 120 :: showHex up n) = some (- (n : Int)) := by
  simp [pyInt0, pyNat0, hexBody_showHex, negInt]

end OsacaVerif.ParseA64
