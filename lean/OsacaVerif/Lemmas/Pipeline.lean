import OsacaVerif.Lemmas.PipelineRen
import OsacaVerif.Lemmas.PipelineNoise
import OsacaVerif.Props.C01
import OsacaVerif.Props.C11
/-
  The stage lemmas assembled at the level of parsed lines (`PLine`) and of the whole analysis record;
  kernel selection with the payload kept.
-/
namespace OsacaVerif.Pipeline
open OsacaVerif OsacaVerif.DG OsacaVerif.LCD

/-- strictly increasing line numbers (what `parse_file` produces: `Props.C11.numbers_increasing`) -/
def Increasing (k : List PLine) : Prop := (k.map (·.num)).Pairwise (· < ·)

instance (k : List PLine) : Decidable (Increasing k) := by unfold Increasing; infer_instance

theorem wf_toIns (np : Nat) (k : List PLine) (h : Increasing k) : WFKernel (k.map (toIns np)) := by
  unfold WFKernel Increasing at *
  rw [List.map_map]
  exact h

theorem Increasing.sublist {k k' : List PLine} (h : Increasing k) (hs : k'.Sublist k) : Increasing k' := by
  unfold Increasing at *
  exact h.sublist (hs.map _)

theorem Increasing.num_inj {k : List PLine} (h : Increasing k) {a b : PLine} (ha : a ∈ k) (hb : b ∈ k)
    (e : a.num = b.num) : a = b := by
  unfold Increasing at h
  induction k with
  | nil => cases ha
  | cons x xs ih =>
    simp only [List.map_cons, List.pairwise_cons] at h
    rcases List.mem_cons.mp ha with rfl | ha' <;> rcases List.mem_cons.mp hb with rfl | hb'
    · rfl
    · exact absurd (h.1 _ (List.mem_map.mpr ⟨b, hb', rfl⟩)) (e ▸ Nat.lt_irrefl _)
    · exact absurd (h.1 _ (List.mem_map.mpr ⟨a, ha', rfl⟩)) (e ▸ Nat.lt_irrefl _)
    · exact ih h.2 ha' hb'

/-! ### renaming of the line numbers -/

theorem analyzeCore_ren {f : Nat → Nat} (hf : Incr f) (c : Cfg) (ins : List Ins) (rows : List Row)
    (ports : List Ports.Line) :
    analyzeCore c (ins.map (renIns f)) (rows.map (renRow f)) ports = (analyzeCore c ins rows ports).rename f := by
  unfold analyzeCore Analysis.rename
  simp only [create_ren hf, cpTotal_ren hf, cpMarks_ren hf, lcd_ren hf, List.map_map]
  have hent : (entryOf ∘ renEntry f) = (renE f ∘ entryOf) := by funext e; exact entryOf_ren f e
  rw [hent, ← List.map_map, postE_ren hf, firstMaxDep_ren]
  cases firstMaxDep (LcdPost.postE ((lcd c.isa c.flagDeps c.par c.floor ins).map entryOf)) with
  | none => simp
  | some d => simp [renDict]

theorem analyze_ren {f : Nat → Nat} (hf : Incr f) (c : Cfg) (k : List PLine) :
    analyze c (k.map (renLine f)) = (analyze c k).rename f := by
  -- the three views of a renumbered line are the renumbered views of the line
  have hins : (k.map (renLine f)).map (toIns c.nports) = (k.map (toIns c.nports)).map (renIns f) := by
    rw [List.map_map, List.map_map]
    exact List.map_congr_left fun l _ => toIns_renLine f c.nports l
  have hrows : (k.map (renLine f)).map (rowOf c.nports) = (k.map (rowOf c.nports)).map (renRow f) := by
    rw [List.map_map, List.map_map]
    exact List.map_congr_left fun l _ => rowOf_renLine f c.nports l
  have hports : (k.map (renLine f)).map (toPorts c.nports) = k.map (toPorts c.nports) := by
    rw [List.map_map]
    exact List.map_congr_left fun l _ => toPorts_renLine f c.nports l
  unfold analyze
  rw [hins, hrows, hports, analyzeCore_ren hf]

theorem lcdReport_eq_of_lcd_eq {c : Cfg} {k k' : List PLine} (h : (analyze c k).lcd = (analyze c k').lcd) :
    (analyze c k).lcdDict = (analyze c k').lcdDict ∧ (analyze c k).lcdFigure = (analyze c k').lcdFigure ∧
      (analyze c k).lcdMarks = (analyze c k').lcdMarks := by
  simp only [analyze, analyzeCore] at h ⊢
  rw [h]
  exact ⟨rfl, rfl, rfl⟩

/-! ### selection: the wrappers are the C11 models -/

theorem sliceOf_map {α β : Type} (g : α → β) (xs : List α) (se : Option Nat × Option Nat) :
    (sliceOf xs se).map g = sliceOf (xs.map g) se := by
  simp [sliceOf, List.map_drop, List.map_take]

theorem selectWith_spec (c : Marker.Cfg) (file : List PLine) :
    (selectWith c file).map (fun k => k.map (·.sel)) = Marker.reduceWith c (file.map (·.sel)) := by
  unfold selectWith Marker.reduceWith
  cases Marker.findMarkedSection c (file.map (·.sel)) with
  | none => rfl
  | some se => simp only [Option.map_some]; rw [sliceOf_map]; rfl

theorem selectRange_spec (r : List Int) (file : List PLine) :
    (selectRange r file).map (·.sel) = Marker.selectLines r (file.map (·.sel)) := by
  unfold selectRange Marker.selectLines
  rw [List.filter_map]
  rfl

theorem select_markers_ok {isa : Text.Txt} {mc : Marker.Cfg} {file k : List PLine} (hcfg : cfgOf isa = some mc)
    (h : selectWith mc file = some k) : select (.markers isa) file = .ok k := by
  show selectMarkers file isa = _
  unfold selectMarkers
  rw [hcfg]
  simp only [h]

theorem run_ok (c : Cfg) {mode : Mode} {file k : List PLine} (h : select mode file = .ok k) (hne : k ≠ []) :
    run c mode file = .ok (analyze c k) := by
  unfold run
  rw [h]
  cases k with
  | nil => exact absurd rfl hne
  | cons x xs => rfl

section
open OsacaVerif.Marker OsacaVerif.Spec.KernelSelect OsacaVerif.Props.C11

/-- `Props.C11.marked_exact` with the payload kept -/
theorem selectWith_marked (mc : Marker.Cfg) (m : MarkerConv) (hag : Agree mc m) (pro sm body em epi : List PLine)
    (hpro : Quiet m (pro.map (·.sel)) (sm.map (·.sel) ++ (body.map (·.sel) ++ (em.map (·.sel) ++ epi.map (·.sel)))))
    (hsm : StartMarker m (sm.map (·.sel)))
    (hbody : Quiet m (body.map (·.sel)) (em.map (·.sel) ++ epi.map (·.sel)))
    (hem : EndMarker m (em.map (·.sel))) :
    selectWith mc (pro ++ (sm ++ (body ++ (em ++ epi)))) = some body := by
  have hidx := marked_exact_sem mc (pro.map (·.sel)) (sm.map (·.sel)) (body.map (·.sel)) (em.map (·.sel))
    (epi.map (·.sel))
    (quiet_noStop mc _ _ (quiet_quietSeg mc m hag _ _ hpro))
    (startMarker_isStart mc m hag _ hsm _)
    (quiet_quietSeg mc m hag _ _ hbody)
    (endMarker_isEnd mc m hag _ hem _)
  unfold selectWith
  simp only [List.map_append]
  rw [hidx]
  simp only [Option.map_some, sliceOf, Option.getD_some, List.length_map]
  rw [← List.append_assoc pro sm, ← List.append_assoc, ← List.length_append, List.take_left' (by simp only [List.length_append, Nat.add_assoc]),
    List.drop_left' rfl]

/-- `Props.C11.no_marker_whole` with the payload kept -/
theorem selectWith_unmarked (mc : Marker.Cfg) (m : MarkerConv) (hag : Agree mc m) (file : List PLine)
    (h : Quiet m (file.map (·.sel)) []) : selectWith mc file = some file := by
  unfold selectWith findMarkedSection
  rw [scan_quiet_nil mc _ (quiet_quietSeg mc m hag _ [] h) 0 none none rfl]
  simp [sliceOf]

theorem filter_segment {α : Type} (p : α → Bool) (pro body epi : List α) (hp : ∀ l ∈ pro, ¬ p l = true)
    (hb : ∀ l ∈ body, p l = true) (he : ∀ l ∈ epi, ¬ p l = true) : (pro ++ (body ++ epi)).filter p = body := by
  rw [List.filter_append, List.filter_append, List.filter_eq_nil_iff.mpr hp, List.filter_eq_nil_iff.mpr he,
    List.filter_eq_self.mpr hb, List.nil_append, List.append_nil]

/-- the `--lines` part of `Props.C11.three_ways_select` with the payload kept -/
theorem selectRange_range (a b : Nat) (colon : Bool) (pro body epi : List PLine)
    (hlo : ∀ l ∈ pro, l.num < a) (hb : ∀ l ∈ body, a ≤ l.num ∧ l.num ≤ b) (hhi : ∀ l ∈ epi, b < l.num) :
    selectRange ((denoteAll [.range a b colon]).map (fun (n : Nat) => (n : Int))) (pro ++ (body ++ epi)) = body := by
  have hmem : ∀ l : PLine, ((denoteAll [.range a b colon]).map (fun (n : Nat) => (n : Int))).contains (l.num : Int) = true ↔
      (a ≤ l.num ∧ l.num ≤ b) := fun l => by
    rw [List.contains_iff_mem, mem_map_natCast, mem_denoteAll]
    simp only [Named, List.mem_singleton, exists_eq_left]
  apply filter_segment
  · intro l hl
    rw [hmem]
    exact fun h => Nat.lt_irrefl _ (Nat.lt_of_lt_of_le (hlo l hl) h.1)
  · intro l hl
    exact (hmem l).mpr (hb l hl)
  · intro l hl
    rw [hmem]
    exact fun h => Nat.lt_irrefl _ (Nat.lt_of_lt_of_le (hhi l hl) h.2)
end

/-! ### lines without mnemonic: the analysis of a kernel and of its instruction lines -/

theorem toIns_noise (np : Nat) (l : PLine) (h : l.isInstr = false) : IsNoise (toIns np l) := by
  unfold toIns semOf
  simp only [h, Bool.false_eq_true, if_false, noiseSem]
  exact ⟨rfl, rfl, rfl, rfl, rfl, rfl, rfl⟩

theorem isInstr_of_keepB (np : Nat) (l : PLine) (h : keepB (toIns np l) = true) : l.isInstr = true := by
  by_contra hn
  have hn' : l.isInstr = false := by simpa using hn
  have := (noiseB_iff _).mpr (toIns_noise np l hn')
  simp [keepB, this] at h

theorem filter_map_filter {α β : Type} (g : α → β) (p : β → Bool) (q : α → Bool) (h : ∀ x, p (g x) = true → q x = true)
    (k : List α) : (k.map g).filter p = ((k.filter q).map g).filter p := by
  rw [List.filter_map, List.filter_map, List.filter_filter]
  refine congrArg _ (List.filter_congr fun x _ => ?_)
  show p (g x) = (p (g x) && q x)
  cases hp : p (g x)
  · rfl
  · exact (h x hp).symm

theorem filter_keepB_instr (np : Nat) (k : List PLine) :
    (k.map (toIns np)).filter keepB = ((k.filter (·.isInstr)).map (toIns np)).filter keepB :=
  filter_map_filter _ _ _ (isInstr_of_keepB np) k

theorem create_instr (c : Cfg) (k : List PLine) :
    create c.isa c.flagDeps c.par (k.map (toIns c.nports)) =
      create c.isa c.flagDeps c.par ((k.filter (·.isInstr)).map (toIns c.nports)) := by
  rw [create_drop, filter_keepB_instr, ← create_drop]

theorem lcd_instr (c : Cfg) (k : List PLine) (hk : Increasing k) :
    lcd c.isa c.flagDeps c.par c.floor (k.map (toIns c.nports)) =
      lcd c.isa c.flagDeps c.par c.floor ((k.filter (·.isInstr)).map (toIns c.nports)) := by
  rw [lcd_drop _ _ _ _ _ (wf_toIns _ k hk), filter_keepB_instr,
    ← lcd_drop _ _ _ _ _ (wf_toIns _ _ (hk.sublist List.filter_sublist))]

/-- the numbers of the instruction lines of a kernel -/
def instrLine (k : List PLine) (n : Nat) : Bool := decide (n ∈ (k.filter (·.isInstr)).map (·.num))

theorem instrLine_eq_isInstr (k : List PLine) (hk : Increasing k) (l : PLine) (hl : l ∈ k) :
    instrLine k l.num = l.isInstr := by
  unfold instrLine
  rw [Bool.eq_iff_iff, decide_eq_true_iff]
  constructor
  · intro h
    obtain ⟨l', hl', e⟩ := List.mem_map.mp h
    rw [← hk.num_inj (List.mem_filter.mp hl').1 hl e]
    exact (List.mem_filter.mp hl').2
  · intro h
    exact List.mem_map.mpr ⟨l, List.mem_filter.mpr ⟨hl, h⟩, rfl⟩

theorem filter_instrLine (np : Nat) (k : List PLine) (hk : Increasing k) :
    (k.map (toIns np)).filter (fun i => instrLine k i.line) = (k.filter (·.isInstr)).map (toIns np) := by
  rw [List.filter_map]
  exact congrArg _ (List.filter_congr fun l hl => instrLine_eq_isInstr k hk l hl)

theorem instrLine_edges_lat (c : Cfg) (k : List PLine) (hk : Increasing k) :
    EdgesWithin (instrLine k) (create c.isa c.flagDeps c.par (k.map (toIns c.nports))) ∧
    ∀ i ∈ k.map (toIns c.nports), ¬ instrLine k i.line = true → i.lat = 0 := by
  refine ⟨create_within _ _ _ _ _ (wf_toIns _ k hk) fun i hi hkeep => ?_, fun i hi hn => ?_⟩
  · obtain ⟨l, hl, rfl⟩ := List.mem_map.mp hi
    exact decide_eq_true (List.mem_map.mpr ⟨l, List.mem_filter.mpr ⟨hl, isInstr_of_keepB _ l hkeep⟩, rfl⟩)
  · obtain ⟨l, hl, rfl⟩ := List.mem_map.mp hi
    rw [show (toIns c.nports l).line = l.num from rfl, instrLine_eq_isInstr k hk l hl] at hn
    exact (toIns_noise c.nports l (by simpa using hn)).lat

theorem analyze_cpTotal (c : Cfg) (k : List PLine) : (analyze c k).cpTotal =
    cpTotal (k.map (toIns c.nports)) (create c.isa c.flagDeps c.par (k.map (toIns c.nports))) := rfl

theorem analyze_cpMarks (c : Cfg) (k : List PLine) : (analyze c k).cpMarks =
    cpMarks (k.map (toIns c.nports)) (create c.isa c.flagDeps c.par (k.map (toIns c.nports))) := rfl

theorem cp_instr (c : Cfg) (k : List PLine) (hk : Increasing k) :
    (0 ≤ (analyze c (k.filter (·.isInstr))).cpTotal →
      (analyze c k).cpTotal = (analyze c (k.filter (·.isInstr))).cpTotal) ∧
    (0 < (analyze c (k.filter (·.isInstr))).cpTotal →
      (analyze c k).cpMarks = (analyze c (k.filter (·.isInstr))).cpMarks) := by
  rw [analyze_cpTotal, analyze_cpTotal, analyze_cpMarks, analyze_cpMarks, ← create_instr c k,
    ← filter_instrLine c.nports k hk]
  obtain ⟨hes, hlat⟩ := instrLine_edges_lat c k hk
  exact ⟨(cpTotal_cpLast_drop _ _ _ hes hlat).1, cpMarks_drop _ _ _ (wf_toIns _ k hk) hes hlat⟩

theorem rows_instr (np : Nat) (k : List PLine) :
    (k.map (rowOf np)).filter (·.instr) = (k.filter (·.isInstr)).map (rowOf np) := by
  rw [List.filter_map]
  rfl

theorem row_noise (np : Nat) (l : PLine) (h : l.isInstr = false) :
    rowOf np l = { line := l.num, instr := false, lat := 0, latWoLoad := some 0, tp := 0, pressure := Ports.zeros np } := by
  simp [rowOf, semOf, h, noiseSem]

/-- lines with throughput 0 are skipped by `get_throughput_sum`, and a non-instruction line has throughput 0
    (the skip value is regenerated from the source) -/
theorem colSums_instr (np : Nat) (k : List PLine) :
    Ports.colSums Gen.tpSumSkipValue Gen.tpSumDigits (k.map (toPorts np)) =
      Ports.colSums Gen.tpSumSkipValue Gen.tpSumDigits ((k.filter (·.isInstr)).map (toPorts np)) := by
  rw [Props.C01.colSums_ignores_skipped, Props.C01.colSums_ignores_skipped _ _ ((k.filter (·.isInstr)).map (toPorts np))]
  refine congrArg _ (filter_map_filter _ _ _ (fun l hl => ?_) k)
  -- a line without mnemonic has the throughput `noiseSem.tp = 0`, the skip value
  cases h : l.isInstr
  · rw [toPorts, semOf, if_neg (by rw [h]; exact Bool.false_ne_true)] at hl
    exact absurd (show ((0 : Rat) != Gen.tpSumSkipValue) = true from hl) (by decide)
  · rfl
end OsacaVerif.Pipeline
