import OsacaVerif.Lemmas.DGraph
/-
  Concrete semantics for the register-change tracker of the store→load test (C06).

  A valuation gives every register name an integer.  Executing the reported changes of an
  instruction yields a *set* of possible valuations (`Exec`): a known change `r := n + v` is
  performed, an unknown change havocs the register, every other register keeps its value.
  `Tracks ρ0 ρ s` is the invariant that the tracked state `s` describes the current valuation `ρ`
  relative to the valuation `ρ0` at the time tracking started (the store).

  The model's functions are read through three notions: `shifted` (the entry one `_update_reg_changes`
  step writes), `regDelta` (what the state knows about a register now relative to a register at the
  start; the base and the index part of `is_memload` are both this) and `sameAddr` (the decision of
  `is_memload` for one memory operand), each sound for `Tracks`.
-/
namespace OsacaVerif.DG
open OsacaVerif OsacaVerif.Text

/-- register valuation, keyed by the full register name (prefix ++ name), like the tracker -/
abbrev Val := Txt → Int

/-- overwrite one register -/
def Val.set (ρ : Val) (r : Txt) (x : Int) : Val := fun q => if q = r then x else ρ q

@[simp] theorem Val.set_self (ρ : Val) (r : Txt) (x : Int) : ρ.set r x r = x := by simp [Val.set]
theorem Val.set_other (ρ : Val) (r : Txt) (x : Int) (q : Txt) (h : q ≠ r) : ρ.set r x q = ρ q := by
  simp [Val.set, h]

/-- one reported change: `(r, some ⟨n, v⟩)` performs `r := n + v`; `(r, none)` writes an arbitrary value -/
def Step1 (ρ : Val) (e : Txt × Option Change) (ρ' : Val) : Prop :=
  match e.2 with
  | some c => ρ' = ρ.set e.1 (ρ c.name + c.value)
  | none => ∃ x, ρ' = ρ.set e.1 x

/-- executing a list of reported changes left to right (as `updateState` consumes them) -/
inductive Exec : Val → List (Txt × Option Change) → Val → Prop
  | nil (ρ : Val) : Exec ρ [] ρ
  | cons {ρ ρ1 ρ' : Val} {e : Txt × Option Change} {rest : List (Txt × Option Change)} :
      Step1 ρ e ρ1 → Exec ρ1 rest ρ' → Exec ρ (e :: rest) ρ'

/-- executing whole instructions: the changes, then the post-index changes -/
inductive ExecSeq : Val → List Ins → Val → Prop
  | nil (ρ : Val) : ExecSeq ρ [] ρ
  | cons {ρ ρ1 ρ2 ρ' : Val} {i : Ins} {rest : List Ins} :
      Exec ρ i.changes ρ1 → Exec ρ1 i.changesPost ρ2 → ExecSeq ρ2 rest ρ' → ExecSeq ρ (i :: rest) ρ'

/-- **the tracker's invariant**: a register tracked as `(n, v)` holds `ρ0 n + v`; a register
    without entry still holds its initial value; a register marked unknown is unconstrained -/
def Tracks (ρ0 ρ : Val) (s : RegState) : Prop :=
  ∀ r, match lookup s r with
    | some (some c) => ρ r = ρ0 c.name + c.value
    | some none => True
    | none => ρ r = ρ0 r

theorem tracks_init (ρ0 : Val) : Tracks ρ0 ρ0 [] := by
  intro r; simp [lookup]

/-! ### `lookup` after `setReg` -/

theorem lookup_nil (q : Txt) : lookup [] q = none := rfl

theorem lookup_cons (e : Txt × Option Change) (s : RegState) (q : Txt) :
    lookup (e :: s) q = if e.1 = q then some e.2 else lookup s q := by
  by_cases h : e.1 = q <;> simp [lookup, h]

theorem lookup_append (s t : RegState) (q : Txt) : lookup (s ++ t) q = (lookup s q).or (lookup t q) := by
  induction s with
  | nil => rfl
  | cons e s ih => simp only [List.cons_append, lookup_cons, ih]; split <;> rfl

theorem lookup_eq_none (s : RegState) (r : Txt) : lookup s r = none ↔ s.any (·.1 == r) = false := by
  rw [lookup, Option.map_eq_none_iff, List.find?_eq_none, List.any_eq_false]

theorem lookup_map_set (s : RegState) (r : Txt) (v : Option Change) (q : Txt) :
    lookup (s.map (fun e => if e.1 == r then (r, v) else e)) q =
      if q = r then (if s.any (·.1 == r) then some v else none) else lookup s q := by
  induction s with
  | nil => simp [lookup]
  | cons e s ih =>
    simp only [List.map_cons, List.any_cons, lookup_cons, ih]
    by_cases he : e.1 = r
    · subst he
      by_cases hq : q = e.1
      · simp [hq]
      · simp [hq, Ne.symm hq]
    · simp only [beq_eq_false_iff_ne.mpr he, Bool.false_or, Bool.false_eq_true, if_false]
      by_cases hq : q = r
      · simp [hq, he]
      · simp [hq]

theorem lookup_setReg (s : RegState) (r : Txt) (v : Option Change) (q : Txt) :
    lookup (setReg s r v) q = if q = r then some v else lookup s q := by
  unfold setReg
  split
  next h => rw [lookup_map_set, if_pos h]
  next h =>
    rw [lookup_append, lookup_cons]
    by_cases hq : q = r
    · subst hq
      rw [(lookup_eq_none s q).mpr (Bool.eq_false_iff.mpr h)]
      simp
    · simp [hq, Ne.symm hq, lookup]

/-! ### one tracked update -/

/-- what the tracker records for a register after `r := n + v`: the origin of `n` as known so far, shifted by `v`
    (`n` untouched: `n` itself; `n` unknown: unknown).  An increment (`n = r`) and a copy (`n ≠ r`) are the same case. -/
def shifted (s : RegState) (ch : Change) : Option Change :=
  match lookup s ch.name with
  | some none => none
  | some (some src) => some { name := src.name, value := src.value + ch.value }
  | none => some { name := ch.name, value := 0 + ch.value }

theorem updateOne_some (s : RegState) (reg : Txt) (ch : Change) :
    updateOne s reg (some ch) = setReg s reg (shifted s ch) := by
  unfold updateOne shifted
  by_cases h : ch.name = reg
  · subst h
    simp only [bne_self_eq_false, Bool.false_eq_true, if_false]
    rcases lookup s ch.name with _ | _ | _ <;> rfl
  · simp only [bne_iff_ne, ne_eq, h, not_false_eq_true, if_true]
    rcases lookup s ch.name with _ | _ | _ <;> rfl

/-- one tracked update read through `lookup`: only the register's own entry changes -/
theorem lookup_updateOne (s : RegState) (reg : Txt) (change : Option Change) (q : Txt) :
    lookup (updateOne s reg change) q = if q = reg then some (change.bind (shifted s)) else lookup s q := by
  cases change with
  | none => exact lookup_setReg s reg none q
  | some ch => rw [updateOne_some, lookup_setReg]; rfl

/-! ### the invariant is preserved -/

theorem tracks_setReg (ρ0 ρ ρ' : Val) (s : RegState) (r : Txt) (v : Option Change)
    (h : Tracks ρ0 ρ s) (hother : ∀ q, q ≠ r → ρ' q = ρ q)
    (hr : match v with | some c => ρ' r = ρ0 c.name + c.value | none => True) :
    Tracks ρ0 ρ' (setReg s r v) := by
  intro q
  rw [lookup_setReg]
  by_cases hq : q = r
  · subst hq
    rw [if_pos rfl]
    cases v with
    | none => trivial
    | some c => exact hr
  · rw [if_neg hq, hother q hq]
    exact h q

/-- the recorded origin is right: `n + v` evaluated now is `origin + shift` evaluated at the start -/
theorem shifted_sound (ρ0 ρ : Val) (s : RegState) (h : Tracks ρ0 ρ s) (ch : Change) :
    match shifted s ch with
    | some c => ρ ch.name + ch.value = ρ0 c.name + c.value
    | none => True := by
  have hsrc := h ch.name
  unfold shifted
  cases hl : lookup s ch.name with
  | none => simp only [hl] at hsrc ⊢; rw [hsrc, Int.zero_add]
  | some o =>
    cases o with
    | none => trivial
    | some src => simp only [hl] at hsrc ⊢; rw [hsrc, Int.add_assoc]

/-- **one tracker step is sound**: if the state describes `ρ` and the change is executed, the updated
    state describes every possible successor valuation.  No side condition is needed: entries refer
    to the *initial* valuation `ρ0`, so overwriting the register an entry names does no harm. -/
theorem tracks_updateOne (ρ0 ρ ρ' : Val) (s : RegState) (e : Txt × Option Change)
    (h : Tracks ρ0 ρ s) (hs : Step1 ρ e ρ') : Tracks ρ0 ρ' (updateOne s e.1 e.2) := by
  obtain ⟨reg, change⟩ := e
  cases change with
  | none =>
    obtain ⟨x, rfl⟩ := hs
    exact tracks_setReg ρ0 ρ _ s reg none h (Val.set_other ρ reg x) trivial
  | some ch =>
    have hs : ρ' = ρ.set reg (ρ ch.name + ch.value) := hs
    subst hs
    rw [updateOne_some]
    refine tracks_setReg ρ0 ρ _ s reg _ h (Val.set_other ρ reg _) ?_
    have := shifted_sound ρ0 ρ s h ch
    cases hsh : shifted s ch with
    | none => trivial
    | some c => simpa only [hsh, Val.set_self] using this

theorem tracks_updateState (ρ0 ρ ρ' : Val) (s : RegState) (ch : List (Txt × Option Change))
    (h : Tracks ρ0 ρ s) (hx : Exec ρ ch ρ') : Tracks ρ0 ρ' (updateState s ch) := by
  induction hx generalizing s with
  | nil ρ => exact h
  | cons hstep _ ih => exact ih _ (tracks_updateOne ρ0 _ _ s _ h hstep)

/-! ### addresses -/

/-- the displacement of a memory operand: a symbol denotes an unknown but fixed address constant `σ name`
    (the same for every occurrence of the symbol); a number denotes itself, an absent displacement 0 -/
def disp (σ : Txt → Int) (m : Mem) : Int :=
  match m.sym with
  | some n => σ n
  | none => m.offset.getD 0

/-- the concrete address of a `base (+ index·scale) + displacement` memory operand -/
def addr (σ : Txt → Int) (m : Mem) (ρ : Val) : Int :=
  (m.base.map fun b => ρ (fullName b)).getD 0 + (m.index.map fun i => ρ (fullName i)).getD 0 * m.scale +
    disp σ m

theorem dispDelta_sound (σ : Txt → Int) (st ld : Mem) (a : Int) (h : dispDelta st ld = some a) :
    disp σ ld = disp σ st + a := by
  unfold dispDelta at h
  unfold disp
  split at h
  next hs hl => simp only [hs, hl]; cases h; rw [Int.add_comm, Int.sub_add_cancel]
  next a' b hs hl =>
    split at h
    next heq => simp only [hs, hl]; cases h; rw [beq_iff_eq.mp heq, Int.add_zero]
    next => cases h
  next => cases h

/-! ### the three parts of `is_memload` -/

/-- what the tracked state knows about register `l` now, relative to register `r` at the start:
    `some δ` = "`l` holds what `r` held then, plus δ" -/
def regDelta (s : RegState) (r l : Txt) : Option Int :=
  match lookup s l with
  | some none => none
  | some (some c) => if r == c.name then some c.value else none
  | none => if r == l then some 0 else none

theorem regDelta_sound (ρ0 ρ : Val) (s : RegState) (h : Tracks ρ0 ρ s) (r l : Txt) (δ : Int)
    (hd : regDelta s r l = some δ) : ρ l = ρ0 r + δ := by
  have hl := h l
  unfold regDelta at hd
  split at hd
  next => cases hd
  next c hc =>
    rw [hc] at hl
    split at hd
    next heq => cases hd; rw [beq_iff_eq.mp heq]; exact hl
    next => cases hd
  next hc =>
    rw [hc] at hl
    split at hd
    next heq => cases hd; rw [beq_iff_eq.mp heq]; simpa using hl
    next => cases hd

/-- the base part of `is_memload`: `some δ` = "the load's base is the store's base plus δ" -/
def baseDelta (st ld : Mem) (s : RegState) : Option Int :=
  match st.base, ld.base with
  | some sb, some lb => regDelta s (fullName sb) (fullName lb)
  | none, none => some 0
  | _, _ => none

/-- the index part of `is_memload` (already multiplied by the common scale) -/
def indexDelta (st ld : Mem) (s : RegState) : Option Int :=
  match st.index, ld.index with
  | some si, some li =>
    if st.scale != ld.scale then none else (regDelta s (fullName si) (fullName li)).map (· * ld.scale)
  | none, none => some 0
  | _, _ => none

/-- the decision of `is_memload` for one memory source operand `ld`: displacement, base and index differences are
    all known and add up to zero -/
def sameAddr (st ld : Mem) (s : RegState) : Bool :=
  match dispDelta st ld, baseDelta st ld s, indexDelta st ld s with
  | some a0, some b, some x => a0 + b + x == 0
  | _, _, _ => false

/-- the index part as `is_memload` arranges it: the scale test inside each case of the lookup -/
theorem scaled_regDelta_cases (s : RegState) (r l : Txt) (a b : Int) :
    (if a != b then none else (regDelta s r l).map (· * b)) =
      match lookup s l with
      | some none => none
      | some (some c) => if a != b then none else if r == c.name then some (c.value * b) else none
      | none => if a != b then none else if r == l then some 0 else none := by
  unfold regDelta
  rcases lookup s l with _ | _ | c <;>
    simp only [apply_ite (Option.map _), Option.map_some, Option.map_none, Int.zero_mul, ite_self]

theorem isMemload_eq (st : Mem) (i : Ins) (s : RegState) :
    isMemload st i s = (i.src ++ i.srcDst).any fun o =>
      match o with
      | .mem ld => sameAddr st ld s
      | _ => false := by
  unfold isMemload
  congr 1
  funext o
  cases o with
  | mem ld =>
    simp only [sameAddr, indexDelta, scaled_regDelta_cases]
    -- `dispDelta` is shared and `baseDelta`, `regDelta` unfold to the model's inline matches
    rfl
  | _ => rfl

theorem isMemload_single (st ld : Mem) (i : Ins) (s : RegState) (h : i.src ++ i.srcDst = [.mem ld]) :
    isMemload st i s = sameAddr st ld s := by
  rw [isMemload_eq, h, List.any_cons, List.any_nil, Bool.or_false]

theorem baseDelta_sound (ρ0 ρ : Val) (st ld : Mem) (s : RegState) (h : Tracks ρ0 ρ s) (b : Int)
    (hb : baseDelta st ld s = some b) :
    (ld.base.map fun r => ρ (fullName r)).getD 0 = (st.base.map fun r => ρ0 (fullName r)).getD 0 + b := by
  unfold baseDelta at hb
  split at hb
  next sb lb hs hl => simpa [hs, hl] using regDelta_sound ρ0 ρ s h _ _ b hb
  next hs hl => cases hb; simp [hs, hl]
  next => cases hb

theorem indexDelta_sound (ρ0 ρ : Val) (st ld : Mem) (s : RegState) (h : Tracks ρ0 ρ s) (x : Int)
    (hx : indexDelta st ld s = some x) :
    (ld.index.map fun r => ρ (fullName r)).getD 0 * ld.scale =
      (st.index.map fun r => ρ0 (fullName r)).getD 0 * st.scale + x := by
  unfold indexDelta at hx
  split at hx
  next si li hs hl =>
    split at hx
    next => cases hx
    next hsc =>
      obtain ⟨δ, hδ, rfl⟩ := Option.map_eq_some_iff.mp hx
      have hsc : st.scale = ld.scale := by simpa using hsc
      simp only [hs, hl, Option.map_some, Option.getD_some, regDelta_sound ρ0 ρ s h _ _ δ hδ, hsc, Int.add_mul]
  next hs hl => cases hx; simp [hs, hl]
  next => cases hx

/-- **the store→load test is semantically sound**: if the tracked state describes the current
    valuation `ρ` relative to the valuation `ρ0` at the store, and `is_memload` answers yes, then
    some memory source operand of the instruction has exactly the store's address -/
theorem isMemload_sound (σ : Txt → Int) (ρ0 ρ : Val) (st : Mem) (i : Ins) (s : RegState) (h : Tracks ρ0 ρ s)
    (hm : isMemload st i s = true) :
    ∃ ld, Op.mem ld ∈ i.src ++ i.srcDst ∧ addr σ st ρ0 = addr σ ld ρ := by
  rw [isMemload_eq, List.any_eq_true] at hm
  obtain ⟨o, ho, hbody⟩ := hm
  cases o with
  | mem ld =>
    refine ⟨ld, ho, ?_⟩
    simp only [sameAddr] at hbody
    split at hbody
    next a0 b x ha hb hx =>
      unfold addr
      rw [dispDelta_sound σ st ld a0 ha, baseDelta_sound ρ0 ρ st ld s h b hb, indexDelta_sound ρ0 ρ st ld s h x hx]
      have := beq_iff_eq.mp hbody
      omega
    next => cases hbody
  | _ => cases hbody

/-- **the store→load scan is sound along every execution**: an emission of `scanMem` names an
    instruction `c` of the scanned suffix such that, for every valuation `ρ` the start state
    describes and every execution of the instructions before `c` followed by `c`'s own (pre-access)
    changes, a memory source operand of `c` has exactly the store's address -/
theorem scanMem_sound (σ : Txt → Int) (isa : Isa) (m : Mem) (rest : List Ins) (l : Nat) (tg : Tag) :
    ∀ s, (l, tg) ∈ scanMem isa m s rest →
      ∃ j c, rest[j]? = some c ∧ c.line = l ∧ tg = Tag.storeLoad ∧
        ∀ ρ0 ρ ρj ρ', Tracks ρ0 ρ s → ExecSeq ρ (rest.take j) ρj → Exec ρj c.changes ρ' →
          ∃ ld, Op.mem ld ∈ c.src ++ c.srcDst ∧ addr σ m ρ0 = addr σ ld ρ' := by
  induction rest with
  | nil => intro s h; cases h
  | cons i rest ih =>
    intro s h
    rcases (mem_scanMem_cons isa m s i rest _).mp h with ⟨_, ⟨hload, hx⟩ | ⟨_, hrest⟩⟩
    · cases hx
      refine ⟨0, i, rfl, rfl, rfl, ?_⟩
      intro ρ0 ρ ρj ρ' ht hseq hex
      cases hseq
      exact isMemload_sound σ ρ0 ρ' m i _ (tracks_updateState ρ0 ρ ρ' s _ ht hex) hload
    · obtain ⟨j, c, hj, hl, htg, hall⟩ := ih _ hrest
      refine ⟨j + 1, c, hj, hl, htg, ?_⟩
      intro ρ0 ρ ρj ρ' ht hseq hex
      cases hseq with
      | cons hc hp hrest =>
        exact hall ρ0 _ ρj ρ'
          (tracks_updateState ρ0 _ _ _ _ (tracks_updateState ρ0 _ _ _ _ ht hc) hp) hrest hex

end OsacaVerif.DG
