import OsacaVerif.Model.ParseX86
import OsacaVerif.Spec.X86Render
/-
  C09 — token level.  First the pyparsing primitives of `Model/ParseX86.lean` (`skipWs`, `lit`,
  `word`, …) on a text that starts with blanks; then numbers: the decimal / hexadecimal notation of the
  renderer is read back by the model's `int(·, 0)` for every integer; then the tokens: numbers,
  registers, identifiers of the domain are recognised whatever blanks precede them, provided what
  follows is blanks and then one of the expected punctuation characters (`Tail S k`).
-/
namespace OsacaVerif.ParseX86
open OsacaVerif.Text OsacaVerif.X86

/-- every character of `w` is a pyparsing white character -/
def AllWs (w : Txt) : Prop := ∀ c ∈ w, isWs c = true

/-- `t` is empty or starts with a character outside `p` -/
def Stops (p : Nat → Bool) (t : Txt) : Prop := ∀ c, t.head? = some c → p c = false

/-- first character after the blanks -/
def nextC (t : Txt) : Option Nat := (skipWs t).head?

theorem AllWs.nil : AllWs [] := by intro c h; cases h
theorem AllWs.append {a b : Txt} (ha : AllWs a) (hb : AllWs b) : AllWs (a ++ b) := by
  intro c h; rcases List.mem_append.mp h with h | h; exact ha c h; exact hb c h
theorem AllWs.cons {c : Nat} {w : Txt} (hc : isWs c = true) (hw : AllWs w) : AllWs (c :: w) := by
  intro d h; rcases List.mem_cons.mp h with h | h; subst h; exact hc; exact hw d h

theorem Stops.nil {p : Nat → Bool} : Stops p [] := by intro c h; cases h
theorem Stops.cons {p : Nat → Bool} {c : Nat} {t : Txt} (h : p c = false) : Stops p (c :: t) := by
  intro d hd; simp at hd; subst hd; exact h

theorem Stops.append_ws {p : Nat → Bool} {b t : Txt} (hp : ∀ c, isWs c = true → p c = false)
    (hb : AllWs b) (ht : Stops p t) : Stops p (b ++ t) := by
  cases b with
  | nil => exact ht
  | cons c cs => exact Stops.cons (hp c (hb c (by simp)))

@[simp] theorem skipWs_nil : skipWs [] = [] := rfl

theorem skipWs_append {w t : Txt} (hw : AllWs w) : skipWs (w ++ t) = skipWs t := by
  induction w with
  | nil => rfl
  | cons c cs ih =>
    have hc : isWs c = true := hw c (by simp)
    simp only [List.cons_append, skipWs, hc, if_true]
    exact ih (fun d hd => hw d (by simp [hd]))

theorem skipWs_cons_not {c : Nat} {t : Txt} (hc : isWs c = false) : skipWs (c :: t) = c :: t := by
  simp [skipWs, hc]

theorem skipWs_of_stops {t : Txt} (h : Stops isWs t) : skipWs t = t := by
  cases t with
  | nil => rfl
  | cons c cs => exact skipWs_cons_not (h c rfl)

theorem skipWs_stops (t : Txt) : Stops isWs (skipWs t) := by
  induction t with
  | nil => exact Stops.nil
  | cons c cs ih =>
    unfold skipWs
    split
    · exact ih
    · exact Stops.cons (by simpa using ‹¬isWs c = true›)

@[simp] theorem skipWs_skipWs (t : Txt) : skipWs (skipWs t) = skipWs t :=
  skipWs_of_stops (skipWs_stops t)

theorem skipWs_length_le (t : Txt) : (skipWs t).length ≤ t.length := by
  induction t with
  | nil => simp
  | cons c cs ih => unfold skipWs; split <;> simp <;> omega

theorem skipWs_eq_drop (t : Txt) : ∃ w, AllWs w ∧ t = w ++ skipWs t := by
  induction t with
  | nil => exact ⟨[], AllWs.nil, rfl⟩
  | cons c cs ih =>
    unfold skipWs
    split
    · obtain ⟨w, hw, he⟩ := ih
      exact ⟨c :: w, AllWs.cons ‹_› hw, by simp [← he]⟩
    · exact ⟨[], AllWs.nil, rfl⟩

theorem spanP_append {p : Nat → Bool} {w t : Txt} (hw : ∀ c ∈ w, p c = true) (ht : Stops p t) :
    spanP p (w ++ t) = (w, t) := by
  induction w with
  | nil =>
    cases t with
    | nil => rfl
    | cons c cs => simp [spanP, ht c rfl]
  | cons c cs ih =>
    have hc : p c = true := hw c (by simp)
    have := ih (fun d hd => hw d (by simp [hd]))
    simp [spanP, hc, this]

theorem spanP_stops {p : Nat → Bool} {t : Txt} (ht : Stops p t) : spanP p t = ([], t) := by
  simpa using spanP_append (w := []) (by simp) ht

theorem wordRaw_append {p : Nat → Bool} {w t : Txt} (hne : w ≠ []) (hw : ∀ c ∈ w, p c = true)
    (ht : Stops p t) : wordRaw p (w ++ t) = some (w, t) := by
  unfold wordRaw
  rw [spanP_append hw ht]
  cases w with
  | nil => exact absurd rfl hne
  | cons c cs => rfl

theorem wordRaw_stops {p : Nat → Bool} {t : Txt} (ht : Stops p t) : wordRaw p t = none := by
  unfold wordRaw; rw [spanP_stops ht]

theorem word_append {p : Nat → Bool} {b w t : Txt} (hb : AllWs b) (hne : w ≠ [])
    (hw : ∀ c ∈ w, p c = true) (hws : ∀ c ∈ w, isWs c = false) (ht : Stops p t) :
    word p (b ++ (w ++ t)) = some (w, t) := by
  unfold word
  rw [skipWs_append hb]
  cases w with
  | nil => exact absurd rfl hne
  | cons c cs =>
    rw [List.cons_append, skipWs_cons_not (hws c (by simp)), ← List.cons_append]
    exact wordRaw_append hne hw ht

theorem word_start {p : Nat → Bool} {w t : Txt} (hne : w ≠ []) (hw : ∀ c ∈ w, p c = true)
    (hws : ∀ c ∈ w, isWs c = false) (ht : Stops p t) : word p (w ++ t) = some (w, t) :=
  word_append (b := []) AllWs.nil hne hw hws ht

theorem dropPrefix_append (s t : Txt) : dropPrefix s (s ++ t) = some t := by
  induction s with
  | nil => cases t <;> rfl
  | cons c cs ih => simp [dropPrefix, ih]

theorem lit1_append {b t : Txt} {x : Nat} (hb : AllWs b) (hx : isWs x = false) :
    lit [x] (b ++ x :: t) = some t := by
  unfold lit
  rw [skipWs_append hb, skipWs_cons_not hx]
  simp [dropPrefix]

theorem lit1_cons {x : Nat} (hx : isWs x = false) (t : Txt) : lit [x] (x :: t) = some t :=
  lit1_append (b := []) AllWs.nil hx

theorem lit1_none {t : Txt} {x : Nat} (h : ∀ c, nextC t = some c → c ≠ x) : lit [x] t = none := by
  unfold lit nextC at *
  cases hs : skipWs t with
  | nil => rfl
  | cons c cs =>
    rw [hs] at h
    have : x ≠ c := fun e => h c rfl e.symm
    simp [dropPrefix, this]

theorem optR_lit1_none {t : Txt} {x : Nat} (h : nextC t ≠ some x) : optR (lit [x]) t = skipWs t := by
  simp [optR, lit1_none fun c hc e => h (by rw [hc, e])]

theorem nextC_append {b t : Txt} (hb : AllWs b) : nextC (b ++ t) = nextC t := by
  simp [nextC, skipWs_append hb]

theorem nextC_cons {c : Nat} {t : Txt} (hc : isWs c = false) : nextC (c :: t) = some c := by
  simp [nextC, skipWs_cons_not hc]

/-- blanks, then a visible character: it is the first visible one, and the blanks are what is skipped -/
theorem skipWs_blanks_cons {b t : Txt} {c : Nat} (hb : AllWs b) (hc : isWs c = false) :
    skipWs (b ++ c :: t) = c :: t := by
  rw [skipWs_append hb]; exact skipWs_cons_not hc

theorem nextC_blanks_cons {b t : Txt} {c : Nat} (hb : AllWs b) (hc : isWs c = false) :
    nextC (b ++ c :: t) = some c := by
  rw [nextC, skipWs_blanks_cons hb hc]; rfl

theorem nextC_forall {t : Txt} {c : Nat} (h : nextC t = some c) {P : Nat → Prop} (hP : P c) :
    ∀ d, nextC t = some d → P d := fun _ hd => Option.some.inj (h.symm.trans hd) ▸ hP

@[simp] theorem nextC_skipWs (t : Txt) : nextC (skipWs t) = nextC t := by simp [nextC]

theorem word1_none {p : Nat → Bool} {t : Txt} (h : ∀ c, nextC t = some c → p c = false) :
    word1 p t = none := by
  unfold word1 nextC at *
  cases hs : skipWs t with
  | nil => rfl
  | cons c cs => rw [hs] at h; simp [h c rfl]

theorem word_none {p : Nat → Bool} {t : Txt} (h : ∀ c, nextC t = some c → p c = false) :
    word p t = none := by
  unfold word nextC at *
  cases hs : skipWs t with
  | nil => rfl
  | cons c cs => rw [hs] at h; exact wordRaw_stops (fun d hd => Option.some.inj hd ▸ h c rfl)

theorem word1_append {p : Nat → Bool} {b t : Txt} {x : Nat} (hb : AllWs b) (hx : isWs x = false)
    (hp : p x = true) : word1 p (b ++ x :: t) = some (x, t) := by
  unfold word1
  rw [skipWs_append hb, skipWs_cons_not hx]; simp [hp]

/-! ### numbers: the digits the renderer writes, read back by `int(text, 0)`

From here on the renderer's vocabulary is open.  Its character classes (`Spec.X86R.isDigit`, `isAlpha`,
`isAlnum`, `isVisible`) are written out independently of the model but unfold to the same terms as
`isDigitC`, `isAlphaC`, `isAlnumC`, `isPrintC`; where a hypothesis about one is used as a fact about the
other (`validReg_spec`, `spec_idStart`, `validMnemonic_spec`, `validWord_spec`) this is by definitional
unfolding. -/
open OsacaVerif.Spec.X86R

/-- value of a digit list, least significant digit first -/
def valRev (b : Nat) : List Nat → Nat
  | [] => 0
  | d :: ds => d + b * valRev b ds

theorem digitsRev_lt {b : Nat} (hb : 2 ≤ b) : ∀ f n, ∀ d ∈ digitsRev b f n, d < b := by
  intro f
  induction f with
  | zero => intro n d h; simp [digitsRev] at h
  | succ f ih =>
    intro n d h
    unfold digitsRev at h
    split at h
    · simp at h; omega
    · rcases List.mem_cons.mp h with h | h
      · subst h; exact Nat.mod_lt _ (by omega)
      · exact ih _ d h

theorem digitsRev_val {b : Nat} (hb : 2 ≤ b) : ∀ f n, n < f → valRev b (digitsRev b f n) = n := by
  intro f
  induction f with
  | zero => intro n h; omega
  | succ f ih =>
    intro n h
    unfold digitsRev
    split
    · simp [valRev]
    · rename_i hnb
      have hlt : n / b < n := Nat.div_lt_self (by omega) (by omega)
      simp only [valRev]
      rw [ih (n / b) (by omega)]
      exact Nat.mod_add_div n b

theorem digitsRev_ne_nil (b f n : Nat) : digitsRev b (f + 1) n ≠ [] := by
  unfold digitsRev; split <;> simp

/-- the most significant digit of a positive number is not zero -/
theorem digitsRev_last {b : Nat} (hb : 2 ≤ b) : ∀ f n, 0 < n → n < f →
    ∃ ds d, digitsRev b f n = ds ++ [d] ∧ 0 < d := by
  intro f
  induction f with
  | zero => intro n _ h; omega
  | succ f ih =>
    intro n hpos hlt
    unfold digitsRev
    split
    · exact ⟨[], n, rfl, hpos⟩
    · have := Nat.div_lt_self hpos (show 1 < b by omega)
      obtain ⟨ds, d, e, hd⟩ := ih (n / b) (Nat.div_pos (by omega) (by omega)) (by omega)
      exact ⟨n % b :: ds, d, by rw [e]; rfl, hd⟩

theorem natDigits_head {b : Nat} (hb : 2 ≤ b) (n : Nat) (hn : 0 < n) :
    ∃ d ds, natDigits b n = d :: ds ∧ 0 < d ∧ d < b := by
  obtain ⟨ds, d, e, hd⟩ := digitsRev_last hb (n + 1) n hn (by omega)
  exact ⟨d, ds.reverse, by simp [natDigits, e], hd, digitsRev_lt hb (n + 1) n d (by simp [e])⟩

theorem natDigits_zero (b : Nat) (hb : 2 ≤ b) : natDigits b 0 = [0] := by
  have : 0 < b := by omega
  simp [natDigits, digitsRev]

theorem natDigits_ne_nil (b n : Nat) : natDigits b n ≠ [] := by
  simp [natDigits, digitsRev_ne_nil]

theorem natDigits_lt {b : Nat} (hb : 2 ≤ b) (n : Nat) : ∀ d ∈ natDigits b n, d < b := by
  intro d h; exact digitsRev_lt hb _ _ d (by simpa [natDigits] using h)

/-- the sixteen hexadecimal digit characters, in either case, checked one by one -/
theorem digitChar_hex : ∀ (up : Bool) (d : Nat), d < 16 →
    hexDigitVal (digitChar up d) = d ∧ isHexC (digitChar up d) = true := by decide

theorem isDigitC_digitChar (d : Nat) (h : d < 10) : isDigitC (digitChar false d) = true := by
  unfold isDigitC digitChar; simp [h]; omega  -- left: `48 + d ≤ 57`

theorem digitChar_dec (d : Nat) (h : d < 10) : digitChar false d = 48 + d := by simp [digitChar, h]

theorem digitsVal_append (b : Nat) (a c : Txt) :
    digitsVal b (a ++ c) = c.foldl (fun acc x => acc * b + hexDigitVal x) (digitsVal b a) := by
  simp [digitsVal, List.foldl_append]

theorem digitsVal_map_reverse (b : Nat) (ch : Nat → Nat) (ds : List Nat)
    (h : ∀ d ∈ ds, hexDigitVal (ch d) = d) :
    digitsVal b (ds.reverse.map ch) = valRev b ds := by
  induction ds with
  | nil => rfl
  | cons d ds ih =>
    simp only [List.reverse_cons, List.map_append, List.map_cons, List.map_nil]
    rw [digitsVal_append, ih (fun x hx => h x (by simp [hx]))]
    -- left: `valRev b ds * b + d = d + b * valRev b ds`
    simp [valRev, h d (by simp)]; rw [Nat.mul_comm]; omega

theorem digitsVal_natDigits (b : Nat) (hb : 2 ≤ b) (hb16 : b ≤ 16) (up : Bool) (n : Nat) :
    digitsVal b ((natDigits b n).map (digitChar up)) = n := by
  unfold natDigits
  rw [digitsVal_map_reverse b (digitChar up) _ ?_, digitsRev_val hb _ _ (by omega)]
  intro d hd
  exact (digitChar_hex up d (by have := digitsRev_lt hb _ _ d hd; omega)).1

theorem digitsVal_zeros (b z : Nat) (t : Txt) :
    digitsVal b (List.replicate z 48 ++ t) = digitsVal b t := by
  induction z with
  | zero => rfl
  | succ z ih =>
    rw [List.replicate_succ, List.cons_append]
    have : digitsVal b (48 :: (List.replicate z 48 ++ t)) = digitsVal b (List.replicate z 48 ++ t) := by
      simp [digitsVal, hexDigitVal]
    rw [this, ih]

theorem allHex_render (up : Bool) (z n : Nat) :
    (List.replicate z 48 ++ (natDigits 16 n).map (digitChar up)).all isHexC = true := by
  simp only [List.all_append, Bool.and_eq_true, List.all_eq_true]
  constructor
  · intro c hc; rw [List.mem_replicate] at hc; rw [hc.2]; decide
  · intro c hc
    obtain ⟨d, hd, rfl⟩ := List.mem_map.mp hc
    exact (digitChar_hex up d (natDigits_lt (by omega) n d hd)).2

theorem allDigit_render (n : Nat) : ((natDigits 10 n).map (digitChar false)).all isDigitC = true := by
  simp only [List.all_eq_true]
  intro c hc
  obtain ⟨d, hd, rfl⟩ := List.mem_map.mp hc
  exact isDigitC_digitChar d (natDigits_lt (by omega) n d hd)

theorem pyNat0_renderNat (f : NumFmt) (n : Nat) : pyNat0 (renderNat f n) = some n := by
  unfold renderNat
  cases hh : f.hex
  · -- decimal
    simp only [Bool.false_eq_true, if_false]
    rcases Nat.eq_zero_or_pos n with h0 | hpos
    · subst h0; rw [natDigits_zero 10 (by omega)]; decide
    · obtain ⟨d, ds, hd, hd0, hd10⟩ := natDigits_head (b := 10) (by omega) n hpos
      have hall := allDigit_render n
      have hval := digitsVal_natDigits 10 (by omega) (by omega) false n
      rw [hd] at hall hval ⊢
      simp only [List.map_cons] at hall hval ⊢
      rw [digitChar_dec d hd10] at hall hval ⊢
      -- the first digit of a positive number is not `0` (`hd0`): neither the `0x` nor the
      -- leading-zero branch of `pyNat0` is taken
      unfold pyNat0
      split
      · rename_i heq; simp at heq; omega
      · rename_i heq; simp at heq; omega
      · simp [hall, hval]
  · -- hexadecimal
    simp only [if_true]
    unfold pyNat0
    have hall := allHex_render f.upper f.zeros n
    have hne : (List.replicate f.zeros 48 ++ (natDigits 16 n).map (digitChar f.upper)).isEmpty = false := by
      have := natDigits_ne_nil 16 n
      cases hnd : natDigits 16 n with
      | nil => exact absurd hnd this
      | cons a as => simp
    simp only [hall, hne, Bool.not_true, Bool.or_self, Bool.false_eq_true, if_false]
    rw [digitsVal_zeros, digitsVal_natDigits 16 (by omega) (by omega)]

theorem renderNat_head (f : NumFmt) (n : Nat) :
    ∃ c cs, renderNat f n = c :: cs ∧ isDigitC c = true := by
  unfold renderNat
  cases f.hex
  · simp only [Bool.false_eq_true, if_false]
    have hall := allDigit_render n
    cases hnd : natDigits 10 n with
    | nil => exact absurd hnd (natDigits_ne_nil 10 n)
    | cons a as =>
      rw [hnd] at hall
      simp only [List.map_cons, List.all_cons, Bool.and_eq_true] at hall
      exact ⟨_, _, rfl, hall.1⟩
  · exact ⟨48, _, rfl, by decide⟩

/-- **`pyInt0 (renderInt f v) = some v`**: Python's `int(text, 0)` reads back every rendered integer, in
    every notation -/
theorem pyInt0_renderInt (f : NumFmt) (v : Int) : pyInt0 (renderInt f v) = some v := by
  unfold renderInt
  split
  · rename_i hneg
    simp only [pyInt0, pyNat0_renderNat, Option.map_some, Option.some.injEq, Int.ofNat_eq_natCast]
    omega
  · rename_i hpos
    obtain ⟨c, cs, hc, hd⟩ := renderNat_head f v.natAbs
    have h45 : c ≠ 45 := by intro e; subst e; simp [isDigitC] at hd
    have := pyNat0_renderNat f v.natAbs
    rw [hc] at this ⊢
    unfold pyInt0
    split
    · rename_i heq; simp at heq; exact absurd heq.1 h45
    · simp only [this, Option.map_some, Option.some.injEq, Int.ofNat_eq_natCast]; omega

/-! ### what follows a token: `Tail S k` -/

/-- punctuation that may follow a token of the domain -/
def Punct (c : Nat) : Bool := c == 44 || c == 40 || c == 41 || c == 35 || c == 47

/-- `k` (what follows a token) starts with blanks or a character of `S`, and its first visible
    character, if any, is in `S` -/
def Tail (S : Nat → Bool) (k : Txt) : Prop :=
  (∀ c, k.head? = some c → isWs c = true ∨ S c = true) ∧ (∀ c, nextC k = some c → S c = true)

theorem Tail.nil (S : Nat → Bool) : Tail S [] := by
  constructor <;> intro c h <;> simp [nextC] at h

theorem Tail.cons {S : Nat → Bool} {c : Nat} (r : Txt) (hS : S c = true) (hw : isWs c = false) :
    Tail S (c :: r) := by
  constructor
  · intro d hd; simp at hd; subst hd; exact Or.inr hS
  · intro d hd; rw [nextC_cons hw] at hd; simp at hd; subst hd; exact hS

theorem Tail.append {S : Nat → Bool} {b k : Txt} (hb : AllWs b) (hk : Tail S k) : Tail S (b ++ k) := by
  constructor
  · intro c hc
    cases b with
    | nil => exact hk.1 c hc
    | cons d ds => simp at hc; subst hc; exact Or.inl (hb _ (by simp))
  · intro c hc; rw [nextC_append hb] at hc; exact hk.2 c hc

theorem Tail.skip {S : Nat → Bool} {k : Txt} (hk : Tail S k) : Tail S (ParseX86.skipWs k) := by
  constructor
  · intro c hc; exact Or.inr (hk.2 c hc)
  · intro c hc; rw [nextC_skipWs] at hc; exact hk.2 c hc

theorem Tail.mono {S S' : Nat → Bool} {k : Txt} (h : ∀ c, S c = true → S' c = true) (hk : Tail S k) :
    Tail S' k :=
  ⟨fun c hc => (hk.1 c hc).imp id (h c), fun c hc => h c (hk.2 c hc)⟩

theorem Tail.next_ne {S : Nat → Bool} {k : Txt} (hk : Tail S k) {x : Nat} (hx : S x = false) :
    ∀ c, nextC k = some c → c ≠ x :=
  fun c hc e => by have := hk.2 c hc; rw [e, hx] at this; cases this

theorem Tail.next_not {S p : Nat → Bool} {k : Txt} (hk : Tail S k) (hS : ∀ c, S c = true → p c = false) :
    ∀ c, nextC k = some c → p c = false := fun c hc => hS c (hk.2 c hc)

theorem Tail.skipWs_cases {S : Nat → Bool} {k : Txt} (hk : Tail S k) :
    skipWs k = [] ∨ ∃ c r, skipWs k = c :: r ∧ S c = true ∧ isWs c = false := by
  cases h : skipWs k with
  | nil => exact Or.inl rfl
  | cons c r =>
    refine Or.inr ⟨c, r, rfl, hk.2 c (by simp [nextC, h]), ?_⟩
    have := skipWs_stops k; rw [h] at this; exact this c rfl

/-! ### character classes

The finite classes are handled element by element, the word classes through the chain
digits ⊆ hex digits ⊆ letters and digits ⊆ `isIdRest`, which contains neither a blank nor a
punctuation character. -/

theorem forall_ws {P : Nat → Prop} (h32 : P 32) (h9 : P 9) (h10 : P 10) (h13 : P 13) :
    ∀ c, isWs c = true → P c := by
  intro c h
  simp only [isWs, Bool.or_eq_true, beq_iff_eq] at h
  rcases h with ((rfl | rfl) | rfl) | rfl <;> assumption

theorem forall_punct {P : Nat → Prop} (h44 : P 44) (h40 : P 40) (h41 : P 41) (h35 : P 35) (h47 : P 47) :
    ∀ c, Punct c = true → P c := by
  intro c h
  simp only [Punct, Bool.or_eq_true, beq_iff_eq] at h
  rcases h with (((rfl | rfl) | rfl) | rfl) | rfl <;> assumption

theorem ws_not_idRest : ∀ c, isWs c = true → isIdRest c = false := forall_ws rfl rfl rfl rfl
theorem ws_not_print : ∀ c, isWs c = true → isPrintC c = false := forall_ws rfl rfl rfl rfl
theorem punct_not_idRest : ∀ c, Punct c = true → isIdRest c = false := forall_punct rfl rfl rfl rfl rfl
theorem punct_not_ws : ∀ c, Punct c = true → isWs c = false := forall_punct rfl rfl rfl rfl rfl

theorem hex_alnum (c : Nat) (h : isHexC c = true) : isAlnumC c = true := by
  simp only [isHexC, isAlnumC, isAlphaC, isDigitC, Bool.or_eq_true, decide_eq_true_eq] at *
  omega
theorem alnum_idRest (c : Nat) (h : isAlnumC c = true) : isIdRest c = true := by
  simp only [isIdRest, h, Bool.true_or]
theorem digit_idRest (c : Nat) (h : isDigitC c = true) : isIdRest c = true :=
  alnum_idRest c (by simp only [isAlnumC, h, Bool.or_true])
theorem hex_idRest (c : Nat) (h : isHexC c = true) : isIdRest c = true := alnum_idRest c (hex_alnum c h)

theorem idRest_not_ws (c : Nat) (h : isIdRest c = true) : isWs c = false :=
  Bool.eq_false_iff.mpr fun hw => by rw [ws_not_idRest c hw] at h; cases h
theorem alnum_not_ws (c : Nat) (h : isAlnumC c = true) : isWs c = false := idRest_not_ws c (alnum_idRest c h)
theorem digit_not_ws (c : Nat) (h : isDigitC c = true) : isWs c = false := idRest_not_ws c (digit_idRest c h)

theorem alpha_not_digit (c : Nat) (h : isAlphaC c = true) : isDigitC c = false := by
  simp only [isAlphaC, isDigitC, decide_eq_true_eq, decide_eq_false_iff_not] at *
  omega

/-- a first character of a name is neither a digit nor white -/
theorem idFirst_facts (c : Nat) (h : isIdFirst c = true) : isDigitC c = false ∧ isWs c = false := by
  simp only [isIdFirst, Bool.or_eq_true] at h
  rcases h with ((h | h) | h) | h
  · exact ⟨alpha_not_digit c h, alnum_not_ws c (by simp only [isAlnumC, h, Bool.true_or])⟩
  · rw [eq_of_beq h]; exact ⟨rfl, rfl⟩
  · rw [eq_of_beq h]; exact ⟨rfl, rfl⟩
  · rw [eq_of_beq h]; exact ⟨rfl, rfl⟩

theorem digit_not_idFirst (c : Nat) (h : isDigitC c = true) : isIdFirst c = false :=
  Bool.eq_false_iff.mpr fun hf => by rw [(idFirst_facts c hf).1] at h; cases h

/-- the layout blanks of the renderer (space, tab) are white characters of the grammar -/
theorem blank_allWs {w : Txt} (h : blank w = true) : AllWs w := by
  intro c hc
  have := List.all_eq_true.mp h c hc
  simp [isBlankC] at this
  rcases this with h | h <;> subst h <;> decide

theorem ne_of_not_mem {p : Nat → Bool} {c x : Nat} (hx : p x = false) (h : p c = true) : c ≠ x :=
  fun e => by rw [e, hx] at h; cases h

/-- what starts with a blank or a punctuation character does not continue a name -/
theorem name_stop {k : Txt} (hk : ∀ c, k.head? = some c → isWs c = true ∨ Punct c = true) :
    ∀ d, k.head? = some d → isIdRest d = false ∧ d ≠ 58 := by
  intro d hd
  rcases hk d hd with h | h
  · exact ⟨ws_not_idRest d h, ne_of_not_mem rfl h⟩
  · exact ⟨punct_not_idRest d h, ne_of_not_mem rfl h⟩

/-- what starts with a blank or a punctuation character stops a word of digits, hex digits, letters:
    any class inside `isIdRest` -/
theorem stops_word {p : Nat → Bool} {k : Txt} (hk : ∀ c, k.head? = some c → isWs c = true ∨ Punct c = true)
    (hp : ∀ c, p c = true → isIdRest c = true) : Stops p k := by
  intro c hc
  have := (name_stop hk c hc).1
  exact Bool.eq_false_iff.mpr fun h => by rw [hp c h] at this; cases this

theorem tail_name_stop {S : Nat → Bool} (hS : ∀ c, S c = true → Punct c = true) {k : Txt}
    (hk : Tail S k) : ∀ d, k.head? = some d → isIdRest d = false ∧ d ≠ 58 := name_stop (hk.mono hS).1

theorem Tail.stops {S p : Nat → Bool} {k : Txt} (hk : Tail S k) (hS : ∀ c, S c = true → Punct c = true)
    (hp : ∀ c, p c = true → isIdRest c = true) : Stops p k := stops_word (hk.mono hS).1 hp

/-! ### the tokens: numbers, registers, names -/

theorem hexRaw_none {t : Txt} (h1 : ∀ r, t ≠ 48 :: 120 :: r) (h2 : ∀ r, t ≠ 45 :: 48 :: 120 :: r) :
    hexRaw t = none := by
  unfold hexRaw
  split
  · exact absurd rfl (h2 _)
  · exact absurd rfl (h1 _)
  · rfl

theorem hexRaw_digits_none {D k : Txt} (hD : ∀ c ∈ D, isDigitC c = true) (hne : D ≠ [])
    (hk : ∀ c, k.head? = some c → c ≠ 120) :
    hexRaw (D ++ k) = none ∧ hexRaw (45 :: (D ++ k)) = none := by
  obtain ⟨d, D', rfl⟩ := List.exists_cons_of_ne_nil hne
  have hd : d ≠ 45 := ne_of_not_mem rfl (hD d (by simp))
  -- the second character is a digit or the first of `k`: not `x`
  have key : ∀ r, d :: D' ++ k ≠ 48 :: 120 :: r := by
    intro r e
    cases D' with
    | nil => exact hk 120 (by rw [show k = 120 :: r from (List.cons.inj e).2]; rfl) rfl
    | cons d' _ => exact ne_of_not_mem rfl (hD d' (by simp)) (List.cons.inj (List.cons.inj e).2).1
  exact ⟨hexRaw_none key fun r e => hd (List.cons.inj e).1,
    hexRaw_none (fun r e => by cases e) fun r e => key r (List.cons.inj e).2⟩

theorem decimalRaw_digits {D k : Txt} (hD : ∀ c ∈ D, isDigitC c = true) (hne : D ≠ [])
    (hk : Stops isDigitC k) :
    decimalRaw (D ++ k) = some (D, k) ∧ decimalRaw (45 :: (D ++ k)) = some (45 :: D, k) := by
  have hw := wordRaw_append hne hD hk
  constructor
  · obtain ⟨d, D', rfl⟩ := List.exists_cons_of_ne_nil hne
    unfold decimalRaw
    split
    · rename_i heq
      exact absurd (List.cons.inj heq).1 (ne_of_not_mem rfl (hD d (by simp)))
    · exact hw
  · simp only [decimalRaw, hw, Option.map_some]

theorem hexRaw_hex {H k : Txt} (hH : ∀ c ∈ H, isHexC c = true) (hne : H ≠ []) (hk : Stops isHexC k) :
    hexRaw (48 :: 120 :: (H ++ k)) = some (48 :: 120 :: H, k) ∧
    hexRaw (45 :: 48 :: 120 :: (H ++ k)) = some (45 :: 48 :: 120 :: H, k) := by
  have hw := wordRaw_append hne hH hk
  constructor <;> simp only [hexRaw, hw, Option.map_some]

/-- a rendered integer is `-`? followed by decimal digits, or by `0x` and hexadecimal digits -/
theorem renderInt_shape (f : NumFmt) (v : Int) :
    (∃ D, D ≠ [] ∧ (∀ c ∈ D, isDigitC c = true) ∧ (renderInt f v = D ∨ renderInt f v = 45 :: D)) ∨
    (∃ H, H ≠ [] ∧ (∀ c ∈ H, isHexC c = true) ∧
      (renderInt f v = 48 :: 120 :: H ∨ renderInt f v = 45 :: 48 :: 120 :: H)) := by
  unfold renderInt renderNat
  cases hh : f.hex
  · left
    refine ⟨(natDigits 10 v.natAbs).map (digitChar false), ?_, ?_, ?_⟩
    · simp [natDigits_ne_nil]
    · intro c hc; exact List.all_eq_true.mp (allDigit_render v.natAbs) c hc
    · split <;> simp
  · right
    refine ⟨List.replicate f.zeros 48 ++ (natDigits 16 v.natAbs).map (digitChar f.upper), ?_, ?_, ?_⟩
    · simp [natDigits_ne_nil]
    · intro c hc; exact List.all_eq_true.mp (allHex_render f.upper f.zeros v.natAbs) c hc
    · split <;> simp

theorem renderInt_idRest (f : NumFmt) (v : Int) : ∀ c ∈ renderInt f v, isIdRest c = true := by
  intro c hc
  rcases renderInt_shape f v with ⟨D, _, hD, hR | hR⟩ | ⟨H, _, hH, hR | hR⟩ <;>
    simp only [hR, List.mem_cons] at hc
  · exact digit_idRest c (hD c hc)
  · exact hc.elim (fun e => e ▸ rfl) fun h => digit_idRest c (hD c h)
  · rcases hc with rfl | rfl | h
    · rfl
    · rfl
    · exact hex_idRest c (hH c h)
  · rcases hc with rfl | rfl | rfl | h
    · rfl
    · rfl
    · rfl
    · exact hex_idRest c (hH c h)

theorem renderInt_head (f : NumFmt) (v : Int) :
    ∃ c cs, renderInt f v = c :: cs ∧ (c = 45 ∨ isDigitC c = true) := by
  rcases renderInt_shape f v with ⟨D, hne, hD, hR | hR⟩ | ⟨H, _, _, hR | hR⟩
  · obtain ⟨d, D', rfl⟩ := List.exists_cons_of_ne_nil hne
    exact ⟨d, D', hR, Or.inr (hD d (by simp))⟩
  · exact ⟨45, _, hR, Or.inl rfl⟩
  · exact ⟨48, _, hR, Or.inr rfl⟩
  · exact ⟨45, _, hR, Or.inl rfl⟩

theorem renderInt_skip (f : NumFmt) (v : Int) {b : Txt} (hb : AllWs b) (k : Txt) :
    skipWs (b ++ (renderInt f v ++ k)) = renderInt f v ++ k := by
  obtain ⟨c, cs, hc, hcc⟩ := renderInt_head f v
  rw [skipWs_append hb, hc]
  exact skipWs_cons_not (hcc.elim (fun h => h ▸ rfl) (digit_not_ws c))

/-- **numbers**: a rendered integer after any blanks is one `hex_number` or one `decimal_number`
    token, exactly its text; `S` may be any set of punctuation -/
theorem number_tok {S : Nat → Bool} (hS : ∀ c, S c = true → Punct c = true) (f : NumFmt) (v : Int)
    {b k : Txt} (hb : AllWs b) (hk : Tail S k) :
    hexNumber (b ++ (renderInt f v ++ k)) = some (renderInt f v, k) ∨
    (hexNumber (b ++ (renderInt f v ++ k)) = none ∧
     decimalNumber (b ++ (renderInt f v ++ k)) = some (renderInt f v, k)) := by
  have sd : Stops isDigitC k := hk.stops hS digit_idRest
  have sh : Stops isHexC k := hk.stops hS hex_idRest
  have h120 : ∀ c, k.head? = some c → c ≠ 120 := fun c hc e =>
    absurd (tail_name_stop hS hk c hc).1 (by rw [e]; decide)
  simp only [hexNumber, decimalNumber, renderInt_skip f v hb k]
  rcases renderInt_shape f v with ⟨D, hne, hD, hR | hR⟩ | ⟨H, hne, hH, hR | hR⟩ <;> rw [hR]
  · exact Or.inr ⟨(hexRaw_digits_none hD hne h120).1, (decimalRaw_digits hD hne sd).1⟩
  · exact Or.inr ⟨(hexRaw_digits_none hD hne h120).2, (decimalRaw_digits hD hne sd).2⟩
  · exact Or.inl (hexRaw_hex hH hne sh).1
  · exact Or.inl (hexRaw_hex hH hne sh).2

/-- `Group(hex_number | decimal_number | identifier)` on a rendered integer -/
theorem offsetG_num {S : Nat → Bool} (hS : ∀ c, S c = true → Punct c = true) (f : NumFmt) (v : Int)
    {b k : Txt} (hb : AllWs b) (hk : Tail S k) :
    offsetG (b ++ (renderInt f v ++ k)) = some (.num (renderInt f v), k) := by
  rcases number_tok hS f v hb hk with h | ⟨h1, h2⟩
  · simp only [offsetG, h]
  · simp only [offsetG, h1, h2]

/-- the bare-number alternative of `memory` on a rendered integer -/
theorem memBare_num {S : Nat → Bool} (hS : ∀ c, S c = true → Punct c = true) (f : NumFmt) (v : Int)
    {b k : Txt} (hb : AllWs b) (hk : Tail S k) :
    memBare (b ++ (renderInt f v ++ k)) =
      some ({ off := some (.num (renderInt f v)), offIsStr := true }, skipWs k) := by
  rcases number_tok hS f v hb hk with h | ⟨h1, h2⟩
  · simp only [memBare, h]
  · simp only [memBare, h1, h2, Option.map_some]

theorem validReg_spec {n : Txt} (h : validReg n = true) :
    n ≠ [] ∧ ∀ c ∈ n, isAlnumC c = true := by
  simp only [validReg, Bool.and_eq_true, Bool.not_eq_true', List.all_eq_true] at h
  exact ⟨fun e => by rw [e] at h; exact absurd h.1 (by decide), h.2⟩

/-- **registers**: `%name` after any blanks; what follows must not open an index or a mask -/
theorem register_ok {S : Nat → Bool} (hS : ∀ c, S c = true → Punct c = true) (h40 : S 40 = false)
    {n b k : Txt} (hn : validReg n = true) (hb : AllWs b) (hk : Tail S k) :
    register (b ++ 37 :: (n ++ k)) = some (n, skipWs k) := by
  obtain ⟨hne, hal⟩ := validReg_spec hn
  have hw : word isAlnumC (n ++ k) = some (n, k) :=
    word_start hne hal (fun c hc => alnum_not_ws c (hal c hc)) (hk.stops hS alnum_idRest)
  have h123 : S 123 = false := Bool.eq_false_iff.mpr fun h => absurd (hS 123 h) (by decide)
  have hi : regIndex k = none := by simp only [regIndex, lit1_none (hk.next_ne h40), Option.bind_none]
  have hm : regMask (skipWs k) = none := by
    simp only [regMask, maskCore, lit1_none (hk.skip.next_ne h123), Option.bind_none, Option.map_none]
  simp [register, lit1_append hb (show isWs 37 = false by decide), hw, optR, hi, hm]

theorem register_none {t : Txt} (h : ∀ c, nextC t = some c → c ≠ 37) : register t = none := by
  simp only [register, lit1_none h, Option.bind_none]

theorem spec_idStart (c : Nat) (h : isIdStart c = true) :
    isIdFirst c = true ∧ isDigitC c = false ∧ isWs c = false := by
  have hf : isIdFirst c = true := by
    simp only [isIdStart, Bool.or_eq_true] at h
    rcases h with (h | h) | h
    · simp only [isIdFirst, show isAlphaC c = true from h, Bool.true_or]
    · rw [eq_of_beq h]; rfl
    · rw [eq_of_beq h]; rfl
  exact ⟨hf, idFirst_facts c hf⟩

theorem spec_idChar (c : Nat) (h : isIdChar c = true) : isIdRest c = true := by
  simp only [isIdChar, Bool.or_eq_true] at h
  rcases h with ((h | h) | h) | h
  · exact alnum_idRest c h
  · rw [eq_of_beq h]; rfl
  · rw [eq_of_beq h]; rfl
  · rw [eq_of_beq h]; rfl

theorem nameTail_cons_rest (restP : Nat → Bool) (c : Nat) (cs : Txt) (h : restP c = true) :
    nameTail restP (c :: cs) = (c :: (nameTail restP cs).1, (nameTail restP cs).2) := by
  rw [nameTail.eq_def]; simp [h]

theorem nameTail_cons_stop (restP : Nat → Bool) (c : Nat) (cs : Txt) (h : restP c = false)
    (h2 : c ≠ 58) : nameTail restP (c :: cs) = ([], c :: cs) := by
  rw [nameTail.eq_def]; simp [h, h2]

theorem nameTail_ok {restP : Nat → Bool} {r k : Txt} (hr : ∀ c ∈ r, restP c = true)
    (hk : ∀ c, k.head? = some c → restP c = false ∧ c ≠ 58) :
    nameTail restP (r ++ k) = (r, k) := by
  induction r with
  | nil =>
    cases k with
    | nil => rfl
    | cons c cs =>
      obtain ⟨h1, h2⟩ := hk c rfl
      exact nameTail_cons_stop restP c cs h1 h2
  | cons c cs ih =>
    have := ih (fun d hd => hr d (by simp [hd]))
    rw [List.cons_append, nameTail_cons_rest restP c _ (hr c (by simp)), this]

theorem relocation_none {t : Txt} (h : ∀ c, nextC t = some c → c ≠ 64) : relocation t = none := by
  unfold relocation
  split
  · rename_i r heq; exact absurd rfl (h 64 (by rw [nextC, heq]; rfl))
  · rfl

theorem decimalNumber_none {t : Txt} (h : ∀ c, nextC t = some c → c ≠ 45 ∧ isDigitC c = false) :
    decimalNumber t = none := by
  unfold decimalNumber nextC at *
  cases hs : skipWs t with
  | nil => simp [decimalRaw, wordRaw, spanP]
  | cons d r =>
    rw [hs] at h
    obtain ⟨h45, hd⟩ := h d rfl
    unfold decimalRaw
    split
    · rename_i heq; simp at heq; exact absurd heq.1 h45
    · exact wordRaw_stops (Stops.cons hd)

theorem hexNumber_none {t : Txt} (h : ∀ c, nextC t = some c → c ≠ 45 ∧ c ≠ 48) : hexNumber t = none :=
  -- `hexNumber t` is `hexRaw (skipWs t)` and `nextC t` is the head of `skipWs t`, both by unfolding
  hexRaw_none (fun r e => (h 48 (by rw [nextC, e]; rfl)).2 rfl) (fun r e => (h 45 (by rw [nextC, e]; rfl)).1 rfl)

theorem trailOffset_none {t : Txt} (h : ∀ c, nextC t = some c → c ≠ 43 ∧ c ≠ 45 ∧ isDigitC c = false) :
    trailOffset t = none := by
  have h43 : ∀ c, nextC t = some c → c ≠ 43 := fun c hc => (h c hc).1
  simp [trailOffset, optR, lit1_none h43,
    decimalNumber_none (t := skipWs t) (by intro c hc; rw [nextC_skipWs] at hc; exact (h c hc).2)]

theorem idOffset_none {t : Txt} (h : ∀ c, nextC t = some c → isDigitC c = false) : idOffset t = none := by
  simp only [idOffset, word_none h, Option.bind_none]

/-- a name, followed by a text that neither continues it nor starts a relocation or (where the
    rule has one) a trailing offset, is read completely, and nothing more -/
theorem identifier_name {restP : Nat → Bool} {trail : Bool} {c : Nat} {r b k : Txt}
    (hf : isIdFirst c = true)
    (hr : ∀ d ∈ r, restP d = true) (hk : ∀ d, k.head? = some d → restP d = false ∧ d ≠ 58)
    (hb : AllWs b) (hrel : ∀ d, nextC k = some d → d ≠ 64)
    (htr : trail = true → ∀ d, nextC k = some d → d ≠ 43 ∧ d ≠ 45 ∧ isDigitC d = false) :
    identifier restP trail (b ++ c :: (r ++ k)) = some (c :: r, skipWs k) := by
  obtain ⟨hd, hw⟩ := idFirst_facts c hf
  have hsk : skipWs (b ++ c :: (r ++ k)) = c :: (r ++ k) := skipWs_blanks_cons hb hw
  have hido : idOffset (b ++ c :: (r ++ k)) = none :=
    idOffset_none (by intro d hd'; rw [nextC, hsk] at hd'; cases hd'; exact hd)
  simp only [identifier, optR, hido, Option.getD_none, skipWs_skipWs, hsk, skipWs_cons_not hw, nameRaw, hf, if_true,
    nameTail_ok hr hk, relocation_none hrel]
  cases trail with
  | false => rfl
  | true =>
    rw [trailOffset_none (by intro d hd'; rw [nextC_skipWs] at hd'; exact htr rfl d hd')]
    simp only [if_true, Option.getD_none]

/-- a name before the tail of a token is read completely (`identifier_name` with the tail's facts) -/
theorem identifier_tail {S : Nat → Bool} (hS : ∀ c, S c = true → Punct c = true) {c : Nat} {r b k : Txt}
    (hf : isIdFirst c = true)
    (hr : ∀ d ∈ r, isIdRest d = true) (hb : AllWs b) (hk : Tail S k) :
    identifier isIdRest true (b ++ c :: (r ++ k)) = some (c :: r, skipWs k) :=
  identifier_name hf hr (tail_name_stop hS hk) hb ((hk.mono hS).next_ne rfl) fun _ d hd =>
    forall_punct (P := fun d => d ≠ 43 ∧ d ≠ 45 ∧ isDigitC d = false) (by decide) (by decide)
      (by decide) (by decide) (by decide) d (hS d (hk.2 d hd))

/-- **labels**: a name of the domain after any blanks is read completely, and nothing more -/
theorem identifier_ok {S : Nat → Bool} (hS : ∀ c, S c = true → Punct c = true)
    {n b k : Txt} (hn : validIdent n = true) (hb : AllWs b) (hk : Tail S k) :
    identifier isIdRest true (b ++ (n ++ k)) = some (n, skipWs k) := by
  cases n with
  | nil => cases hn
  | cons c r =>
    simp only [validIdent, Bool.and_eq_true, List.all_eq_true] at hn
    exact identifier_tail hS (spec_idStart c hn.1).1 (fun d hd => spec_idChar d (hn.2 d hd)) hb hk

theorem identifier_none {restP : Nat → Bool} {trail : Bool} {t : Txt}
    (h : ∀ c, nextC t = some c → isIdFirst c = false ∧ isDigitC c = false) :
    identifier restP trail t = none := by
  have hido : idOffset t = none := idOffset_none (fun c hc => (h c hc).2)
  unfold identifier
  simp only [optR, hido, Option.getD_none, skipWs_skipWs]
  unfold nextC at h
  cases hs : skipWs t with
  | nil => simp [nameRaw]
  | cons c cs => rw [hs] at h; simp [nameRaw, (h c rfl).1]

end OsacaVerif.ParseX86
