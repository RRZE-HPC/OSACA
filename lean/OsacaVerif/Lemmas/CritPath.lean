import OsacaVerif.Model.LCD
import OsacaVerif.Lemmas.Chain
import OsacaVerif.Lemmas.DGraph
/-
  Helper development for C04: paths of the dependency graph (`isPath`, `ForwardEdges`), the oracle's
  view of a kernel and its graph (`infosOf`, `wedgesOf`) and the chain of the property a path stands for
  (`chainOf`) — used for both variants of `get_critical_path`; and what the variant before the repair
  (model `LCD.cpReport`) reports for a path.
-/
namespace OsacaVerif.LCD
open OsacaVerif OsacaVerif.DG OsacaVerif.Spec

/-! ### the pieces of `cpReport` -/

/-- latency of the instruction with a given line (0 if there is none) — `latOf` of `cpReport` -/
def latOfK (k : List Ins) (l : Nat) : Rat :=
  match k.find? (·.line == l) with | some i => i.lat | none => 0

/-- weight of the edge between two nodes (0 if there is none) — `edgeW` of `cpReport` -/
def edgeW (es : List Edge) (a b : Node) : Rat :=
  match es.find? (fun e => e.src == a && e.dst == b) with | some e => e.w | none => 0

theorem _root_.OsacaVerif.DG.WFKernel.nodup {k : List Ins} (hk : WFKernel k) : (k.map (·.line)).Nodup :=
  nodup_of_sorted _ hk

theorem latOfK_eq (k : List Ins) (hnd : (k.map (·.line)).Nodup) (i : Ins) (hi : i ∈ k) :
    latOfK k i.line = i.lat := by
  rw [latOfK, find?_of_nodup_key (fun i : Ins => i.line) k hnd i hi]

theorem cpReport_eq (k : List Ins) (es : List Edge) (p : List Node) :
    cpReport k es p = k.filterMap fun i =>
      ((cpReport.assign (latOfK k) (edgeW es) [] p).find? (·.1 == i.line)).map fun e => (i.line, e.2) := rfl

/-- the `latency_cp` assignments along a path without overwriting: the weight of the edge to the next
    node; for the last node its own latency -/
def entries (lat : Nat → Rat) (w : Node → Node → Rat) : List Node → List (Nat × Rat)
  | [] => []
  | a :: rest => (a.line, match rest with | [] => lat a.line | b :: _ => w a b) :: entries lat w rest

/-- sum of the edge weights along a path -/
def pathW (w : Node → Node → Rat) : List Node → Rat
  | a :: b :: rest => w a b + pathW w (b :: rest)
  | _ => 0

/-- line of the last node of a path -/
def lastLine : List Node → Nat
  | [] => 0
  | [a] => a.line
  | _ :: b :: rest => lastLine (b :: rest)

theorem pathW_cons₂ (w : Node → Node → Rat) (a b : Node) (rest : List Node) :
    pathW w (a :: b :: rest) = w a b + pathW w (b :: rest) := rfl

theorem entries_keys (lat : Nat → Rat) (w : Node → Node → Rat) (p : List Node) :
    (entries lat w p).map (·.1) = p.map (·.line) := by
  induction p with
  | nil => rfl
  | cons a rest ih => simp only [entries, List.map_cons, ih]

/- `pathW`, `lastLine`, `entries`, `edgesOf` all recurse by `[]`, `[a]`, `a :: b :: rest ↦ b :: rest`;
   `lastLine.induct` is the induction principle of that recursion, used for all of them. -/
theorem entries_sum (lat : Nat → Rat) (w : Node → Node → Rat) (p : List Node) (hp : p ≠ []) :
    ((entries lat w p).map (·.2)).sum = pathW w p + lat (lastLine p) := by
  induction p using lastLine.induct with
  | case1 => exact absurd rfl hp
  | case2 a => exact (add_zero _).trans (zero_add _).symm
  | case3 a b rest ih =>
    rw [entries, List.map_cons, List.sum_cons, ih (List.cons_ne_nil _ _)]
    exact (add_assoc _ _ _).symm

/-- one round of the assignment loop -/
theorem assign_cons (lat : Nat → Rat) (w : Node → Node → Rat) (acc : List (Nat × Rat)) (a : Node)
    (rest : List Node) :
    cpReport.assign lat w acc (a :: rest) = cpReport.assign lat w
      (acc.filter (·.1 != a.line) ++ [(a.line, match rest with | [] => lat a.line | b :: _ => w a b)])
      rest := by
  cases rest <;> rfl

/-- **no overwriting on paths with distinct lines**: the assignment loop removes the entries of the
    path's lines from the accumulator and appends one entry per node -/
theorem assign_nodup (lat : Nat → Rat) (w : Node → Node → Rat) (p : List Node)
    (hnd : (p.map (·.line)).Nodup) (acc : List (Nat × Rat)) :
    cpReport.assign lat w acc p =
      acc.filter (fun e => p.all fun n => e.1 != n.line) ++ entries lat w p := by
  induction p generalizing acc with
  | nil => exact ((List.append_nil _).trans (List.filter_eq_self.mpr fun _ _ => rfl)).symm
  | cons a rest ih =>
    rw [List.map_cons, List.nodup_cons] at hnd
    -- one round filters the accumulator by the head's line and appends the head's entry; by `ih` the
    -- rest filters by the tail's lines: together that is filtering by the whole path, and the head's
    -- entry survives the second filter because its line is not in the tail
    have ha : (rest.all fun n => a.line != n.line) = true :=
      List.all_eq_true.mpr fun n hn => bne_iff_ne.mpr fun h => hnd.1 (h ▸ List.mem_map_of_mem hn)
    rw [assign_cons, ih hnd.2, List.filter_append, List.filter_filter,
      List.filter_cons_of_pos (p := fun e : Nat × Rat => rest.all fun n => e.1 != n.line) ha,
      List.filter_nil, List.append_assoc, List.singleton_append,
      show (fun e : Nat × Rat => (a :: rest).all fun n => e.1 != n.line) =
        fun e => (rest.all fun n => e.1 != n.line) && e.1 != a.line from
        funext fun e => by rw [List.all_cons, Bool.and_comm]]
    rfl

/-! ### the report keeps every assigned value once -/

/-- value looked up in an association list, 0 if absent -/
def lookupD (cp : List (Nat × Rat)) (l : Nat) : Rat := ((cp.find? (·.1 == l)).map (·.2)).getD 0

theorem report_sum_lookup (k : List Ins) (cp : List (Nat × Rat)) :
    ((k.filterMap fun i => (cp.find? (·.1 == i.line)).map fun e => (i.line, e.2)).map (·.2)).sum =
      (k.map fun i => lookupD cp i.line).sum := by
  induction k with
  | nil => rfl
  | cons i k ih =>
    rw [List.map_cons, List.sum_cons, ← ih, List.filterMap_cons, lookupD]
    cases cp.find? (·.1 == i.line) with
    | none => exact (zero_add _).symm
    | some e => exact List.sum_cons

theorem lookupD_cons (e : Nat × Rat) (cp : List (Nat × Rat)) (l : Nat) :
    lookupD (e :: cp) l = if l = e.1 then e.2 else lookupD cp l := by
  rw [lookupD, List.find?_cons]
  by_cases h : l = e.1
  · rw [if_pos h, h, beq_self_eq_true]; rfl
  · rw [if_neg h, beq_eq_false_iff_ne.mpr (Ne.symm h)]; rfl

theorem lookup_sum (ls : List Nat) (hls : ls.Nodup) (cp : List (Nat × Rat)) (hcp : (cp.map (·.1)).Nodup)
    (hsub : ∀ e ∈ cp, e.1 ∈ ls) : (ls.map fun l => lookupD cp l).sum = (cp.map (·.2)).sum := by
  induction cp with
  | nil => exact List.sum_eq_zero fun x hx => by obtain ⟨_, _, rfl⟩ := List.mem_map.mp hx; rfl
  | cons e cp ih =>
    rw [List.map_cons, List.nodup_cons] at hcp
    -- the first entry is looked up once, at its own key, where the other entries have nothing
    have hrest : lookupD cp e.1 = 0 := by
      rw [lookupD, List.find?_eq_none.mpr fun x hx hk =>
        hcp.1 (List.mem_map.mpr ⟨x, hx, beq_iff_eq.mp hk⟩)]
      rfl
    rw [funext (lookupD_cons e cp), List.sum_map_ite_eq ls (fun _ => e.2) (lookupD cp) e.1, hls.count,
      if_pos (hsub e List.mem_cons_self), hrest, ih hcp.2 fun x hx => hsub x (List.mem_cons_of_mem _ hx),
      one_nsmul, sub_zero, List.map_cons, List.sum_cons]

/-- the total of the report is the sum of the assigned values, when the assigned lines are distinct
    lines of the kernel -/
theorem lookups_sum_eq (k : List Ins) (hk : (k.map (·.line)).Nodup) (cp : List (Nat × Rat))
    (hcp : (cp.map (·.1)).Nodup) (hsub : ∀ e ∈ cp, e.1 ∈ k.map (·.line)) :
    ((k.filterMap fun i => (cp.find? (·.1 == i.line)).map fun e => (i.line, e.2)).map (·.2)).sum =
      (cp.map (·.2)).sum := by
  rw [report_sum_lookup, ← lookup_sum (k.map (·.line)) hk cp hcp hsub, List.map_map]
  rfl

/-! ### genuine paths of a forward graph -/

/-- consecutive nodes are linked by an edge of `es` -/
def isPath (es : List Edge) : List Node → Bool
  | a :: b :: rest => es.any (fun e => e.src == a && e.dst == b) && isPath es (b :: rest)
  | _ => true

/-- the shape `edges_forward` establishes for `create`: targets are instruction nodes; an instruction
    node points to a larger line, a load node to its own line -/
def ForwardEdges (es : List Edge) : Prop :=
  ∀ e ∈ es, e.dst.load = false ∧
    ((e.src.load = false ∧ e.src.line < e.dst.line) ∨ (e.src.load = true ∧ e.src.line = e.dst.line))

instance (es : List Edge) : Decidable (ForwardEdges es) := by unfold ForwardEdges; infer_instance

/-- the path without its leading load node -/
def instrPart : List Node → List Node
  | a :: b :: rest => if a.load then b :: rest else a :: b :: rest
  | p => p

theorem isPath_cons₂ (es : List Edge) (a b : Node) (rest : List Node) :
    isPath es (a :: b :: rest) = true ↔
      (∃ e ∈ es, e.src = a ∧ e.dst = b) ∧ isPath es (b :: rest) = true := by
  simp only [isPath, Bool.and_eq_true, List.any_eq_true, beq_iff_eq]

theorem isPath_tail (es : List Edge) (a : Node) (rest : List Node) (h : isPath es (a :: rest) = true) :
    isPath es rest = true := by
  cases rest with
  | nil => rfl
  | cons b rest => exact ((isPath_cons₂ es a b rest).mp h).2

theorem edge_of_isPath (es : List Edge) (a b : Node) (rest : List Node)
    (h : isPath es (a :: b :: rest) = true) :
    ∃ e ∈ es, e.src = a ∧ e.dst = b ∧ edgeW es a b = e.w := by
  obtain ⟨f, hf, hs, hd⟩ := ((isPath_cons₂ es a b rest).mp h).1
  cases hfind : es.find? (fun e => e.src == a && e.dst == b) with
  | none => exact absurd (by simp [hs, hd]) (List.find?_eq_none.mp hfind f hf)
  | some g =>
    have hg := List.find?_some hfind
    rw [Bool.and_eq_true, beq_iff_eq, beq_iff_eq] at hg
    exact ⟨g, List.mem_of_find?_eq_some hfind, hg.1, hg.2, by rw [edgeW, hfind]⟩

theorem instr_path_sorted (es : List Edge) (hfw : ForwardEdges es) (a : Node) (rest : List Node)
    (hp : isPath es (a :: rest) = true) (ha : a.load = false) :
    (∀ n ∈ a :: rest, n.load = false) ∧ ((a :: rest).map (·.line)).Pairwise (· < ·) := by
  induction rest generalizing a with
  | nil => simp [ha]
  | cons b rest ih =>
    obtain ⟨e, he, hs, hd, _⟩ := edge_of_isPath es a b rest hp
    obtain ⟨hdl, hdir⟩ := hfw e he
    rw [hs, hd] at hdir
    rw [hd] at hdl
    have hlt : a.line < b.line := by
      rcases hdir with h | h
      · exact h.2
      · rw [ha] at h; cases h.1
    obtain ⟨hall, hsorted⟩ := ih b (isPath_tail es a _ hp) hdl
    refine ⟨List.forall_mem_cons.mpr ⟨ha, hall⟩, List.pairwise_cons.mpr ⟨fun x hx => ?_, hsorted⟩⟩
    rcases List.mem_cons.mp hx with rfl | hx
    · exact hlt
    · exact Nat.lt_trans hlt (List.rel_of_pairwise_cons hsorted hx)

theorem instrPart_sorted (es : List Edge) (hfw : ForwardEdges es) (p : List Node)
    (hp : isPath es p = true) :
    isPath es (instrPart p) = true ∧ ((instrPart p).map (·.line)).Pairwise (· < ·) ∧
      (2 ≤ (instrPart p).length → ∀ n ∈ instrPart p, n.load = false) := by
  match p, hp with
  | [], _ => exact ⟨rfl, List.Pairwise.nil, fun _ _ h => nomatch h⟩
  | [a], _ => exact ⟨rfl, List.pairwise_singleton _ _, fun h => absurd h (Nat.not_succ_le_self 1)⟩
  | a :: b :: rest, hp =>
    cases ha : a.load with
    | true =>
      rw [instrPart, if_pos ha]
      obtain ⟨e, he, hs, hd, _⟩ := edge_of_isPath es a b rest hp
      have htail := isPath_tail es a _ hp
      have := instr_path_sorted es hfw b rest htail (hd ▸ (hfw e he).1)
      exact ⟨htail, this.2, fun _ => this.1⟩
    | false =>
      rw [instrPart, if_neg (by rw [ha]; exact Bool.false_ne_true)]
      have := instr_path_sorted es hfw a _ hp ha
      exact ⟨hp, this.2, fun _ => this.1⟩

theorem instrPart_eq_self (p : List Node) (h : ∀ a ∈ p.head?, a.load = false) : instrPart p = p := by
  match p, h with
  | [], _ => rfl
  | [a], _ => rfl
  | a :: b :: rest, h => rw [instrPart, if_neg (by rw [h a rfl]; exact Bool.false_ne_true)]

theorem instrPart_subset (p : List Node) : ∀ n ∈ instrPart p, n ∈ p := by
  match p with
  | [] => exact fun _ h => h
  | [a] => exact fun _ h => h
  | a :: b :: rest =>
    intro n hn
    rw [instrPart] at hn
    split at hn
    · exact List.mem_cons_of_mem _ hn
    · exact hn

theorem instrPart_ne_nil (p : List Node) (hp : p ≠ []) : instrPart p ≠ [] := by
  match p, hp with
  | [a], _ => exact List.cons_ne_nil _ _
  | a :: b :: rest, _ => rw [instrPart]; split <;> exact List.cons_ne_nil _ _

/-- **what the assignment loop leaves behind**: one value per node of the instruction part — the
    value assigned for the leading load node is overwritten by the next assignment -/
theorem assign_eq_entries (lat : Nat → Rat) (es : List Edge) (hfw : ForwardEdges es) (p : List Node)
    (hp : isPath es p = true) :
    cpReport.assign lat (edgeW es) [] p = entries lat (edgeW es) (instrPart p) := by
  have hs := (instrPart_sorted es hfw p hp).2.1
  match p, hp, hs with
  | [], _, _ => rfl
  | [a], _, _ => rfl
  | a :: b :: rest, hp, hs =>
    by_cases ha : a.load = true
    · rw [instrPart, if_pos ha] at hs ⊢
      obtain ⟨e, he, hsrc, hdst, _⟩ := edge_of_isPath es a b rest hp
      have hline : a.line = b.line := by
        rcases (hfw e he).2 with h | h
        · rw [hsrc, ha] at h; cases h.1
        · rw [hsrc, hdst] at h; exact h.2
      rw [assign_cons, assign_nodup lat (edgeW es) (b :: rest) (nodup_of_sorted _ hs), List.filter_nil,
        List.nil_append, List.filter_cons_of_neg (by simp [hline]), List.filter_nil, List.nil_append]
    · rw [instrPart, if_neg ha] at hs ⊢
      rw [assign_nodup lat (edgeW es) _ (nodup_of_sorted _ hs), List.filter_nil, List.nil_append]

/-- **the reported total of a genuine path**: the edge weights along its instruction part plus the
    latency of its last instruction — the weight of a leading load edge is lost -/
theorem cpReport_total (k : List Ins) (hk : (k.map (·.line)).Nodup) (es : List Edge)
    (hfw : ForwardEdges es) (p : List Node) (hne : p ≠ []) (hp : isPath es p = true)
    (hin : ∀ n ∈ p, n.line ∈ k.map (·.line)) :
    ((cpReport k es p).map (·.2)).sum =
      pathW (edgeW es) (instrPart p) + latOfK k (lastLine (instrPart p)) := by
  rw [cpReport_eq, assign_eq_entries (latOfK k) es hfw p hp]
  have hs := (instrPart_sorted es hfw p hp).2.1
  rw [lookups_sum_eq k hk _ (by rw [entries_keys]; exact nodup_of_sorted _ hs) ?_]
  · exact entries_sum _ _ _ (instrPart_ne_nil p hne)
  · intro e he
    have := List.mem_map_of_mem (f := (·.1)) he
    rw [entries_keys] at this
    obtain ⟨n, hn, hnl⟩ := List.mem_map.mp this
    exact hnl ▸ hin n (instrPart_subset p n hn)

/-! ### the chain a path stands for -/

/-- load stage of an instruction as the oracle of C04 uses it: `lat − latWoLoad` if the instruction
    has a separate load node (and `latWoLoad` is known), else 0 -/
def loadStageOf (i : Ins) : Rat :=
  if i.hasLd && !i.isLd then (match i.latWoLoad with | some l => i.lat - l | none => 0) else 0

/-- instruction table of the oracle -/
def infosOf (k : List Ins) : List LatInfo := k.map fun i => ⟨i.line, i.lat, loadStageOf i⟩

/-- edge list of the oracle: the edges between instruction nodes -/
def wedgesOf (es : List Edge) : List WEdge :=
  es.filterMap fun e => if !e.src.load && !e.dst.load then some ⟨e.src.line, e.dst.line, e.w⟩ else none

/-- all load stages are non-negative (`latWoLoad ≤ lat`) -/
def NonnegStages (k : List Ins) : Prop := ∀ i ∈ k, 0 ≤ loadStageOf i

instance (k : List Ins) : Decidable (NonnegStages k) := by unfold NonnegStages; infer_instance

theorem infosOf_lines (k : List Ins) : (infosOf k).map (·.line) = k.map (·.line) := by
  simp [infosOf, List.map_map, Function.comp_def]

theorem infosOf_nodup {k : List Ins} (hk : WFKernel k) : ((infosOf k).map (·.line)).Nodup := by
  rw [infosOf_lines]; exact hk.nodup

theorem latOf_infosOf (k : List Ins) (l : Nat) : latOf (infosOf k) l = latOfK k l := by
  rw [latOf, infosOf, List.find?_map, latOfK]
  show (match (k.find? (·.line == l)).map _ with | some (i : LatInfo) => i.lat | none => 0) = _
  cases k.find? (·.line == l) <;> rfl

theorem stageOf_infosOf_nonneg (k : List Ins) (hst : NonnegStages k) (l : Nat) :
    0 ≤ stageOf (infosOf k) l := by
  rw [stageOf, infosOf, List.find?_map]
  cases h : k.find? _ with
  | none => exact le_refl _
  | some i => exact hst i (List.mem_of_find?_eq_some h)

/-- the weighted edges along a path of instruction nodes -/
def edgesOf (es : List Edge) : List Node → List WEdge
  | a :: b :: rest => ⟨a.line, b.line, edgeW es a b⟩ :: edgesOf es (b :: rest)
  | _ => []

def headLine : List Node → Nat
  | [] => 0
  | a :: _ => a.line

/-- the dependency chain a path stands for: its instructions, linked by the path's edges -/
def chainOf (es : List Edge) (p : List Node) : Chain :=
  ⟨headLine (instrPart p), edgesOf es (instrPart p)⟩

theorem edgesOf_sum (es : List Edge) (q : List Node) :
    ((edgesOf es q).map (·.w)).sum = pathW (edgeW es) q := by
  induction q using lastLine.induct with
  | case1 => rfl
  | case2 a => rfl
  | case3 a b rest ih => simp only [edgesOf, List.map_cons, List.sum_cons, pathW, ih]

theorem edgesOf_end (es : List Edge) (q : List Node) (hq : q ≠ []) :
    endOf (headLine q) (edgesOf es q) = lastLine q := by
  induction q using lastLine.induct with
  | case1 => exact absurd rfl hq
  | case2 a => rfl
  | case3 a b rest ih => exact ih (List.cons_ne_nil _ _)

theorem edgesOf_linked (es : List Edge) (q : List Node) : linked (headLine q) (edgesOf es q) = true := by
  induction q using lastLine.induct with
  | case1 => rfl
  | case2 a => rfl
  | case3 a b rest ih =>
    simp only [edgesOf, linked, headLine, beq_self_eq_true, Bool.true_and]
    exact ih

theorem edgesOf_mem (es : List Edge) (q : List Node) (hq : isPath es q = true)
    (hload : 2 ≤ q.length → ∀ n ∈ q, n.load = false) :
    ∀ e ∈ edgesOf es q, e ∈ wedgesOf es ∧ ∃ n ∈ q, n.line = e.dst := by
  induction q using lastLine.induct with
  | case1 => exact fun _ h => nomatch h
  | case2 a => exact fun _ h => nomatch h
  | case3 a b rest ih =>
    have hload := hload (Nat.le_add_left 2 rest.length)
    have hb : b ∈ a :: b :: rest := List.mem_cons_of_mem _ List.mem_cons_self
    intro e he
    rcases List.mem_cons.mp he with rfl | he
    · obtain ⟨g, hg, hs, hd, hw⟩ := edge_of_isPath es a b rest hq
      refine ⟨List.mem_filterMap.mpr ⟨g, hg, ?_⟩, b, hb, rfl⟩
      rw [hs, hd, hload a List.mem_cons_self, hload b hb, hw]
      rfl
    · obtain ⟨h1, n, hn, hnl⟩ := ih (isPath_tail es a _ hq)
        (fun _ n hn => hload n (List.mem_cons_of_mem _ hn)) e he
      exact ⟨h1, n, List.mem_cons_of_mem _ hn, hnl⟩

theorem chainOf_valid (k : List Ins) (es : List Edge) (hfw : ForwardEdges es) (p : List Node)
    (hne : p ≠ []) (hp : isPath es p = true) (hin : ∀ n ∈ p, n.line ∈ k.map (·.line)) :
    (chainOf es p).Valid (infosOf k) (wedgesOf es) := by
  obtain ⟨hq, _, hload⟩ := instrPart_sorted es hfw p hp
  have hmemInfos : ∀ n ∈ instrPart p, ∃ i ∈ infosOf k, i.line = n.line := by
    intro n hn
    obtain ⟨i, hi, hil⟩ := List.mem_map.mp (hin n (instrPart_subset p n hn))
    exact ⟨_, List.mem_map_of_mem hi, hil⟩
  refine ⟨?_, fun e he => ?_, edgesOf_linked es _⟩
  · cases hq' : instrPart p with
    | nil => exact absurd hq' (instrPart_ne_nil p hne)
    | cons a rest =>
      have := hmemInfos a (hq' ▸ List.mem_cons_self)
      rwa [chainOf, hq']
  · obtain ⟨h1, n, hn, hnl⟩ := edgesOf_mem es _ hq hload e he
    exact ⟨h1, hnl ▸ hmemInfos n hn⟩

theorem chainOf_len (k : List Ins) (es : List Edge) (p : List Node) (hne : p ≠ []) :
    (chainOf es p).len (infosOf k) =
      (if edgesOf es (instrPart p) = [] then 0
        else stageOf (infosOf k) (headLine (instrPart p))) +
      pathW (edgeW es) (instrPart p) + latOfK k (lastLine (instrPart p)) := by
  have hne' := instrPart_ne_nil p hne
  by_cases h : edgesOf es (instrPart p) = []
  · rw [if_pos h]
    have hpw : pathW (edgeW es) (instrPart p) = 0 := by rw [← edgesOf_sum, h]; rfl
    have hend := edgesOf_end es _ hne'
    rw [h] at hend
    simp only [endOf] at hend
    simp only [Chain.len, chainOf, h, hpw, latOf_infosOf, hend]
    ring
  · rw [if_neg h, Chain.len_of_ne _ _ h]
    simp only [Chain.pv, chainOf, edgesOf_sum, edgesOf_end es _ hne', latOf_infosOf]

/-! ### edge lists compared by evaluation -/

/-- an edge list is determined by its (source, target, weight) triples, which can be compared by
    evaluation (`Edge` has no decidable equality) -/
theorem edges_eq_of_triples (es : List Edge) (ts : List (Node × Node × Rat))
    (h : es.map (fun e => (e.src, e.dst, e.w)) = ts) : es = ts.map fun t => ⟨t.1, t.2.1, t.2.2⟩ := by
  rw [← h, List.map_map]
  exact (List.map_id _).symm

end OsacaVerif.LCD
