import OsacaVerif.Lemmas.Ports
import Mathlib.Data.Rat.Floor
import Mathlib.Tactic.NormNum
import Mathlib.Tactic.Ring
/-
  Python `round(x, 2)` (model `Ports.roundHalfEven · 2`) and the 0.01 step of the balancer:
  rounding commutes with adding 1/100 except at exact ties; it is monotone under the step always.
-/
namespace OsacaVerif.Ports
open OsacaVerif

/-- the integer the rounding picks for the scaled value `y = 100·x`: the `n` in the body of
    `roundHalfEven`, under a name -/
def rnd (y : Rat) : Int :=
  if y - y.floor < 1/2 then y.floor
  else if y - y.floor > 1/2 then y.floor + 1
  else (if y.floor % 2 == 0 then y.floor else y.floor + 1)

theorem roundHalfEven_two (x : Rat) : roundHalfEven x 2 = (rnd (x * 100) : Rat) / 100 := by
  have e : (((10 ^ 2 : Nat) : Nat) : Rat) = 100 := by norm_num
  simp only [roundHalfEven, rnd, e]

/-- `x` is not an exact rounding tie at two digits: the fractional part of `100·x` is not ½ -/
def NoTie (x : Rat) : Prop := x * 100 - ((x * 100).floor : Rat) ≠ 1/2

instance (x : Rat) : Decidable (NoTie x) := by unfold NoTie; infer_instance

/-- `Int.floor_add_one` spelt with `Rat.floor`, the form the model uses (`rw` needs it verbatim) -/
theorem floor_add_one' (y : Rat) : (y + 1).floor = y.floor + 1 := Int.floor_add_one y

theorem frac_add_one' (y : Rat) : (y + 1) - ((y + 1).floor : Rat) = y - (y.floor : Rat) := by
  rw [floor_add_one', Int.cast_add, Int.cast_one, add_sub_add_right_eq_sub]

theorem rnd_add_one (y : Rat) (h : y - (y.floor : Rat) ≠ 1/2) : rnd (y + 1) = rnd y + 1 := by
  unfold rnd
  rw [frac_add_one', floor_add_one']
  by_cases h1 : y - (y.floor : Rat) < 1/2
  · rw [if_pos h1, if_pos h1]
  · have h2 : y - (y.floor : Rat) > 1/2 := lt_of_le_of_ne (not_lt.mp h1) (Ne.symm h)
    rw [if_neg h1, if_neg h1, if_pos h2, if_pos h2]

theorem rnd_eq_floor_or (y : Rat) : rnd y = y.floor ∨ rnd y = y.floor + 1 := by
  unfold rnd
  split_ifs
  exacts [.inl rfl, .inr rfl, .inl rfl, .inr rfl]

/-- ties or not, the rounding picks the floor or the next integer, so a unit step of the scaled
    value never lowers it -/
theorem rnd_le_add_one (y : Rat) : rnd y ≤ rnd (y + 1) := by
  have h1 := rnd_eq_floor_or y
  have h2 := rnd_eq_floor_or (y + 1)
  rw [floor_add_one'] at h2
  omega

theorem round2_le_iff (a b : Rat) :
    roundHalfEven a 2 ≤ roundHalfEven b 2 ↔ rnd (a * 100) ≤ rnd (b * 100) := by
  rw [roundHalfEven_two, roundHalfEven_two, div_le_div_iff_of_pos_right (by norm_num), Int.cast_le]

theorem step_mul (x : Rat) : (x + 1/100) * 100 = x * 100 + 1 := by ring

theorem sub_step_mul (x : Rat) : x * 100 = (x - 1/100) * 100 + 1 := by ring

theorem round2_add_inc (x : Rat) (h : NoTie x) :
    roundHalfEven (x + 1/100) 2 = roundHalfEven x 2 + 1/100 := by
  rw [roundHalfEven_two, roundHalfEven_two, step_mul, rnd_add_one _ h, Int.cast_add, Int.cast_one,
    add_div]

theorem noTie_sub_inc (x : Rat) (h : NoTie x) : NoTie (x - 1/100) := by
  unfold NoTie at *
  rwa [sub_step_mul x, frac_add_one'] at h

theorem round2_sub_inc (x : Rat) (h : NoTie x) :
    roundHalfEven (x - 1/100) 2 = roundHalfEven x 2 - 1/100 := by
  have := round2_add_inc (x - 1/100) (noTie_sub_inc x h)
  rw [sub_add_cancel] at this
  exact eq_sub_of_add_eq this.symm

theorem round2_sub_inc_le (x : Rat) : roundHalfEven (x - 1/100) 2 ≤ roundHalfEven x 2 := by
  rw [round2_le_iff, sub_step_mul x]
  exact rnd_le_add_one _

/-- rounded values are multiples of 0.01: a strict inequality leaves room for one step -/
theorem round2_lt_step (a b : Rat) (h : roundHalfEven b 2 < roundHalfEven a 2) :
    roundHalfEven b 2 + 1/100 ≤ roundHalfEven a 2 := by
  rw [← not_le, round2_le_iff, not_le] at h
  rw [roundHalfEven_two, roundHalfEven_two, ← add_div, div_le_div_iff_of_pos_right (by norm_num)]
  rwa [← Int.cast_one, ← Int.cast_add, Int.cast_le]

end OsacaVerif.Ports
