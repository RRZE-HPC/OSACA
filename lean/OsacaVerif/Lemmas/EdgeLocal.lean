import OsacaVerif.Lemmas.ScanLocal
/-
  Helper development for C05 / C14 (`dg_local`): the edge relation of `DG.create` between two
  instructions of a well-formed kernel is a function of the stream segment between them.

  `depW isa fd par p seg c` is the weight of the dependency edge `p → c` when `seg` lies strictly
  between (the weight of the *last* emission naming `c`, as `add_edge` overwrites), or `none`.
  `edge_local`: for `K = pre ++ p :: seg ++ c :: more`, the edge `(p.line → c.line, w)` is in
  `create K` iff `depW p seg c = some w`.
-/
namespace OsacaVerif.DG
open OsacaVerif OsacaVerif.Text

/-- weight of the dependency edge from producer `p` to consumer `c` across the segment `seg`, if any -/
def depW (isa : Isa) (fd : Bool) (par : Params) (p : Ins) (seg : List Ins) (c : Ins) : Option Rat :=
  (tagsAt isa fd p seg c).getLast?.map (edgeWeight par p)

theorem depW_erase (isa : Isa) (fd : Bool) (par : Params) (p : Ins) (seg : List Ins) (c : Ins) :
    depW isa fd par (eraseLine p) (seg.map eraseLine) (eraseLine c) = depW isa fd par p seg c := by
  unfold depW
  rw [tagsAt_erase]
  rfl

/-- `dedupLast` keeps, for each (src, dst) pair, the last emission: membership as a `getLast?` -/
theorem mem_dedupLast_getLast (es : List Edge) (g : Edge) :
    g ∈ dedupLast es ↔ (es.filter (fun f => f.src == g.src && f.dst == g.dst)).getLast? = some g := by
  rw [mem_dedupLast, List.getLast?_filter, List.find?_eq_some_iff_append]
  constructor
  · rintro ⟨pre, post, rfl, h⟩
    refine ⟨by simp, post.reverse, pre.reverse, by simp, fun f hf => ?_⟩
    simpa [pairOf, imp_iff_not_or] using h f (List.mem_reverse.mp hf)
  · rintro ⟨-, as, bs, h, hall⟩
    refine ⟨bs.reverse, as.reverse, ?_, fun f hf => ?_⟩
    · rw [← List.reverse_reverse es, h]; simp
    · simpa [pairOf, imp_iff_not_or] using hall f (List.mem_reverse.mp hf)

theorem emissions_append (isa : Isa) (fd : Bool) (par : Params) (pre rest : List Ins) :
    ∃ X, emissions isa fd par (pre ++ rest) = X ++ emissions isa fd par rest ∧
      ∀ e ∈ X, ∃ q ∈ pre, e.src.line = q.line := by
  induction pre with
  | nil => exact ⟨[], rfl, by simp⟩
  | cons q pre ih =>
    obtain ⟨X, hX, hsrc⟩ := ih
    refine ⟨loadEdge q ++ (findDepending isa fd q (pre ++ rest)).map (depEdge par q) ++ X, ?_, ?_⟩
    · simp only [List.cons_append, emissions_cons, hX, List.append_assoc]
    · intro e he
      rcases List.mem_append.mp he with he | he
      · refine ⟨q, List.mem_cons_self, ?_⟩
        rcases List.mem_append.mp he with he | he
        · rw [(mem_loadEdge he).1]
        · obtain ⟨x, _, rfl⟩ := List.mem_map.mp he
          rfl
      · obtain ⟨q', hq', h⟩ := hsrc e he
        exact ⟨q', List.mem_cons_of_mem _ hq', h⟩

theorem filter_pair_eq_nil (es : List Edge) (a b : Node) (h : ∀ e ∈ es, e.src ≠ a) :
    es.filter (fun f => f.src == a && f.dst == b) = [] := by
  rw [List.filter_eq_nil_iff]
  intro e he hp
  exact h e he (beq_iff_eq.mp (Bool.and_eq_true_iff.mp hp).1)

/-- (`dg_local`; ∀ well-formed kernels, ∀ decompositions) whether `c` depends on `p`
    in the graph of `K = pre ++ p :: seg ++ c :: more`, and with which weight, is `depW p seg c` — a
    function of the segment `p … c` alone. -/
theorem edge_local (isa : Isa) (fd : Bool) (par : Params) (pre : List Ins) (p : Ins) (seg : List Ins) (c : Ins)
    (more : List Ins) (hwf : WFKernel (pre ++ p :: (seg ++ c :: more))) (w : Rat) :
    ({ src := ⟨p.line, false⟩, dst := ⟨c.line, false⟩, w := w } : Edge) ∈
        create isa fd par (pre ++ p :: (seg ++ c :: more)) ↔
      depW isa fd par p seg c = some w := by
  -- line facts from well-formedness
  obtain ⟨-, hrest, hpre⟩ := List.pairwise_append.mp (List.pairwise_map.mp hwf)
  obtain ⟨hp, hR⟩ := List.pairwise_cons.mp hrest
  obtain ⟨-, hcm, hsc⟩ := List.pairwise_append.mp hR
  have hseg : ∀ x ∈ seg, x.line ≠ c.line := fun x hx => Nat.ne_of_lt (hsc x hx c List.mem_cons_self)
  have hmore : ∀ x ∈ more, x.line ≠ c.line := fun x hx => Nat.ne_of_gt ((List.pairwise_cons.mp hcm).1 x hx)
  -- only the emissions of producer `p` have source `p.line`
  obtain ⟨X, hX, hsrc⟩ := emissions_append isa fd par pre (p :: (seg ++ c :: more))
  have hXnil := filter_pair_eq_nil X ⟨p.line, false⟩ ⟨c.line, false⟩ (by
    intro e he hs
    obtain ⟨q, hq, hql⟩ := hsrc e he
    have := hpre q hq p List.mem_cons_self
    rw [hs] at hql
    exact Nat.lt_irrefl _ (hql ▸ this))
  have hLnil := filter_pair_eq_nil (loadEdge p) ⟨p.line, false⟩ ⟨c.line, false⟩ (by
    intro e he hs
    cases (mem_loadEdge he).1.symm.trans hs)
  have hEnil := filter_pair_eq_nil (emissions isa fd par (seg ++ c :: more)) ⟨p.line, false⟩ ⟨c.line, false⟩ (by
    intro e he hs
    obtain ⟨-, -, -, ⟨q, hq, hql⟩, -⟩ := emissions_shape isa fd par _ (List.pairwise_map.mpr hR) e he
    have := hp q hq
    rw [hs] at hql
    exact Nat.lt_irrefl _ (hql ▸ this))
  have hF : ((fun f : Edge => f.src == (⟨p.line, false⟩ : Node) && f.dst == (⟨c.line, false⟩ : Node)) ∘
      depEdge par p) = fun x => x.1 == c.line := by
    funext x
    simp [depEdge]
  rw [create, mem_dedupLast_getLast, hX, emissions_cons, List.filter_append, List.filter_append, List.filter_append,
    hXnil, hLnil, hEnil, List.nil_append, List.nil_append, List.append_nil, List.filter_map, hF,
    findDepending_at isa fd p seg more c hseg hmore, List.map_map, List.getLast?_map, depW]
  cases (tagsAt isa fd p seg c).getLast? with
  | none => simp
  | some tg => simp [depEdge]

end OsacaVerif.DG
