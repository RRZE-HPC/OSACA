import OsacaVerif.Spec.Deps
import OsacaVerif.Lemmas.StreamCycles
/-
  Helper development for C05: what the executable oracle `Spec.cycles` enumerates.

  Abstractly: `D` is a dependency relation between stream positions, `L` maps the positions `< n` of
  the body to line numbers (strictly increasing), `intra` / `cross` are explicit weighted edge lists
  over line numbers that represent `D` inside one iteration (`D x y`, `x < y < n`) and from one
  iteration into the next (`D x (y + n)`, `x, y < n`) — `EdgeSpec`.  Then `Spec.cycles` returns exactly
  the winding-1 cycles of `D` in normal form (all positions inside the body): `cycles_iff`.
-/
namespace OsacaVerif.LCD
open OsacaVerif OsacaVerif.DG OsacaVerif.Spec

/-- the explicit edge lists `intra`, `cross` (over line numbers `L x`) represent the relation `D` -/
structure EdgeSpec (D : Nat → Nat → Option Rat) (n : Nat) (L : Nat → Nat) (intra cross : List WEdge) : Prop where
  mono : ∀ x y, x < y → y < n → L x < L y
  intra_pos : ∀ e ∈ intra, ∃ x y, x < y ∧ y < n ∧ L x = e.src ∧ L y = e.dst ∧ D x y = some e.w
  intra_mem : ∀ x y w, x < y → y < n → D x y = some w → (⟨L x, L y, w⟩ : WEdge) ∈ intra
  cross_pos : ∀ e ∈ cross, ∃ x y, x < n ∧ y < n ∧ L x = e.src ∧ L y = e.dst ∧ D x (y + n) = some e.w
  cross_mem : ∀ x y w, x < n → y < n → D x (y + n) = some w → (⟨L x, L y, w⟩ : WEdge) ∈ cross

theorem EdgeSpec.inj {D : Nat → Nat → Option Rat} {n : Nat} {L : Nat → Nat} {intra cross : List WEdge}
    (h : EdgeSpec D n L intra cross) (x y : Nat) (hx : x < n) (hy : y < n) (hL : L x = L y) : x = y := by
  rcases Nat.lt_trichotomy x y with hlt | heq | hgt
  · exact absurd hL (Nat.ne_of_lt (h.mono x y hlt hy))
  · exact heq
  · exact absurd hL.symm (Nat.ne_of_lt (h.mono y x hgt hx))

theorem cycle_ext {a b : Cycle} (h1 : a.lines = b.lines) (h2 : a.latency = b.latency) : a = b := by
  cases a; cases b; simp_all

/-- **what `cyclesFrom` enumerates**: started at position `s` with target `f`, it returns exactly the
    chains `s = b₀ < b₁ < … < bₘ` of `D` inside the body (at most `fuel` members) that close with
    `D bₘ (f + n)`; the lines are appended to `members`, the weights added to `acc`. -/
theorem cyclesFrom_iff {D : Nat → Nat → Option Rat} {n : Nat} {L : Nat → Nat} {intra cross : List WEdge}
    (h : EdgeSpec D n L intra cross) (f : Nat) (hf : f < n) (fuel s : Nat) (hs : s < n)
    (members : List Nat) (acc : Rat) (c : Cycle) :
    c ∈ cyclesFrom intra cross (L f) fuel (L s) members acc ↔
      ∃ w rest, rest.length + 1 ≤ fuel ∧ (∀ y ∈ rest, y.1 < n) ∧ Chain D (f + n) ((s, w) :: rest) ∧
        c.lines = members.reverse ++ rest.map (fun y => L y.1) ∧
        c.latency = acc + (w + (rest.map (·.2)).sum) := by
  induction fuel generalizing s members acc with
  | zero =>
    simp only [cyclesFrom, List.not_mem_nil, false_iff]
    rintro ⟨w, rest, hl, _⟩
    exact absurd hl (Nat.not_succ_le_zero _)
  | succ fuel ih =>
    simp only [cyclesFrom, List.mem_append, List.mem_filterMap, List.mem_flatMap]
    constructor
    · rintro (⟨e, he, hc⟩ | ⟨e, he, hc⟩)
      · -- a closing cross edge
        split at hc
        · rename_i hcond
          simp only [Bool.and_eq_true, beq_iff_eq] at hcond
          obtain ⟨x, y, hx, hy, hlx, hly, hd⟩ := h.cross_pos e he
          obtain rfl : x = s := h.inj x s hx hs (hlx.trans hcond.1)
          obtain rfl : y = f := h.inj y f hy hf (hly.trans hcond.2)
          obtain rfl := Option.some.inj hc
          exact ⟨e.w, [], Nat.succ_le_succ (Nat.zero_le _), fun _ h => (List.not_mem_nil h).elim, ⟨Nat.lt_add_left y hx, hd, trivial⟩,
            (List.append_nil _).symm, congrArg (acc + ·) (Rat.add_zero _).symm⟩
        · cases hc
      · -- an intra edge to a larger line, then recursion
        split at hc
        · rename_i hcond
          simp only [Bool.and_eq_true, beq_iff_eq, decide_eq_true_eq] at hcond
          obtain ⟨x, y, hxy, hy, hlx, hly, hd⟩ := h.intra_pos e he
          obtain rfl : x = s := h.inj x s (Nat.lt_trans hxy hy) hs (hlx.trans hcond.1)
          rw [← hly] at hc
          obtain ⟨w', rest', hl, hb, hch, hlines, hlat⟩ := (ih y hy _ _).mp hc
          refine ⟨e.w, (y, w') :: rest', Nat.succ_le_succ hl, List.forall_mem_cons.mpr ⟨hy, hb⟩, ⟨hxy, hd, hch⟩, ?_, ?_⟩
          · rw [hlines, List.reverse_cons, List.append_assoc]; rfl
          · rw [hlat, Rat.add_assoc]; rfl
        · cases hc
    · rintro ⟨w, rest, hl, hb, hch, hlines, hlat⟩
      cases rest with
      | nil =>
        refine Or.inl ⟨⟨L s, L f, w⟩, h.cross_mem s f w hs hf hch.2.1, ?_⟩
        rw [if_pos (by simp only [beq_self_eq_true, Bool.and_self])]
        exact congrArg some (cycle_ext (hlines.trans (List.append_nil _)).symm
          (hlat.trans (congrArg (acc + ·) (Rat.add_zero w))).symm)
      | cons y rest' =>
        obtain ⟨hy, hb⟩ := List.forall_mem_cons.mp hb
        refine Or.inr ⟨⟨L s, L y.1, w⟩, h.intra_mem s y.1 w hch.1 hy hch.2.1, ?_⟩
        rw [if_pos (by simp only [beq_self_eq_true, Bool.true_and, decide_eq_true_eq]; exact h.mono s y.1 hch.1 hy)]
        refine (ih y.1 hy _ _).mpr ⟨y.2, rest', Nat.le_of_succ_le_succ hl, hb, hch.2.2, ?_, ?_⟩
        · rw [hlines, List.reverse_cons, List.append_assoc]; rfl
        · rw [hlat, Rat.add_assoc]; rfl

/-- **`Spec.cycles` enumerates exactly the normal-form winding-1 cycles** of the relation its edge
    lists represent: positions `b₀ < … < bₘ` inside the body, each depending on the previous one, and
    `b₀`'s next occurrence depending on `bₘ`; lines = the lines at these positions, latency = the sum
    of the edge weights. -/
theorem cycles_iff {D : Nat → Nat → Option Rat} {n : Nat} {L : Nat → Nat} {intra cross : List WEdge}
    (h : EdgeSpec D n L intra cross) (c : Cycle) :
    c ∈ Spec.cycles ((List.range n).map L) intra cross ↔
      ∃ b, IsStreamCycle D n b ∧ (∀ y ∈ b, y.1 < n) ∧ c.lines = b.map (fun y => L y.1) ∧
        c.latency = (b.map (·.2)).sum := by
  simp only [Spec.cycles, List.mem_flatMap, List.mem_map, List.mem_range, List.length_map, List.length_range]
  constructor
  · rintro ⟨l, ⟨s, hs, rfl⟩, hc⟩
    obtain ⟨w, rest, _, hb, hch, hlines, hlat⟩ := (cyclesFrom_iff h s hs (n + 1) s hs _ _ c).mp hc
    exact ⟨(s, w) :: rest, hch, List.forall_mem_cons.mpr ⟨hs, hb⟩, hlines, hlat.trans (Rat.zero_add _)⟩
  · rintro ⟨b, hcyc, hb, hlines, hlat⟩
    have hlen := length_le_of_increasing n (verts b) (cycle_increasing hcyc) fun v hv => by
      obtain ⟨y, hy, rfl⟩ := List.mem_map.mp hv
      exact hb y hy
    obtain ⟨x, rest, rfl, hch⟩ := hcyc.cons
    obtain ⟨hs, hb⟩ := List.forall_mem_cons.mp hb
    refine ⟨L x.1, ⟨x.1, hs, rfl⟩, (cyclesFrom_iff h x.1 hs (n + 1) x.1 hs _ _ c).mpr ?_⟩
    refine ⟨x.2, rest, Nat.le_succ_of_le ?_, hb, hch, hlines, hlat.trans (Rat.zero_add _).symm⟩
    rwa [length_verts] at hlen

end OsacaVerif.LCD
