import OsacaVerif.Lemmas.A64Render
import OsacaVerif.Lemmas.Text
/-
  Operand kinds for which the round trip is closed (`CoveredOp`): scalar registers, integer immediates,
  condition codes, the sp/zr aliases.
-/
namespace OsacaVerif.ParseA64
open OsacaVerif.Text OsacaVerif.Spec.A64 OsacaVerif.Gen

theorem shiftTail_congr (r1 r2 : Txt) (h : skipWs r1 = skipWs r2) : shiftTail r1 = shiftTail r2 := by
  simp only [shiftTail]
  rw [← lit_skip [44] r1, h, lit_skip]

/-- the core of a register that carries no shift and is followed by no shift is the register -/
theorem registerP_of_core (s : Txt) (t : RegTok) (r rest : Txt) (hc : registerCore s = some (t, r))
    (hsk : skipWs r = skipWs rest) (hf : Follow rest) (h1 : t.shiftOp = none) (h2 : t.shift = none) :
    registerP s = some (t, skipWs rest) := by
  have hst : shiftTail r = none := by rw [shiftTail_congr r rest hsk]; exact shiftTail_none rest hf
  rw [registerP, hc]
  simp only [optP_none true shiftTail _ hst, sk_true, hsk]
  -- writing `none` into the two shift fields, which hold `none`, changes nothing
  cases t
  simp_all

/-- a register text: read as the register, and as an identifier that ends no later; no keyword -/
theorem goodOp_reg (T : Txt) (tk : RegTok) (c : Nat) (tl : Txt) (hT : T = c :: tl) (hal : isAlphaC c = true)
    (h : ∀ g rest, Blank g → Follow rest →
      registerP (g ++ (T ++ rest)) = some (tk, skipWs rest) ∧
      (∃ w r2, immediate (g ++ (T ++ rest)) = some (.ident ⟨none, w, none⟩, r2) ∧
        identifier (g ++ (T ++ rest)) = some (⟨none, w, none⟩, r2) ∧ (skipWs rest).length ≤ r2.length) ∧
      arithP (g ++ (T ++ rest)) = none ∧
      conditionP (g ++ (T ++ rest)) = none ∧ prefetchP (g ++ (T ++ rest)) = none ∧
      shiftOp (g ++ (T ++ rest)) = none) :
    GoodOp false true T (.reg tk) := by
  have hws := alpha_not_ws c hal
  have hb := (isAlphaC_iff c).mp hal
  have hops : ∀ g rest, Blank g → Follow rest →
      operandRest (g ++ (T ++ rest)) = some (.reg tk, skipWs rest) ∧
      operandFirst (g ++ (T ++ rest)) = some (.reg tk, skipWs rest) := by
    intro g rest hg hf
    obtain ⟨hreg, ⟨w, r2, himm, hid, hlen⟩, har, hcond, hprf, _⟩ := h g rest hg hf
    have hmem : memoryP (g ++ (T ++ rest)) = none := by
      rw [hT, List.cons_append]; exact memoryP_none_head g c _ hg hws (by omega)
    obtain ⟨h1, h2⟩ := operand_alts _ hcond hprf hmem har
    rw [h1, h2, hreg, himm, hid]
    simp only [mapR_some, better_some_ge _ _ _ _ hlen, orElseR_some_left, and_self]
  exact ⟨fun g rest hg hf => ⟨_, (hops g rest hg hf.follow).1, skipWs_idem rest⟩,
    fun _ g rest hg hf => ⟨_, (hops g rest hg hf.follow).2, skipWs_idem rest⟩,
    fun g rest hg hf => (h g rest hg hf.follow).2.2.2.2.2,
    ⟨c, tl, hT, hws, by omega, by omega⟩⟩

/-- an operand of one piece is covered when its text is read in the slots it may stand in -/
theorem covered_single (last fst : Bool) (o : OpA) (T : Txt) (raw : RawOp) (hp : opPieces o = [(T, 1)])
    (hf : fst = true → GoodFirst false T raw) (hr : fst = false → GoodRest false T raw)
    (hproc : processOperand raw = .ok (expectOp o)) : CoveredOp last fst o := by
  refine ⟨T, [], raw, hp, fun gs hgs => ?_, hproc⟩
  rw [show gs = [] from hgs, joinInner, List.append_nil]
  cases fst with
  | true => cases last; exact hf rfl; exact (hf rfl).weaken
  | false => cases last; exact hr rfl; exact (hr rfl).weaken

theorem GoodOp.covered {last fst : Bool} {o : OpA} {T : Txt} {raw : RawOp} (hg : GoodOp false true T raw)
    (hp : opPieces o = [(T, 1)]) (hproc : processOperand raw = .ok (expectOp o)) : CoveredOp last fst o :=
  covered_single last fst o T raw hp (fun _ => hg.toFirst) (fun _ => hg.toRest) hproc

/-- a letter and a digit begin no alias: the register is a vector, a scalar, a predicate register or a list -/
theorem registerCore_snd_digit (g : Txt) (c d : Nat) (t : Txt) (hg : Blank g) (hc : isWs c = false)
    (hd : isDigitC d = true) :
    registerCore (g ++ c :: d :: t) =
      (mapR RegTok.ofElem (vectorP true (g ++ c :: d :: t)) </> mapR RegTok.ofElem (scalarP true (g ++ c :: d :: t))
        </> predicateP (g ++ c :: d :: t) </> registerList (g ++ c :: d :: t)) := by
  rw [registerCore, aliasP_none_digit _ g c d t hg hc hd aliasSp_names,
    aliasP_none_digit _ g c d t hg hc hd aliasZr_names]
  rfl

/-! ### scalar registers `x5`, `W12`, `q31`, … -/
theorem goodOp_scalar (p n : Nat) (hp : isScalarPrefixC p = true) :
    GoodOp false true (p :: showNat n) (.reg { pre := some [p], name := some (showNat n) }) := by
  have hal := scalarPrefix_alpha p hp
  have hws := alpha_not_ws p hal
  obtain ⟨d, ds, hd, hdd⟩ := showNat_cons n
  have hidr : ∀ c ∈ showNat n, isIdRestC c = true := fun c hc => digit_idRest c (showNat_digits n c hc)
  refine goodOp_reg _ _ p (showNat n) rfl hal (fun g rest hg hf => ?_)
  have himm := immediate_word g p (showNat n) rest hg hal hidr hf
  have hsc := scalarP_text g p n rest hg hp (hf.stops isDigitC rest (by decide))
  have hcore : registerCore (g ++ p :: (showNat n ++ rest)) =
      some ({ pre := some [p], name := some (showNat n) }, rest) := by
    rw [hd, List.cons_append] at hsc ⊢
    rw [registerCore_snd_digit g p d _ hg hws hdd, hsc,
      vectorP_none_prefix g p _ hg hws (scalarPrefix_not_vector p hp)]
    rfl
  refine ⟨registerP_of_core _ _ rest rest hcore rfl hf rfl rfl,
    ⟨_, _, himm, identifier_word g p (showNat n) rest hg hal hidr hf, Nat.le_refl _⟩,
    arithP_none_of_immediate _ rest _ _ himm (skipWs_idem rest) hf, ?_⟩
  rw [List.cons_append, hd, List.cons_append]
  exact no_keyword_snd_digit g p d _ hg hws hdd

theorem covered_scalar (last fst : Bool) (p n : Nat) (hp : isScalarPrefixC p = true) :
    CoveredOp last fst (.reg (.scalar p n)) := by
  refine (goodOp_scalar p n hp).covered rfl ?_
  simp only [processOperand, showNat_ne_sp n, processRegister, expectOp, expectReg]
  simp [lower, lowerTxt1]

/-! ### integer immediates `#5`, `-16`, `#0x1F`, `#-0xab`, … -/
theorem intText_head (i : IntA) : ∃ c t, intText i = c :: t ∧ isWs c = false ∧ isAlphaC c = false ∧ c ≠ 58 ∧ c ≠ 43 := by
  obtain ⟨c, t, hct, h⟩ := intText_numHead i []
  obtain ⟨hws, ha, _, _, _, h58, h43⟩ := numHead_facts c h
  exact ⟨c, t, by rw [← hct, List.append_nil], hws, ha, h58, h43⟩

theorem goodOp_int (i : IntA) : GoodOp false true (intText i) (.imm (.num (optNeg i.neg ++ intDigits i))) := by
  have hops : ∀ g rest, Blank g → Follow rest →
      operandRest (g ++ (intText i ++ rest)) = some (.imm (.num (optNeg i.neg ++ intDigits i)), rest) ∧
      operandFirst (g ++ (intText i ++ rest)) = some (.imm (.num (optNeg i.neg ++ intDigits i)), rest) ∧
      shiftOp (g ++ (intText i ++ rest)) = none := by
    intro g rest hg hf
    have himm := immediate_int g i rest hg hf
    have har := arithP_none_of_immediate _ rest _ _ himm rfl hf
    -- first character: `#`, `-` or a digit
    obtain ⟨c, t, hct, h⟩ := intText_numHead i rest
    obtain ⟨hws, ha, hidf, h123, h91, h58, _⟩ := numHead_facts c h
    rw [hct] at himm har ⊢
    obtain ⟨h1, h2⟩ := operand_alts _ (conditionP_none_nonalpha g c t hg hws ha)
      (prefetchP_none_nonalpha g c t hg hws ha) (memoryP_none_head g c t hg hws h91) har
    rw [h1, h2, registerP_none_nonalpha g c t hg hws ha h123, himm, identifier_none_head g c t hg hws hidf h58]
    exact ⟨rfl, rfl, shiftOp_none_nonalpha g c t hg hws ha⟩
  obtain ⟨c, t, hct, hws, _, h58, h43⟩ := intText_head i
  exact ⟨fun g rest hg hf => ⟨rest, (hops g rest hg hf.follow).1, rfl⟩,
    fun _ g rest hg hf => ⟨rest, (hops g rest hg hf.follow).2.1, rfl⟩,
    fun g rest hg hf => (hops g rest hg hf.follow).2.2, ⟨c, t, hct, hws, h58, h43⟩⟩

theorem processImmediate_int (i : IntA) :
    processImmediate (.num (optNeg i.neg ++ intDigits i)) = .ok (.imm (.int (intVal i))) := by
  simp only [processImmediate, intDigits, intVal]
  cases i.neg <;> cases i.hex <;>
    simp [optNeg, pyInt0_showNat, pyInt0_neg_showNat, pyInt0_showHex, pyInt0_neg_showHex]

theorem covered_int (last fst : Bool) (i : IntA) : CoveredOp last fst (.int i) :=
  (goodOp_int i).covered rfl (by simp [processOperand, processImmediate_int, expectOp])

/-! ### condition codes `eq`, `NE`, `Lt`, … (later operand slots only) -/
/-- a caseless literal of the same length as the text matches iff it is the lower-cased text -/
theorem dropPrefixCI_same_len (w l rest : Txt) (hlen : l.length = w.length) :
    dropPrefixCI (w ++ rest) l = if lower w = l then some rest else none := by
  induction w generalizing l with
  | nil =>
    cases l with
    | nil => cases rest <;> simp [dropPrefixCI, lower]
    | cons a l => simp at hlen
  | cons c w ih =>
    cases l with
    | nil => simp at hlen
    | cons a l =>
      simp only [List.cons_append, dropPrefixCI]
      by_cases hc : lowerC c = a
      · simp only [hc, if_true, beq_self_eq_true]
        rw [ih l (by simpa using hlen)]
        have hcons : lower (c :: w) = a :: l ↔ lower w = l := by simp [lower, hc]
        by_cases h : lower w = l
        · rw [if_pos h, if_pos (hcons.mpr h)]
        · rw [if_neg h, if_neg (mt hcons.mp h)]
      · simp [hc, lower]

theorem better_same {α : Type} (x : α) (r : Txt) : (some (x, r) <^> some (x, r)) = some (x, r) :=
  better_some_ge x x r r (Nat.le_refl _)

/-- `^` over caseless literals when exactly the literal `l` matches -/
theorem clitOr_pointwise (ls : List Txt) (s l rest : Txt) (hmem : l ∈ ls)
    (hone : ∀ l' ∈ ls, (match clit true l' s with | some r => some (l', r) | none => none)
      = if l' = l then some (l, rest) else none) :
    clitOr true ls s = some (l, rest) := by
  unfold clitOr
  -- invariant of the fold: the accumulator is nothing yet or the match; and once it is the match, or
  -- while `l` is still ahead, the result is the match
  have key : ∀ (ls' : List Txt) (acc : Res Txt), (∀ l' ∈ ls', l' ∈ ls) →
      (acc = none ∨ acc = some (l, rest)) →
      let out := ls'.foldl (fun acc l => acc <^> (match clit true l s with
        | some r => some (l, r) | none => none)) acc
      (out = none ∨ out = some (l, rest)) ∧ ((acc = some (l, rest) ∨ l ∈ ls') → out = some (l, rest)) := by
    intro ls'
    induction ls' with
    | nil =>
      intro acc _ hacc
      refine ⟨hacc, fun h => ?_⟩
      rcases h with h | h
      · exact h
      · cases h
    | cons a ls' ih =>
      intro acc hsub hacc
      simp only [List.foldl_cons]
      rw [hone a (hsub a (by simp))]
      have hacc' : (acc <^> (if a = l then some (l, rest) else none)) = none ∨
          (acc <^> (if a = l then some (l, rest) else none)) = some (l, rest) := by
        rcases hacc with h | h <;> by_cases ha : a = l <;> simp [h, ha, better_same]
      obtain ⟨h1, h2⟩ := ih _ (fun x hx => hsub x (by simp [hx])) hacc'
      refine ⟨h1, ?_⟩
      intro h
      apply h2
      rcases h with h | h
      · left; by_cases ha : a = l <;> simp [h, ha, better_same]
      · simp at h
        rcases h with h | h
        · left; rcases hacc with h' | h' <;> simp [h', h.symm, better_same]
        · right; exact h
  exact (key ls none (fun _ h => h) (Or.inl rfl)).2 (Or.inr hmem)

/-- `^` over caseless literals of one length: the one that equals the lower-cased text -/
theorem clitOr_match (ls : List Txt) (g w rest l : Txt) (c : Nat) (w' : Txt) (hw : w = c :: w')
    (hc : isWs c = false) (hg : Blank g) (hl : lower w = l) (hmem : l ∈ ls)
    (hlen : ∀ l' ∈ ls, l'.length = w.length) :
    clitOr true ls (g ++ (w ++ rest)) = some (l, rest) := by
  apply clitOr_pointwise ls _ l rest hmem
  intro l' hl'
  have : clit true l' (g ++ (w ++ rest)) = dropPrefixCI (w ++ rest) l' := by
    simp only [clit, sk_true, skipWs_blank_append g _ hg]
    rw [hw, List.cons_append, skipWs_cons c _ hc]
  rw [this, dropPrefixCI_same_len w l' rest (hlen l' hl'), hl]
  by_cases h : l = l'
  · subst h; simp
  · have h' : ¬ l' = l := fun e => h e.symm
    simp [h, h']

/-- what follows does not start with a letter -/
def NoAlphaHead (rest : Txt) : Prop := ∀ c r, rest = c :: r → isAlphaC c = false

theorem Follow.noAlphaHead {rest : Txt} (hf : Follow rest) : NoAlphaHead rest :=
  hf.stops isAlphaC rest (by decide)

theorem lowerC_ne_alpha (c a : Nat) (hc : isAlphaC c = false) (ha : isAlphaC a = true) : lowerC c ≠ a := by
  intro h
  have := (lowerC_nonalpha c hc).2
  rw [h, ha] at this; cases this

/-- a caseless literal longer than the text whose next character is a letter does not match when
    the text is not followed by a letter -/
theorem dropPrefixCI_none_nonalpha (w l rest : Txt) (hlen : w.length < l.length)
    (hnext : ∀ a, l[w.length]? = some a → isAlphaC a = true) (hf : NoAlphaHead rest) :
    dropPrefixCI (w ++ rest) l = none := by
  induction w generalizing l with
  | nil =>
    cases l with
    | nil => simp at hlen
    | cons a l =>
      have ha : isAlphaC a = true := hnext a (by simp)
      cases rest with
      | nil => rfl
      | cons c r =>
        have := lowerC_ne_alpha c a (hf c r rfl) ha
        simp [dropPrefixCI, this]
  | cons c w ih =>
    cases l with
    | nil => simp at hlen
    | cons a l =>
      simp only [List.cons_append, dropPrefixCI]
      split
      · exact ih l (by simpa using hlen) (fun b hb => hnext b (by simpa using hb))
      · rfl

def condLits : List Txt := A64.conditions.map lower

theorem condLits_len : ∀ l ∈ condLits, l.length = 2 := by decide

/-- third character of every shift operator is a letter -/
theorem shiftOps_third : ∀ l ∈ A64.shiftOps, 2 < l.length ∧ ∀ a, l[2]? = some a → isAlphaC a = true := by decide

/-- **condition code** in a later operand slot (∀ of the 17 codes, in any mixture of upper and lower
    case) -/
theorem goodRest_cond (c1 c2 : Nat) (hmem : lower [c1, c2] ∈ condLits) :
    GoodRest false [c1, c2] (.cond (upper (lower [c1, c2]))) := by
  have hal : isAlphaC c1 = true := by
    have : ∀ l ∈ condLits, headAlpha l = true := by decide
    have := this _ hmem
    simp only [lower, List.map_cons, headAlpha] at this
    exact alpha_of_lowerC_alpha c1 this
  have hws := alpha_not_ws c1 hal
  refine ⟨fun g rest hg hf => ?_, fun g rest hg hf => ?_⟩
  · have hf : Follow rest := hf.follow
    -- of the codes (all of length two) exactly the lower-cased text matches
    have hm := clitOr_match condLits g [c1, c2] rest _ c1 [c2] rfl hws hg rfl hmem
      (fun l' hl' => by rw [condLits_len l' hl']; rfl)
    have hcp : conditionP (g ++ ([c1, c2] ++ rest)) = some (upper (lower [c1, c2]), rest) := by
      simp only [conditionP]
      show mapR upper (clitOr true condLits _) = _
      rw [hm]; rfl
    refine ⟨rest, ?_, rfl⟩
    simp only [operandRest, hcp, mapR_some, wordEnd_follow _ rest hf, orElseR_some_left]
  · have hf : Follow rest := hf.follow
    -- every shift operator is longer, and its third character is a letter
    refine shiftOp_none_of_clitOr _ (clitOr_none _ _ _ fun l hl => ?_)
    obtain ⟨hlen, hthird⟩ := shiftOps_third l hl
    rw [clit, sk_true, List.cons_append, skipWs_blank_cons g c1 _ hg hws]
    exact dropPrefixCI_none_nonalpha [c1, c2] l rest (by simpa using hlen) (by simpa using hthird) hf.noAlphaHead

theorem covered_cond (last : Bool) (c : Txt) (hc : lower c ∈ condLits) : CoveredOp last false (.cond c) := by
  have hlen : c.length = 2 := by
    have := condLits_len _ hc
    simpa [lower] using this
  match c, hlen with
  | [c1, c2], _ =>
    refine covered_single last false _ _ _ rfl (fun h => by cases h) (fun _ => goodRest_cond c1 c2 hc) ?_
    -- `process_operand` upper-cases what the grammar has upper-cased already
    simp only [processOperand, expectOp, upper_upper, upper_lower]

/-! ### the aliases `sp wsp SP WSP xzr wzr XZR WZR` -/
def aliasTexts : List Txt :=
  [ofString "sp", ofString "wsp", ofString "SP", ofString "WSP",
   ofString "xzr", ofString "wzr", ofString "XZR", ofString "WZR"]

/-- the register token the grammar produces for an alias -/
def aliasTok (t : Txt) : RegTok :=
  if t.length = 2 then { name := some t } else { pre := some (t.take 1), name := some (t.drop 1) }

theorem alias_cases (t : Txt) (ht : t ∈ aliasTexts) :
    t = [115, 112] ∨ t = [119, 115, 112] ∨ t = [83, 80] ∨ t = [87, 83, 80] ∨
    t = [120, 122, 114] ∨ t = [119, 122, 114] ∨ t = [88, 90, 82] ∨ t = [87, 90, 82] := by
  simpa [aliasTexts, ofString] using ht

theorem registerCore_alias (t : Txt) (ht : t ∈ aliasTexts) (g rest : Txt) (hg : Blank g) :
    registerCore (g ++ (t ++ rest)) = some (aliasTok t, rest) := by
  rw [← registerCore_skip, skipWs_blank_append g _ hg, registerCore_skip]
  rcases alias_cases t ht with rfl | rfl | rfl | rfl | rfl | rfl | rfl | rfl <;>
    simp [registerCore, aliasP, skipWs, isWs, A64.aliasSp, A64.aliasZr, startsWith, isAlphaC, aliasTok]

/-- the caseless literal `l` has at least two characters and differs from `a`, `b` in one of them -/
def differs2 (a b : Nat) (l : Txt) : Bool :=
  match l with
  | x :: y :: _ => lowerC a != x || lowerC b != y
  | _ => false

theorem clit_none_differs2 (g : Txt) (a b : Nat) (t l : Txt) (hg : Blank g) (ha : isWs a = false)
    (h : differs2 a b l = true) : clit true l (g ++ a :: b :: t) = none := by
  match l, h with
  | x :: y :: l', h =>
    rw [clit, sk_true, skipWs_blank_cons g a _ hg ha]
    simp only [differs2, Bool.or_eq_true, bne_iff_ne] at h
    rcases h with h | h <;> simp [dropPrefixCI, h]

/-- the literals of the three keyword classes that may begin an operand -/
def keywordLits : List Txt := A64.conditions.map lower ++ A64.prfTypes.map lower ++ A64.shiftOps

/-- a text whose first two characters rule out every keyword is no condition code, prefetch
    operation or shift operator -/
theorem no_keyword (g : Txt) (a b : Nat) (t : Txt) (hg : Blank g) (ha : isWs a = false)
    (h : keywordLits.all (differs2 a b) = true) :
    conditionP (g ++ a :: b :: t) = none ∧ prefetchP (g ++ a :: b :: t) = none ∧
    shiftOp (g ++ a :: b :: t) = none := by
  have hn : ∀ ls, (∀ l ∈ ls, l ∈ keywordLits) → clitOr true ls (g ++ a :: b :: t) = none := fun ls hls =>
    clitOr_none _ _ _ (fun l hl => clit_none_differs2 g a b t l hg ha (List.all_eq_true.mp h l (hls l hl)))
  refine ⟨?_, ?_, shiftOp_none_of_clitOr _ (hn _ fun l hl => ?_)⟩
  · rw [conditionP, hn _ fun l hl => ?_]; rfl
    exact List.mem_append_left _ (List.mem_append_left _ hl)
  · rw [prefetchP, hn _ fun l hl => ?_]
    exact List.mem_append_left _ (List.mem_append_right _ hl)
  · exact List.mem_append_right _ hl

theorem alias_no_keyword (t : Txt) (ht : t ∈ aliasTexts) (g rest : Txt) (hg : Blank g) :
    conditionP (g ++ (t ++ rest)) = none ∧ prefetchP (g ++ (t ++ rest)) = none ∧
    shiftOp (g ++ (t ++ rest)) = none := by
  rcases alias_cases t ht with rfl | rfl | rfl | rfl | rfl | rfl | rfl | rfl <;>
    exact no_keyword g _ _ _ hg (by decide) (by decide)

theorem alias_word (t : Txt) (ht : t ∈ aliasTexts) :
    ∃ c w, t = c :: w ∧ isAlphaC c = true ∧ (∀ d ∈ w, isIdRestC d = true) := by
  rcases alias_cases t ht with rfl | rfl | rfl | rfl | rfl | rfl | rfl | rfl <;>
    exact ⟨_, _, rfl, by decide, by decide⟩

/-- **sp / zr alias** as an operand, in any slot -/
theorem goodOp_alias (t : Txt) (ht : t ∈ aliasTexts) : GoodOp false true t (.reg (aliasTok t)) := by
  obtain ⟨c, w, hcw, hal, hw⟩ := alias_word t ht
  refine goodOp_reg t _ c w hcw hal (fun g rest hg hf => ?_)
  have hreg := registerP_of_core _ _ rest rest (registerCore_alias t ht g rest hg) rfl hf
    (by rw [aliasTok]; split <;> rfl) (by rw [aliasTok]; split <;> rfl)
  have himm : immediate (g ++ (t ++ rest)) = some (.ident ⟨none, t, none⟩, skipWs rest) := by
    rw [hcw, List.cons_append]; exact immediate_word g c w rest hg hal hw hf
  have hid : identifier (g ++ (t ++ rest)) = some (⟨none, t, none⟩, skipWs rest) := by
    rw [hcw, List.cons_append]; exact identifier_word g c w rest hg hal hw hf
  exact ⟨hreg, ⟨_, _, himm, hid, Nat.le_refl _⟩,
    arithP_none_of_immediate _ rest _ _ himm (skipWs_idem rest) hf, alias_no_keyword t ht g rest hg⟩

/-- post-processing of an alias with a prefix letter agrees with the expectation, whatever the letters -/
theorem processOperand_alias3 (p a b : Nat) :
    processOperand (.reg (aliasTok [p, a, b])) = .ok (expectOp (.reg (.alias [p, a, b]))) := by
  simp only [processOperand, aliasTok, expectOp, expectReg, aliasName, processRegister, A64.spOperandName,
    A64.spOperandPrefix, A64.spOperandResult, List.length_cons, List.length_nil, List.take, List.drop,
    Nat.reduceAdd, Nat.reduceEqDiff, if_false, Nat.reduceSub]
  split <;> simp [lower]

/-- … and of `sp` without one -/
theorem processOperand_alias2 (a b : Nat) (h : lower [a, b] = [115, 112]) :
    processOperand (.reg (aliasTok [a, b])) = .ok (expectOp (.reg (.alias [a, b]))) := by
  simp [processOperand, aliasTok, expectOp, expectReg, aliasName, h, A64.spOperandName,
    A64.spOperandPrefix, A64.spOperandResult]

theorem covered_alias (last fst : Bool) (t : Txt) (ht : t ∈ aliasTexts) : CoveredOp last fst (.reg (.alias t)) := by
  refine (goodOp_alias t ht).covered rfl ?_
  rcases alias_cases t ht with rfl | rfl | rfl | rfl | rfl | rfl | rfl | rfl
  · exact processOperand_alias2 _ _ rfl
  · exact processOperand_alias3 _ _ _
  · exact processOperand_alias2 _ _ (by decide)
  all_goals exact processOperand_alias3 _ _ _

end OsacaVerif.ParseA64
