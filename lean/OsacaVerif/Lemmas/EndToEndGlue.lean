import OsacaVerif.Model.Glue
/-
  The small facts the glue conversions need: the key of an operand identifies it (so comparing keys is
  comparing operands under `==`), and the load / store flags the composition model computes from the
  converted semantic operand lists are the flags `assign_src_dst` set.
-/
namespace OsacaVerif.Glue
open OsacaVerif OsacaVerif.Text OsacaVerif.Operand

/-- an encoding that can be read off the front of a text -/
def PrefixInj {α : Type} (enc : α → Txt) : Prop := ∀ a b r r', enc a ++ r = enc b ++ r' → a = b ∧ r = r'

theorem PrefixInj.inj {α : Type} {enc : α → Txt} (henc : PrefixInj enc) {a b : α} (h : enc a = enc b) : a = b :=
  (henc a b [] [] (congrArg (· ++ []) h)).1

theorem encBool_eq (a b : Bool) (h : (if a then 1 else 0 : Nat) = if b then 1 else 0) : a = b := by
  cases a <;> cases b <;> first | rfl | contradiction

/-! The codes of the sum types begin with a tag.  `injection` compares the first elements of two codes: a pair of
    constructors with different tags is contradictory; the pairs that remain follow in the order of the constructors. -/

theorem encTxt_inj : PrefixInj encTxt := by
  intro a b r r' h
  injection h with hl h
  exact List.append_inj h hl

theorem encInt_inj : PrefixInj encInt := by
  intro a b r r' h
  cases a <;> cases b <;> injection h with h0 h <;> try contradiction
  all_goals
    injection h with e h
    exact ⟨by rw [e], h⟩

theorem encOptTxt_inj : PrefixInj encOptTxt := by
  intro a b r r' h
  cases a <;> cases b <;> injection h with h0 h <;> try contradiction
  · exact ⟨rfl, h⟩
  · obtain ⟨e, hr⟩ := encTxt_inj _ _ r r' h
    exact ⟨by rw [e], hr⟩

theorem encOff_inj : PrefixInj encOff := by
  intro a b r r' h
  rcases a with _ | _ | _ | _ | _ <;> rcases b with _ | _ | _ | _ | _ <;> injection h with h0 h <;> try contradiction
  · exact ⟨rfl, h⟩
  · obtain ⟨e, hr⟩ := encInt_inj _ _ r r' h
    exact ⟨by rw [e], hr⟩
  · obtain ⟨e, hr⟩ := encTxt_inj _ _ r r' h
    exact ⟨by rw [e], hr⟩
  · obtain ⟨e, hr⟩ := encTxt_inj _ _ r r' h
    exact ⟨by rw [e], hr⟩
  · exact ⟨rfl, h⟩

/-- **the key identifies the operand**: equal keys ⇔ equal operands — except that an identifier operand
    is equal only to the one at its own position (no `__eq__`: identity) -/
theorem keyOf_eq (i j : Nat) (a b : X86.Operand) (h : keyOf i a = keyOf j b) :
    a = b ∨ (∃ n n', a = .ident n ∧ b = .ident n' ∧ i = j) := by
  cases a <;> cases b <;> injection h with h0 h <;> try contradiction
  · rw [encTxt_inj.inj h]
    exact Or.inl rfl
  · rw [encInt_inj.inj h]
    exact Or.inl rfl
  · injection h with h
    exact Or.inr ⟨_, _, rfl, rfl, h⟩
  · simp only [List.append_assoc] at h
    obtain ⟨e1, h⟩ := encOff_inj _ _ _ _ h
    obtain ⟨e2, h⟩ := encOptTxt_inj _ _ _ _ h
    obtain ⟨e3, h⟩ := encOptTxt_inj _ _ _ _ h
    injection h with e4 h
    injection h with e5
    rw [e1, e2, e3, e4, encBool_eq _ _ e5]
    exact Or.inl rfl

theorem keyOf_self (i : Nat) (a b : X86.Operand) (h : a = b) : keyOf i a = keyOf i b := by rw [h]

/-! ### the matcher's view of the operand list -/

theorem opndsFrom_p (i : Nat) (ops : List X86.Operand) : (opndsFrom i ops).map (·.p) = ops.map poperandOf := by
  induction ops generalizing i with
  | nil => rfl
  | cons o os ih => exact congrArg (poperandOf o :: ·) (ih (i + 1))

theorem opndsOf_p (ops : List X86.Operand) : (opndsOf ops).map (·.p) = ops.map poperandOf := opndsFrom_p 0 ops

theorem opndsOf_length (ops : List X86.Operand) : (opndsOf ops).length = ops.length := by
  have := congrArg List.length (opndsOf_p ops)
  simpa using this

theorem opndsFromA64_p (i : Nat) (ops : List ParseA64.Operand) :
    (opndsFromA64 i ops).map (·.p) = ops.map poperandA64 := by
  induction ops generalizing i with
  | nil => rfl
  | cons o os ih => exact congrArg (poperandA64 o :: ·) (ih (i + 1))

theorem opndsA64_p (ops : List ParseA64.Operand) : (opndsA64 ops).map (·.p) = ops.map poperandA64 :=
  opndsFromA64_p 0 ops

theorem opndsA64_length (ops : List ParseA64.Operand) : (opndsA64 ops).length = ops.length := by
  have := congrArg List.length (opndsA64_p ops)
  simpa using this

/-! ### load / store flags -/

theorem semOpP_isMem (o : Isa.SemOp) : Compose.isMem (semOpP o) = Isa.isMem o := by
  cases o with
  | op i o => simp only [semOpP, Isa.isMem]; cases o.p <;> rfl
  | hid h => cases h <;> rfl
  | wb i b pre post v => rfl

theorem any_semOpP (l : List Isa.SemOp) : (l.map semOpP).any Compose.isMem = l.any Isa.isMem := by
  rw [List.any_map, show Compose.isMem ∘ semOpP = Isa.isMem from funext semOpP_isMem]

/-- **`INSTR_FLAGS.HAS_LD` / `HAS_ST` agree across the stage models**: the composition model recomputes
    `_has_load` / `_has_store` from the semantic operand lists; on the converted lists this is the flag
    the roles model reports -/
theorem composeIns_flags (mn : Option Txt) (ops : List Isa.Opnd) (s : Isa.Sem) :
    Compose.hasLd (composeIns mn ops s) = Isa.hasLoad s ∧ Compose.hasSt (composeIns mn ops s) = Isa.hasStore s := by
  simp only [Compose.hasLd, Compose.hasSt, Isa.hasLoad, Isa.hasStore, composeIns, ← List.map_append, any_semOpP, and_self]

/-- the memory operands `assign_tp_lt` substitutes are the memory operands `assign_src_dst` substitutes -/
theorem substituteMem_agree (ops : List POperand) : Compose.substituteMem ops = Isa.substituteMem ops :=
  List.map_congr_left fun o _ => by cases o <;> rfl

/-! ### AArch64: the key identifies the operand under `==` -/

/-- what `RegisterOperand.__eq__` / `MemoryOperand.__eq__` read of a parsed AArch64 operand: not the predication of a
    register, not the shift operator / amount of an index register (the scale is read) -/
def eqViewA64 : ParseA64.Operand → ParseA64.Operand
  | .reg r => .reg { r with pred := none }
  | .mem m => .mem { m with index := m.index.map fun i => { i with shiftOp := none, shift := none } }
  | o => o

theorem encIdent_inj : PrefixInj encIdent := by
  intro a b r r' h
  simp only [encIdent, List.append_assoc] at h
  obtain ⟨e1, h⟩ := encOptTxt_inj _ _ _ _ h
  obtain ⟨e2, h⟩ := encTxt_inj _ _ _ _ h
  obtain ⟨e3, hr⟩ := encOptTxt_inj _ _ _ _ h
  cases a; cases b; cases e1; cases e2; cases e3
  exact ⟨rfl, hr⟩

theorem encOffA64_inj : PrefixInj encOffA64 := by
  intro a b r r' h
  rcases a with _ | _ | _ | _ <;> rcases b with _ | _ | _ | _ <;> injection h with h0 h <;> try contradiction
  · exact ⟨rfl, h⟩
  · obtain ⟨e, hr⟩ := encInt_inj _ _ r r' h
    exact ⟨by rw [e], hr⟩
  · obtain ⟨e, hr⟩ := encIdent_inj _ _ r r' h
    exact ⟨by rw [e], hr⟩
  · exact ⟨rfl, h⟩

theorem encPostA64_inj : PrefixInj encPostA64 := by
  intro a b r r' h
  rcases a with _ | _ | _ <;> rcases b with _ | _ | _ <;> injection h with h0 h <;> try contradiction
  · exact ⟨rfl, h⟩
  · obtain ⟨e, hr⟩ := encInt_inj _ _ r r' h
    exact ⟨by rw [e], hr⟩
  · exact ⟨rfl, h⟩

theorem encExp_inj : PrefixInj encExp := by
  intro a b r r' h
  rcases a with _ | ⟨s, e⟩ <;> rcases b with _ | ⟨s', e'⟩ <;> injection h with h0 h <;> try contradiction
  · exact ⟨rfl, h⟩
  · simp only [List.append_eq, List.append_assoc] at h
    obtain ⟨e1, h⟩ := encTxt_inj _ _ _ _ h
    obtain ⟨e2, h⟩ := encTxt_inj _ _ _ _ h
    exact ⟨by rw [e1, e2], h⟩

/-- the index register as `__eq__` sees it: prefix and name -/
theorem encIdxA64_inj (a b : Option ParseA64.MemIdx) (r r' : Txt) (h : encIdxA64 a ++ r = encIdxA64 b ++ r') :
    a.map (fun i => ({ i with shiftOp := none, shift := none } : ParseA64.MemIdx)) =
      b.map (fun i => ({ i with shiftOp := none, shift := none } : ParseA64.MemIdx)) ∧ r = r' := by
  cases a <;> cases b <;> injection h with h0 h <;> try contradiction
  · exact ⟨rfl, h⟩
  · simp only [List.append_eq, List.append_assoc] at h
    obtain ⟨e1, h⟩ := encTxt_inj _ _ _ _ h
    obtain ⟨e2, h⟩ := encTxt_inj _ _ _ _ h
    exact ⟨by simp only [Option.map_some, e1, e2], h⟩

/-- **the AArch64 key identifies the operand under `==`**: equal keys ⇒ the fields `__eq__` compares are equal
    (`eqViewA64`) — except that operands of the classes without `__eq__` (identifier, condition code, prefetch
    operation) are equal only to the one at their own position -/
theorem keyA64_eq (i j : Nat) (a b : ParseA64.Operand) (h : keyA64 i a = keyA64 j b) :
    eqViewA64 a = eqViewA64 b ∨
    (i = j ∧ ((∃ x y, a = .ident x ∧ b = .ident y) ∨ (∃ x y, a = .cond x ∧ b = .cond y) ∨
              (∃ t g p t' g' p', a = .prf t g p ∧ b = .prf t' g' p'))) := by
  rcases a with r | (v | ⟨d, m, e⟩) | x | c | ⟨t, g, p⟩ | m <;>
    rcases b with r' | (v' | ⟨d', m', e'⟩) | x' | c' | ⟨t', g', p'⟩ | m' <;>
    injection h with h0 h <;> try contradiction
  -- left: the pairs with the same first tag (the two kinds of immediate share one)
  -- register / register
  · simp only [List.append_assoc] at h
    obtain ⟨e1, h⟩ := encTxt_inj _ _ _ _ h
    obtain ⟨e2, h⟩ := encTxt_inj _ _ _ _ h
    obtain ⟨e3, h⟩ := encOptTxt_inj _ _ _ _ h
    obtain ⟨e4, h⟩ := encOptTxt_inj _ _ _ _ h
    have e5 := encOptTxt_inj.inj h
    cases r; cases r'; cases e1; cases e2; cases e3; cases e4; cases e5
    exact Or.inl rfl
  -- integer / integer immediate
  · injection h with _ h
    rw [encInt_inj.inj h]
    exact Or.inl rfl
  -- integer / float immediate
  · injection h with h0
    contradiction
  -- float / integer immediate
  · injection h with h0
    contradiction
  -- float / float immediate
  · injection h with _ h
    injection h with hd h
    obtain ⟨em, h⟩ := encTxt_inj _ _ _ _ h
    rw [encBool_eq d d' hd, em, encExp_inj.inj h]
    exact Or.inl rfl
  -- identifier / identifier
  · injection h with h
    exact Or.inr ⟨h, Or.inl ⟨_, _, rfl, rfl⟩⟩
  -- condition / condition
  · injection h with h
    exact Or.inr ⟨h, Or.inr (Or.inl ⟨_, _, rfl, rfl⟩)⟩
  -- prefetch / prefetch
  · injection h with h
    exact Or.inr ⟨h, Or.inr (Or.inr ⟨_, _, _, _, _, _, rfl, rfl⟩)⟩
  -- memory / memory
  · simp only [List.append_assoc] at h
    obtain ⟨e1, h⟩ := encOffA64_inj _ _ _ _ h
    obtain ⟨e2, h⟩ := encTxt_inj _ _ _ _ h
    obtain ⟨e3, h⟩ := encTxt_inj _ _ _ _ h
    obtain ⟨e4, h⟩ := encIdxA64_inj _ _ _ _ h
    injection h with e5 h
    injection h with e6 h
    have e7 := encPostA64_inj.inj h
    cases m; cases m'; cases e1; cases e2; cases e3; cases e5; cases encBool_eq _ _ e6; cases e7
    simp only [eqViewA64] at e4 ⊢
    rw [e4]
    exact Or.inl rfl

end OsacaVerif.Glue
