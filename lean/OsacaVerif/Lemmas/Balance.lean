import OsacaVerif.Model.Balance
import OsacaVerif.Lemmas.Feasible
/-
  A per-micro-op decomposition whose rows each carry their micro-op's amount on its admissible
  ports has feasible column sums.  The uniform split, every state the balancer reaches by guarded
  moves, and every explicit schedule (`Spec.Assignment`) are such decompositions.
-/
namespace OsacaVerif.Balance
open OsacaVerif OsacaVerif.Ports OsacaVerif.Spec

structure RowInv (lo : Rat) (n : Nat) (u : Uop) (row : List Rat) : Prop where
  len  : row.length = n
  sum  : row.sum = u.amount
  supp : ∀ p < n, p ∉ u.ports → row.getD p 0 = 0
  low  : ∀ p < n, lo ≤ row.getD p 0

abbrev Inv (lo : Rat) (n : Nat) (us : List Uop) (x : Decomp) : Prop :=
  List.Forall₂ (RowInv lo n) us x

theorem sum_addAt (v : List Rat) (i : Nat) (x : Rat) (hi : i < v.length) :
    (addAt v i x).sum = v.sum + x := by
  induction v generalizing i with
  | nil => exact absurd hi (Nat.not_lt_zero _)
  | cons a as ih =>
    cases i with
    | zero => rw [addAt, List.sum_cons, List.sum_cons, add_right_comm]
    | succ i =>
      rw [addAt, List.sum_cons, List.sum_cons, ih i (Nat.lt_of_succ_lt_succ hi), add_assoc]

theorem length_moveRow (row : List Rat) (a b : Nat) (δ : Rat) :
    (moveRow row a b δ).length = row.length := by
  rw [moveRow, length_addAt, length_addAt]

theorem getD_moveRow (row : List Rat) (a b p : Nat) (δ : Rat) (ha : a < row.length)
    (hb : b < row.length) :
    (moveRow row a b δ).getD p 0 =
      row.getD p 0 + (if a = p then -δ else 0) + (if b = p then δ else 0) := by
  rw [moveRow, getD_addAt _ b p δ (by rwa [length_addAt]), getD_addAt _ a p (-δ) ha]

theorem initRow_inv (lo : Rat) (hlo : lo ≤ 0) (n : Nat) (u : Uop)
    (hu : 0 ≤ u.cycles ∧ 0 ≤ u.mult ∧ u.ports ≠ [] ∧ ∀ p ∈ u.ports, p < n) :
    RowInv lo n u (initRow n u) where
  len := by rw [initRow, List.length_map, List.length_range]
  sum := sum_share_confined u (List.range n) List.nodup_range hu.2.2.1 fun p hp =>
    List.mem_range.mpr (hu.2.2.2 p hp)
  supp p hp hnot := (getD_map_range _ n p hp).trans (share_eq_zero u p hnot)
  low p hp := (getD_map_range (share u) n p hp).symm ▸ hlo.trans (share_nonneg u p hu.1 hu.2.1)

theorem init_inv (lo : Rat) (hlo : lo ≤ 0) (n : Nat) (us : List Uop) (hw : WFUops n us) :
    Inv lo n us (init n us) :=
  List.forall₂_map_right_iff.mpr (List.forall₂_same.mpr fun u hu => initRow_inv lo hlo n u (hw u hu))

theorem moveRow_inv (lo : Rat) (n : Nat) (u : Uop) (row : List Rat) (a b : Nat) (δ : Rat)
    (hp : ∀ p ∈ u.ports, p < n) (h : RowInv lo n u row) (hg : guardOk lo u row a b δ = true) :
    RowInv lo n u (moveRow row a b δ) := by
  simp only [guardOk, Bool.and_eq_true, decide_eq_true_eq, bne_iff_ne, ne_eq,
    List.contains_iff_mem] at hg
  obtain ⟨⟨⟨⟨ha, hb⟩, hab⟩, hla⟩, hlb⟩ := hg
  have han : a < row.length := h.len ▸ hp a ha
  have hbn : b < row.length := h.len ▸ hp b hb
  refine ⟨by rw [length_moveRow, h.len], ?_, ?_, ?_⟩
  · rw [moveRow, sum_addAt _ b δ (by rwa [length_addAt]), sum_addAt _ a (-δ) han, h.sum,
      neg_add_cancel_right]
  · intro p hpn hnot
    rw [getD_moveRow row a b p δ han hbn, h.supp p hpn hnot,
      if_neg fun e : a = p => hnot (e ▸ ha), if_neg fun e : b = p => hnot (e ▸ hb), add_zero,
      add_zero]
  · intro p hpn
    rw [getD_moveRow row a b p δ han hbn]
    by_cases h1 : a = p
    · subst h1
      rwa [if_pos rfl, if_neg fun e => hab e.symm, add_zero, ← sub_eq_add_neg]
    · by_cases h2 : b = p
      · subst h2
        rwa [if_neg h1, if_pos rfl, add_zero]
      · rw [if_neg h1, if_neg h2, add_zero, add_zero]
        exact h.low p hpn

theorem forall₂_set {α β : Type} (R : α → β → Prop) (l1 : List α) (l2 : List β) (j : Nat) (a : α)
    (b : β) (h : List.Forall₂ R l1 l2) (hj : l1[j]? = some a) (hr : R a b) :
    List.Forall₂ R l1 (l2.set j b) := by
  induction h generalizing j with
  | nil => exact absurd hj (by simp)
  | cons hxy hrest ih =>
    cases j with
    | zero => exact .cons (Option.some.inj hj ▸ hr) hrest
    | succ j => exact .cons hxy (ih j hj)

theorem forall₂_get {α β : Type} (R : α → β → Prop) (l1 : List α) (l2 : List β) (j : Nat) (a : α)
    (b : β) (h : List.Forall₂ R l1 l2) (h1 : l1[j]? = some a) (h2 : l2[j]? = some b) : R a b := by
  induction h generalizing j with
  | nil => exact absurd h1 (by simp)
  | cons hxy hrest ih =>
    cases j with
    | zero => exact Option.some.inj h1 ▸ Option.some.inj h2 ▸ hxy
    | succ j => exact ih j h1 h2

theorem step_inv (lo : Rat) (n : Nat) (us : List Uop) (hb : ∀ u ∈ us, ∀ p ∈ u.ports, p < n)
    (x x' : Decomp) (m : Move)
    (h : Inv lo n us x) (hs : step lo us x m = some x') : Inv lo n us x' := by
  unfold step at hs
  split at hs
  · rename_i u row hu hr
    split at hs
    · rename_i hg
      cases hs
      exact forall₂_set _ _ _ _ _ _ h hu (moveRow_inv lo n u row m.a m.b m.δ
        (hb u (List.mem_of_getElem? hu)) (forall₂_get _ _ _ _ _ _ h hu hr) hg)
    · cases hs
  · cases hs

/-- any number of guarded moves (any interleaving over the micro-ops, any number of passes) -/
theorem run_inv (lo : Rat) (n : Nat) (us : List Uop) (hb : ∀ u ∈ us, ∀ p ∈ u.ports, p < n)
    (ms : List Move)
    (x x' : Decomp) (h : Inv lo n us x) (hs : run lo us x ms = some x') : Inv lo n us x' := by
  induction ms generalizing x with
  | nil => cases hs; exact h
  | cons m ms ih =>
    unfold run at hs
    split at hs
    · rename_i x1 hstep
      exact ih x1 (step_inv lo n us hb x x1 m h hstep) hs
    · cases hs

theorem length_pressure (n : Nat) (x : Decomp) : (pressure n x).length = n := by
  rw [pressure, List.length_map, List.length_range]

theorem getD_pressure (n : Nat) (x : Decomp) (p : Nat) (hp : p < n) :
    (pressure n x).getD p 0 = (x.map (·.getD p 0)).sum :=
  getD_map_range _ n p hp

theorem sumOn_pressure (n : Nat) (x : Decomp) (S : List Nat) (hS : ∀ p ∈ S, p < n) :
    sumOn (pressure n x) S = (x.map fun row => sumOn row S).sum := by
  induction S with
  | nil => simp only [sumOn_nil, List.map_const', List.sum_replicate, nsmul_zero]
  | cons p S ih =>
    simp only [sumOn_cons, List.sum_map_add]
    rw [ih fun q hq => hS q (List.mem_cons_of_mem _ hq), getD_pressure n x p (hS p List.mem_cons_self)]

/-- the balancer starts from the uniform split -/
theorem pressure_init (n : Nat) (us : List Uop) : pressure n (init n us) = uniform n us := by
  refine ext_getD (by rw [length_pressure, length_uniform]) fun p hp => ?_
  rw [length_pressure] at hp
  rw [getD_pressure n _ p hp, getD_uniform n us p hp, init, List.map_map]
  exact congrArg List.sum (List.map_congr_left fun u _ => getD_map_range _ n p hp)

theorem sum_le_sum_of_forall₂ {α β : Type} {R : α → β → Prop} {l₁ : List α} {l₂ : List β}
    (h : List.Forall₂ R l₁ l₂) (f : α → Rat) (g : β → Rat)
    (hfg : ∀ a ∈ l₁, ∀ b, R a b → f a ≤ g b) : (l₁.map f).sum ≤ (l₂.map g).sum := by
  induction h with
  | nil => exact le_rfl
  | cons hab _ ih =>
    rw [List.map_cons, List.map_cons, List.sum_cons, List.sum_cons]
    exact add_le_add (hfg _ List.mem_cons_self _ hab) (ih fun a ha => hfg a (List.mem_cons_of_mem _ ha))

theorem sum_eq_sum_of_forall₂ {α β : Type} {R : α → β → Prop} {l₁ : List α} {l₂ : List β}
    (h : List.Forall₂ R l₁ l₂) (f : α → Rat) (g : β → Rat)
    (hfg : ∀ a ∈ l₁, ∀ b, R a b → f a = g b) : (l₁.map f).sum = (l₂.map g).sum := by
  induction h with
  | nil => rfl
  | cons hab _ ih =>
    rw [List.map_cons, List.map_cons, List.sum_cons, List.sum_cons,
      hfg _ List.mem_cons_self _ hab, ih fun a ha => hfg a (List.mem_cons_of_mem _ ha)]

theorem sumOn_ge (lo : Rat) (n : Nat) (u : Uop) (row : List Rat) (h : RowInv lo n u row)
    (S : List Nat) (hS : ∀ p ∈ S, p < n) : (S.length : Rat) * lo ≤ sumOn row S := by
  induction S with
  | nil => rw [List.length_nil, Nat.cast_zero, zero_mul, sumOn_nil]
  | cons p S ih =>
    rw [sumOn_cons, List.length_cons, Nat.cast_succ, add_mul, one_mul, add_comm]
    exact add_le_add (h.low p (hS p List.mem_cons_self)) (ih fun q hq => hS q (List.mem_cons_of_mem _ hq))

theorem sumOn_of_supp (n : Nat) (row : List Rat) (hlen : row.length = n) (S : List Nat) (hSn : S.Nodup)
    (hS : ∀ p ∈ S, p < n) (hz : ∀ p < n, p ∉ S → row.getD p 0 = 0) : sumOn row S = row.sum := by
  have hperm : ((List.range n).filter (· ∈ S)).Perm S :=
    (List.perm_ext_iff_of_nodup (List.nodup_range.filter _) hSn).2 fun p => by
      rw [List.mem_filter, List.mem_range, decide_eq_true_eq]
      exact ⟨fun h => h.2, fun h => ⟨hS p h, h⟩⟩
  rw [sum_eq_sumOn_range, hlen, sumOn, ← (hperm.map _).sum_eq, sum_filter_map]
  refine congrArg List.sum (List.map_congr_left fun p hp => ?_)
  split_ifs with h
  · rfl
  · exact (hz p (List.mem_range.mp hp) (of_decide_eq_false (Bool.eq_false_iff.mpr h))).symm

/-- a row confined to `S` puts its whole amount there; any other row at least `lo` per port -/
theorem hall_of_inv (lo : Rat) (hlo : lo ≤ 0) (n : Nat) (us : List Uop) (x : Decomp) (h : Inv lo n us x)
    (S : List Nat) (hSn : S.Nodup) (hS : ∀ p ∈ S, p < n) :
    confined us S + (us.length : Rat) * ((S.length : Rat) * lo) ≤ (x.map fun row => sumOn row S).sum := by
  have hS0 : (S.length : Rat) * lo ≤ 0 := mul_nonpos_of_nonneg_of_nonpos (Nat.cast_nonneg _) hlo
  have := sum_le_sum_of_forall₂ h
    (fun u => (if u.ports.all (· ∈ S) then u.amount else 0) + (S.length : Rat) * lo)
    (fun row => sumOn row S) fun u _ row hrow => by
      split_ifs with hc
      · rw [sumOn_of_supp n row hrow.len S hSn hS fun p hp hnot => hrow.supp p hp fun hin =>
          hnot (of_decide_eq_true (List.all_eq_true.mp hc p hin)), hrow.sum]
        exact add_le_of_nonpos_right hS0
      · rw [zero_add]
        exact sumOn_ge lo n u row hrow S hS
  rwa [List.sum_map_add, ← sum_filter_map, List.map_const', List.sum_replicate, nsmul_eq_mul] at this

/-- column sums of a decomposition whose rows keep the invariant are feasible up to `−lo` per
    micro-op: nothing sits on a non-admissible port, no cell is below `m·lo`, the total is the
    micro-ops' total, and every port set carries its confined cycles minus `m·|S|·(−lo)`
    (`m` micro-ops). `C01.steps_feasible` is this for the states the balancer reaches. -/
theorem feasible_of_inv (lo : Rat) (hlo : lo ≤ 0) (n : Nat) (us : List Uop) (x : Decomp)
    (h : Inv lo n us x) : Feasible (-lo * us.length) n us (pressure n x) := by
  have ht : (pressure n x).sum = totalAmount us := by
    rw [sum_eq_sumOn_range, length_pressure, sumOn_pressure n x _ fun p hp => List.mem_range.mp hp]
    exact (sum_eq_sum_of_forall₂ h Uop.amount _ fun u _ row hr => by
      rw [← hr.len, ← sum_eq_sumOn_range, hr.sum]).symm
  have hε : 0 ≤ -lo * (us.length : Rat) * n :=
    mul_nonneg (mul_nonneg (neg_nonneg.mpr hlo) (Nat.cast_nonneg _)) (Nat.cast_nonneg _)
  refine ⟨length_pressure n x, fun p hp => ?_, fun p hp hno => ?_, ?_, ?_, fun S hSn hS => ?_⟩
  · have := sum_le_sum_of_forall₂ h (fun _ => lo) (·.getD p 0) fun u _ row hr => hr.low p hp
    rw [List.map_const', List.sum_replicate, nsmul_eq_mul] at this
    rwa [neg_mul, neg_neg, mul_comm, getD_pressure n x p hp]
  · rw [getD_pressure n x p hp, ← sum_eq_sum_of_forall₂ h (fun _ => 0) (·.getD p 0)
      fun u hu row hr => (hr.supp p hp (hno u hu)).symm, List.map_const', List.sum_replicate,
      nsmul_zero]
  · rw [ht]; exact sub_le_self _ hε
  · rw [ht]; exact le_add_of_nonneg_right hε
  · rw [sumOn_pressure n x S hS]
    have := hall_of_inv lo hlo n us x h S hSn hS
    rwa [show confined us S - -lo * us.length * S.length
      = confined us S + us.length * (S.length * lo) by ring]

end OsacaVerif.Balance

namespace OsacaVerif.Spec
open OsacaVerif OsacaVerif.Ports

/-- **C01, uniform scheduling** (∀ port counts, ∀ micro-op lists): the uniform 1/N split is an
    exactly feasible fractional assignment — non-negative, supported on admissible ports,
    total = Σ multiplier·cycles, and every port set carries at least its confined cycles. -/
theorem uniform_feasible (n : Nat) (us : List Uop) (hw : WFUops n us) :
    Feasible 0 n us (uniform n us) := by
  have h := Balance.feasible_of_inv 0 le_rfl n us _ (Balance.init_inv 0 le_rfl n us hw)
  rwa [neg_zero, zero_mul, Balance.pressure_init] at h

end OsacaVerif.Spec
