import OsacaVerif.Model.Fmt
/-
  Lemmas about the number / padding primitives of `Model/Fmt.lean` (core Lean only).
-/
namespace OsacaVerif.Fmt
open OsacaVerif.Text

/-! ### `natVal`, `natDigits` -/

theorem natVal_foldl (t : Txt) (acc : Nat) :
    t.foldl (fun a c => a * 10 + (c - 48)) acc = acc * 10 ^ t.length + natVal t := by
  induction t generalizing acc with
  | nil => simp [natVal]
  | cons c cs ih =>
    simp only [List.foldl_cons, natVal, List.length_cons]
    rw [ih, ih (0 * 10 + (c - 48))]
    simp [Nat.pow_succ, Nat.add_mul, Nat.mul_assoc, Nat.mul_comm 10, Nat.add_assoc]

theorem natVal_append (a b : Txt) : natVal (a ++ b) = natVal a * 10 ^ b.length + natVal b := by
  simp only [natVal, List.foldl_append]
  rw [natVal_foldl]; rfl

@[simp] theorem natVal_nil : natVal [] = 0 := rfl
@[simp] theorem natVal_singleton (c : Nat) : natVal [c] = c - 48 := by simp [natVal]

theorem div10_lt {n : Nat} (h : ¬ n < 10) : n / 10 < n :=
  Nat.div_lt_self (Nat.lt_of_lt_of_le (by decide) (Nat.le_of_not_lt h)) (by decide)

theorem natDigitsAux_fuel (f g n : Nat) (hf : n ≤ f) (hg : n ≤ g) :
    natDigitsAux f n = natDigitsAux g n := by
  induction f generalizing g n with
  | zero =>
    obtain rfl := Nat.le_zero.mp hf
    cases g <;> rfl
  | succ f ih =>
    cases g with
    | zero =>
      obtain rfl := Nat.le_zero.mp hg
      rfl
    | succ g =>
      unfold natDigitsAux
      by_cases h : n < 10
      · rw [if_pos h, if_pos h]
      · have hlt := div10_lt h
        rw [if_neg h, if_neg h, ih g (n / 10) (Nat.le_of_lt_succ (Nat.lt_of_lt_of_le hlt hf))
          (Nat.le_of_lt_succ (Nat.lt_of_lt_of_le hlt hg))]

/-- the defining recursion of `str(n)` -/
theorem natDigits_eq (n : Nat) :
    natDigits n = if n < 10 then [48 + n] else natDigits (n / 10) ++ [48 + n % 10] := by
  unfold natDigits
  cases n with
  | zero => rfl
  | succ m =>
    rw [natDigitsAux]
    by_cases h : m + 1 < 10
    · rw [if_pos h, if_pos h]
    · rw [if_neg h, if_neg h, natDigitsAux_fuel m _ _ (Nat.le_of_lt_succ (div10_lt h)) (Nat.le_refl _)]

theorem natDigits_lt10 (n : Nat) (h : n < 10) : natDigits n = [48 + n] := by
  rw [natDigits_eq, if_pos h]

theorem natDigits_ge10 (n : Nat) (h : ¬ n < 10) : natDigits n = natDigits (n / 10) ++ [48 + n % 10] := by
  rw [natDigits_eq, if_neg h]

/-- induction along the recursion of `natDigits` -/
theorem natDigits_induction {P : Nat → Prop} (lt10 : ∀ n, n < 10 → P n)
    (ge10 : ∀ n, ¬ n < 10 → P (n / 10) → P n) (n : Nat) : P n := by
  induction n using Nat.strongRecOn with
  | _ n ih =>
    by_cases h : n < 10
    · exact lt10 n h
    · exact ge10 n h (ih _ (div10_lt h))

theorem natDigits_ne_nil (n : Nat) : natDigits n ≠ [] := by
  rw [natDigits_eq]; split <;> simp

theorem isDigitC_add {k : Nat} (h : k < 10) : isDigitC (48 + k) = true :=
  decide_eq_true ⟨Nat.le_add_right _ _, Nat.add_le_add_left (Nat.le_of_lt_succ h) 48⟩

theorem natDigits_digits (n : Nat) : ∀ c ∈ natDigits n, isDigitC c = true := by
  induction n using natDigits_induction with
  | lt10 n h =>
    rw [natDigits_lt10 n h]
    intro c hc
    obtain rfl := List.mem_singleton.mp hc
    exact isDigitC_add h
  | ge10 n h ih =>
    rw [natDigits_ge10 n h]
    intro c hc
    rcases List.mem_append.mp hc with hc | hc
    · exact ih c hc
    · obtain rfl := List.mem_singleton.mp hc
      exact isDigitC_add (Nat.mod_lt _ (by decide))

theorem natVal_natDigits (n : Nat) : natVal (natDigits n) = n := by
  induction n using natDigits_induction with
  | lt10 n h => rw [natDigits_lt10 n h, natVal_singleton, Nat.add_sub_cancel_left]
  | ge10 n h ih =>
    rw [natDigits_ge10 n h, natVal_append, ih, natVal_singleton, Nat.add_sub_cancel_left]
    exact Nat.div_add_mod' n 10

theorem natDigits_length_mono {a b : Nat} (h : a ≤ b) : (natDigits a).length ≤ (natDigits b).length := by
  induction b using natDigits_induction generalizing a with
  | lt10 b hb => rw [natDigits_lt10 b hb, natDigits_lt10 a (Nat.lt_of_le_of_lt h hb)]; exact Nat.le_refl _
  | ge10 b hb ih =>
    rw [natDigits_ge10 b hb, List.length_append]
    by_cases ha : a < 10
    · rw [natDigits_lt10 a ha]; exact Nat.le_add_left _ _
    · rw [natDigits_ge10 a ha, List.length_append]
      exact Nat.add_le_add_right (ih (Nat.div_le_div_right h)) _

/-- `n < 10^k` (k ≥ 1) has at most `k` digits -/
theorem natDigits_length_le (k n : Nat) (hk : 0 < k) (h : n < 10 ^ k) : (natDigits n).length ≤ k := by
  induction n using natDigits_induction generalizing k with
  | lt10 n hn => rw [natDigits_lt10 n hn]; exact hk
  | ge10 n hn ih =>
    rw [natDigits_ge10 n hn, List.length_append]
    cases k with
    | zero => exact absurd hk (Nat.lt_irrefl 0)
    | succ k =>
      have hk' : 0 < k := by
        refine Nat.pos_of_ne_zero fun h0 => ?_
        subst h0; exact hn h
      exact Nat.succ_le_succ (ih k hk' ((Nat.div_lt_iff_lt_mul (by decide)).mpr h))

/-- a character that is no digit does not occur in a text of digits -/
theorem not_mem_digits {t : Txt} (ht : ∀ c ∈ t, isDigitC c = true) {k : Nat} (hk : isDigitC k = false) : k ∉ t :=
  fun h => by rw [ht k h] at hk; cases hk

/-! ### a run of characters satisfying `p`, followed by something that does not continue it -/

section
variable {α : Type} {p : α → Bool}

/-- `t` is empty or starts with an element failing `p` -/
def HeadNot (p : α → Bool) (t : List α) : Prop := ∀ c r, t = c :: r → p c = false

theorem headNot_nil : HeadNot p [] := by intro c r h; cases h

theorem headNot_cons {c : α} {r : List α} (h : p c = false) : HeadNot p (c :: r) := by
  intro c' r' e; cases e; exact h

theorem headNot_append {t : List α} (b : List α) (hne : t ≠ [])
    (h : ∀ c ∈ t, p c = false) : HeadNot p (t ++ b) := by
  cases t with
  | nil => exact absurd rfl hne
  | cons c r => exact headNot_cons (h c List.mem_cons_self)

theorem natDigits_headNot {p : Nat → Bool} (n : Nat) (b : Txt) (hp : ∀ c, isDigitC c = true → p c = false) :
    HeadNot p (natDigits n ++ b) :=
  headNot_append b (natDigits_ne_nil n) (fun c hc => hp c (natDigits_digits n c hc))

theorem natDigits_headNot_blank (n : Nat) (b : Txt) : HeadNot (· == 32) (natDigits n ++ b) :=
  natDigits_headNot n b fun c hc => by simpa using fun e : c = 32 => absurd (e ▸ hc) (by decide)

theorem span_append_stop (p : α → Bool) (a rest : List α) (ha : ∀ c ∈ a, p c = true)
    (hr : HeadNot p rest) : spanP p (a ++ rest) = (a, rest) := by
  induction a with
  | nil =>
    cases rest with
    | nil => rfl
    | cons c r => simp [spanP, hr c r rfl]
  | cons c cs ih =>
    have hc := ha c (by simp)
    have := ih (fun c' h' => ha c' (by simp [h']))
    simp only [List.cons_append, spanP, hc, if_true, this]

theorem spanDigits_eq (t : Txt) : spanDigits t = spanP isDigitC t := by
  induction t with
  | nil => rfl
  | cons c cs ih => simp [spanDigits, spanP, ih]

theorem spanDigits_append (ds rest : Txt) (hd : ∀ c ∈ ds, isDigitC c = true) (hr : HeadNot isDigitC rest) :
    spanDigits (ds ++ rest) = (ds, rest) := by
  rw [spanDigits_eq, span_append_stop _ _ _ hd hr]

theorem takeWhile_append_stop (p : α → Bool) (a rest : List α) (ha : ∀ c ∈ a, p c = true)
    (hr : HeadNot p rest) : (a ++ rest).takeWhile p = a := by
  rw [List.takeWhile_append_of_pos ha]
  cases rest with
  | nil => simp
  | cons c r => simp [hr c r rfl]

theorem dropWhile_append_stop (p : α → Bool) (a rest : List α) (ha : ∀ c ∈ a, p c = true)
    (hr : HeadNot p rest) : (a ++ rest).dropWhile p = rest := by
  rw [List.dropWhile_append_of_pos ha]
  cases rest with
  | nil => rfl
  | cons c r => simp [hr c r rfl]

end

theorem headNot_blank_cons {c : Nat} {r : Txt} (h : c ≠ 32) : HeadNot (· == 32) (c :: r) :=
  headNot_cons (by simpa using h)

theorem skipSpaces_append (pre t : Txt) (h : ∀ c ∈ pre, c = 32) (ht : HeadNot (· == 32) t) :
    skipSpaces (pre ++ t) = t := by
  induction pre with
  | nil =>
    cases t with
    | nil => rfl
    | cons c r =>
      rw [List.nil_append, skipSpaces]
      rintro r' ⟨⟩
      simpa using ht _ _ rfl
  | cons c cs ih =>
    obtain rfl := h c (by simp)
    rw [List.cons_append, skipSpaces]; exact ih (fun c hc => h c (by simp [hc]))

theorem skipSpaces_of_headNot (t : Txt) (h : HeadNot (· == 32) t) : skipSpaces t = t :=
  skipSpaces_append [] t (fun _ hc => nomatch hc) h

theorem parseNatPre_natDigits (n : Nat) (rest : Txt) (hr : HeadNot isDigitC rest) :
    parseNatPre (natDigits n ++ rest) = some (n, rest) := by
  unfold parseNatPre
  rw [spanDigits_append _ _ (natDigits_digits n) hr]
  simp [natVal_natDigits, natDigits_ne_nil]

/-! ### `renderShown` / `parseNum` -/

theorem fracDigits_digits (p r : Nat) : ∀ c ∈ fracDigits p r, isDigitC c = true := by
  intro c hc
  simp only [fracDigits, List.mem_append, List.mem_replicate] at hc
  rcases hc with ⟨_, hc⟩ | hc
  · subst hc; decide
  · exact natDigits_digits r c hc

theorem natVal_replicate_zero (k : Nat) : natVal (List.replicate k 48) = 0 := by
  induction k with
  | zero => rfl
  | succ k ih => rw [List.replicate_succ, ← List.singleton_append, natVal_append, ih]; simp

theorem natVal_fracDigits (p r : Nat) : natVal (fracDigits p r) = r := by
  simp [fracDigits, natVal_append, natVal_replicate_zero, natVal_natDigits]

theorem fracDigits_length (p r : Nat) (hp : 0 < p) (h : r < 10 ^ p) : (fracDigits p r).length = p := by
  have := natDigits_length_le p r hp h
  rw [fracDigits, List.length_append, List.length_replicate, Nat.sub_add_cancel this]

/-- `rest` does not continue a number: no digit, and no point -/
def NumEnd (t : Txt) : Prop := ∀ c r, t = c :: r → isDigitC c = false ∧ c ≠ 46

theorem numEnd_nil : NumEnd [] := by intro c r h; cases h
theorem numEnd_cons {c : Nat} {r : Txt} (h1 : isDigitC c = false) (h2 : c ≠ 46) : NumEnd (c :: r) := by
  intro c' r' e; cases e; exact ⟨h1, h2⟩
theorem NumEnd.noDigit {t : Txt} (h : NumEnd t) : HeadNot isDigitC t := fun c r e => (h c r e).1

theorem parseUnsigned_int (neg : Bool) (ds rest : Txt) (hne : ds ≠ []) (hd : ∀ c ∈ ds, isDigitC c = true)
    (hr : NumEnd rest) : parseUnsigned neg (ds ++ rest) = some (⟨neg, natVal ds, 0⟩, rest) := by
  unfold parseUnsigned
  rw [spanDigits_append _ _ hd hr.noDigit]
  simp only [List.isEmpty_iff, hne, if_false]
  split
  · exact absurd rfl (hr _ _ rfl).2
  · rfl

theorem parseUnsigned_frac (neg : Bool) (ds fs rest : Txt) (hne : ds ≠ []) (hd : ∀ c ∈ ds, isDigitC c = true)
    (hf : ∀ c ∈ fs, isDigitC c = true) (hr : HeadNot isDigitC rest) :
    parseUnsigned neg (ds ++ 46 :: (fs ++ rest)) = some (⟨neg, natVal (ds ++ fs), fs.length⟩, rest) := by
  unfold parseUnsigned
  rw [spanDigits_append _ _ hd (headNot_cons (by decide))]
  simp only [List.isEmpty_iff, hne, if_false, spanDigits_append _ _ hf hr]

theorem parseUnsigned_render (neg : Bool) (mant decs : Nat) (rest : Txt) (hr : NumEnd rest) :
    parseUnsigned neg (natDigits (mant / 10 ^ decs) ++
      ((if decs = 0 then [] else 46 :: fracDigits decs (mant % 10 ^ decs)) ++ rest)) =
      some (⟨neg, mant, decs⟩, rest) := by
  by_cases hd : decs = 0
  · subst hd
    rw [if_pos rfl, List.nil_append, parseUnsigned_int neg _ rest (natDigits_ne_nil _) (natDigits_digits _) hr,
      natVal_natDigits, Nat.pow_zero, Nat.div_one]
  · have hlen := fracDigits_length decs (mant % 10 ^ decs) (Nat.pos_of_ne_zero hd)
      (Nat.mod_lt _ (Nat.pow_pos (by decide)))
    rw [if_neg hd, List.cons_append, parseUnsigned_frac neg _ _ rest (natDigits_ne_nil _) (natDigits_digits _)
      (fracDigits_digits _ _) hr.noDigit, natVal_append, natVal_natDigits, natVal_fracDigits, hlen,
      Nat.div_add_mod']

/-- **a shown literal is read back exactly** (any sign, any number of digits and decimals) -/
theorem parseNum_renderShown (s : Shown) (rest : Txt) (hr : NumEnd rest) :
    parseNum (renderShown s ++ rest) = some (s, rest) := by
  obtain ⟨neg, mant, decs⟩ := s
  have h := parseUnsigned_render neg mant decs rest hr
  unfold renderShown
  cases neg with
  | true => simpa [parseNum] using h
  | false =>
    simp only [Bool.false_eq_true, if_false, List.nil_append, List.append_assoc]
    -- the first digit is no minus sign
    cases hq : natDigits (mant / 10 ^ decs) with
    | nil => exact absurd hq (natDigits_ne_nil _)
    | cons c0 r0 =>
      rw [hq] at h
      rw [List.cons_append] at h ⊢
      rw [parseNum]
      · exact h
      · rintro r ⟨⟩
        exact not_mem_digits (natDigits_digits _) (k := 45) (by decide) (by rw [hq]; exact List.mem_cons_self)

/-! ### rounding -/

/-- `roundHE` picks a neighbour of `n / d`: the lower one only if the remainder is at most half of `d`, the upper
    one only if it is at least half -/
theorem roundHE_cases (n d : Nat) :
    (roundHE n d = n / d ∧ 2 * (n % d) ≤ d) ∨ (roundHE n d = n / d + 1 ∧ d ≤ 2 * (n % d)) := by
  unfold roundHE
  by_cases h1 : 2 * (n % d) < d
  · exact .inl ⟨if_pos h1, Nat.le_of_lt h1⟩
  · rw [if_neg h1]
    by_cases h2 : d < 2 * (n % d)
    · exact .inr ⟨if_pos h2, Nat.le_of_lt h2⟩
    · rw [if_neg h2]
      by_cases h3 : n / d % 2 = 0
      · exact .inl ⟨if_pos h3, Nat.le_of_not_lt h2⟩
      · exact .inr ⟨if_neg h3, Nat.le_of_not_lt h1⟩

/-- half-even rounding returns a nearest integer: `|n/d − roundHE n d| ≤ 1/2` (on integers) -/
theorem roundHE_near (n d : Nat) (hd : 0 < d) :
    2 * (n - roundHE n d * d) ≤ d ∧ 2 * (roundHE n d * d - n) ≤ d := by
  have h := Nat.div_add_mod' n d
  have hr := Nat.mod_lt n hd
  -- with `n = m + r`, `m = n / d * d`, the two differences are `r` and `0`, or `0` and `d - r`
  rcases roundHE_cases n d with ⟨e, h2⟩ | ⟨e, h2⟩ <;> rw [e]
  · generalize n / d * d = m at *
    generalize n % d = r at *
    subst h
    rw [Nat.add_sub_cancel_left, Nat.sub_eq_zero_of_le (Nat.le_add_right m r)]
    exact ⟨h2, Nat.zero_le _⟩
  · rw [Nat.add_mul, Nat.one_mul]
    generalize n / d * d = m at *
    generalize n % d = r at *
    subst h
    rw [Nat.add_sub_add_left, Nat.add_sub_add_left, Nat.sub_eq_zero_of_le (Nat.le_of_lt hr), Nat.mul_sub,
      Nat.sub_le_iff_le_add, Nat.two_mul d]
    exact ⟨Nat.zero_le _, Nat.add_le_add_left h2 d⟩

theorem roundHE_ge_floor (n d : Nat) : n / d ≤ roundHE n d := by
  rcases roundHE_cases n d with ⟨e, _⟩ | ⟨e, _⟩ <;> rw [e]
  · exact Nat.le_refl _
  · exact Nat.le_succ _

/-- the result is the even neighbour at an exact tie -/
theorem roundHE_tie_even (n d : Nat) (h : 2 * (n % d) = d) : roundHE n d % 2 = 0 := by
  unfold roundHE
  rw [if_neg (fun h' => Nat.ne_of_lt h' h), if_neg (fun h' => Nat.ne_of_gt h' h)]
  by_cases h3 : n / d % 2 = 0
  · rw [if_pos h3]; exact h3
  · rw [if_neg h3, Nat.add_mod, Nat.mod_two_ne_zero.mp h3]

theorem floor_le_scaled (a d p : Nat) : a / d ≤ roundHE (a * 10 ^ p) d / 10 ^ p := by
  have hpow : 0 < 10 ^ p := Nat.pow_pos (by omega)
  rw [Nat.le_div_iff_mul_le hpow]
  refine Nat.le_trans ?_ (roundHE_ge_floor _ _)
  rcases Nat.eq_zero_or_pos d with h0 | hd
  · subst h0; simp
  · rw [Nat.le_div_iff_mul_le hd]
    have := Nat.div_mul_le_self a d
    calc a / d * 10 ^ p * d = a / d * d * 10 ^ p := by
          rw [Nat.mul_assoc, Nat.mul_comm (10 ^ p), ← Nat.mul_assoc]
      _ ≤ a * 10 ^ p := Nat.mul_le_mul_right _ this

/-! ### lengths -/

theorem renderShown_length (s : Shown) :
    (renderShown s).length = (if s.neg then 1 else 0) + (natDigits (s.mant / 10 ^ s.decs)).length +
      (if s.decs = 0 then 0 else 1 + s.decs) := by
  have h3 : (if s.decs = 0 then [] else 46 :: fracDigits s.decs (s.mant % 10 ^ s.decs)).length =
      (if s.decs = 0 then 0 else 1 + s.decs) := by
    by_cases hd : s.decs = 0
    · rw [if_pos hd, if_pos hd]; rfl
    · rw [if_neg hd, if_neg hd, List.length_cons, fracDigits_length _ _ (Nat.pos_of_ne_zero hd)
        (Nat.mod_lt _ (Nat.pow_pos (by decide))), Nat.add_comm]
  unfold renderShown
  rw [List.length_append, List.length_append, h3]
  cases s.neg <;> rfl

/-- the integer part of `str(float(x))` is never longer than what `{:.pf}` prints before the point,
    so `{:w.pf}` with `w = left_len` never pads -/
theorem leftLen_add_le (x : Rat) (p : Nat) :
    leftLen x + (if p = 0 then 0 else 1 + p) ≤ (fmtFixed x p).length := by
  have hm := natDigits_length_mono (floor_le_scaled x.num.natAbs x.den p)
  unfold fmtFixed
  rw [renderShown_length]
  simp only [shown, leftLen]
  exact Nat.add_le_add_right (Nat.add_le_add_left hm _) _

theorem leftLen_le (x : Rat) (p : Nat) : leftLen x ≤ (fmtFixed x p).length :=
  Nat.le_trans (Nat.le_add_right _ _) (leftLen_add_le x p)

/-! ### padding and small parsers -/

theorem padLeft_of_le (w : Nat) (t : Txt) (h : w ≤ t.length) : padLeft w t = t := by
  simp [padLeft, spaces, Nat.sub_eq_zero_of_le h]

@[simp] theorem spaces_length (k : Nat) : (spaces k).length = k := by simp [spaces]
@[simp] theorem dashes_length (k : Nat) : (dashes k).length = k := by simp [dashes]

theorem spaces_succ (k : Nat) : spaces (k + 1) = 32 :: spaces k := by simp [spaces, List.replicate_succ]

theorem mem_spaces {c k : Nat} (h : c ∈ spaces k) : c = 32 := (List.mem_replicate.mp h).2

theorem skipSpaces_padLeft (w : Nat) (t rest : Txt) (h : HeadNot (· == 32) (t ++ rest)) :
    skipSpaces (padLeft w t ++ rest) = t ++ rest := by
  rw [padLeft, List.append_assoc, skipSpaces_append _ _ (fun c => mem_spaces) h]

/-- a right-aligned number is read: blanks, then `str(n)` up to the first non-digit -/
theorem parseNatPre_padLeft (w n : Nat) (rest : Txt) (hr : HeadNot isDigitC rest) :
    parseNatPre (skipSpaces (padLeft w (natDigits n) ++ rest)) = some (n, rest) := by
  rw [skipSpaces_padLeft _ _ _ (natDigits_headNot_blank n _), parseNatPre_natDigits _ _ hr]

theorem expectSpaces_spaces (k : Nat) (rest : Txt) : expectSpaces k (spaces k ++ rest) = some rest := by
  induction k with
  | zero => simp [spaces, expectSpaces]
  | succ k ih => rw [spaces_succ, List.cons_append, expectSpaces]; exact ih

@[simp] theorem expect_cons (c : Nat) (r : Txt) : expect c (c :: r) = some r := by simp [expect]

theorem expectTxt_append (a r : Txt) : expectTxt a (a ++ r) = some r := by
  induction a with
  | nil => rfl
  | cons c cs ih => simp [expectTxt, ih]

/-! ### `strip` only takes characters away -/

theorem lstrip_sub (t : Txt) : ∀ c ∈ lstrip t, c ∈ t := by
  fun_induction lstrip t with
  | case1 c r h ih => exact fun x hx => List.mem_cons_of_mem _ (ih x hx)
  | case2 c r h => exact fun x hx => hx
  | case3 => exact fun x hx => hx

theorem rstrip_sub (t : Txt) : ∀ c ∈ rstrip t, c ∈ t := by
  fun_induction rstrip t with
  | case1 => exact fun x hx => hx
  | case2 c cs h hw ih => exact fun x hx => nomatch hx
  | case3 c cs h hw ih =>
    intro x hx
    obtain rfl := List.mem_singleton.mp hx
    exact List.mem_cons_self
  | case4 c cs h ih =>
    intro x hx
    rcases List.mem_cons.mp hx with rfl | hx
    · exact List.mem_cons_self
    · exact List.mem_cons_of_mem _ (ih x hx)

/-! ### lines -/

theorem splitOn_ne_nil (c : Nat) (t : Txt) : splitOn c t ≠ [] := by
  induction t with
  | nil => simp [splitOn]
  | cons d r ih =>
    unfold splitOn
    split
    · simp
    · split <;> simp

theorem splitOn_no_sep (c : Nat) (l : Txt) (h : c ∉ l) : splitOn c l = [l] := by
  induction l with
  | nil => rfl
  | cons d r ih =>
    have hd : d ≠ c := fun e => h (by simp [e])
    have hr : c ∉ r := fun e => h (by simp [e])
    unfold splitOn
    rw [ih hr]; simp [hd]

theorem splitOn_cons (c d : Nat) (t : Txt) :
    splitOn c (d :: t) = (match splitOn c t with
      | [] => [[d]]
      | h :: tl => if d = c then [] :: h :: tl else (d :: h) :: tl) := by
  conv => lhs; rw [splitOn]
  cases splitOn c t <;> rfl

theorem splitOn_append_cons (c : Nat) (a b : Txt) :
    splitOn c (a ++ c :: b) = splitOn c a ++ splitOn c b := by
  induction a with
  | nil =>
    simp only [List.nil_append]
    rw [splitOn_cons]
    cases h : splitOn c b with
    | nil => exact absurd h (splitOn_ne_nil c b)
    | cons x y => simp [splitOn]
  | cons d a ih =>
    rw [List.cons_append, splitOn_cons, splitOn_cons, ih]
    cases h : splitOn c a with
    | nil => exact absurd h (splitOn_ne_nil c a)
    | cons x y => by_cases hd : d = c <;> simp [hd]

theorem splitOn_append_sep (c : Nat) (l r : Txt) (h : c ∉ l) :
    splitOn c (l ++ c :: r) = l :: splitOn c r := by
  rw [splitOn_append_cons, splitOn_no_sep c l h]; rfl

def unlines' (ls : List Txt) : Txt := ls.flatMap (fun l => l ++ [10])

theorem splitOn_unlines (ls : List Txt) (t : Txt) (h : ∀ l ∈ ls, 10 ∉ l) :
    splitOn 10 (ls.flatMap (fun l => l ++ [10]) ++ t) = ls ++ splitOn 10 t := by
  induction ls with
  | nil => simp
  | cons l ls ih =>
    simp only [List.flatMap_cons, List.append_assoc, List.cons_append, List.nil_append]
    rw [splitOn_append_sep 10 l _ (h l (by simp)), ih (fun l' hl' => h l' (by simp [hl']))]

end OsacaVerif.Fmt
