import OsacaVerif.Spec.Deps
import Mathlib.Algebra.Order.Field.Rat
import Mathlib.Tactic.Ring
import Mathlib.Data.List.Induction
import Mathlib.Algebra.BigOperators.Group.List.Basic
/-
  C04, the property's side: dependency chains over an explicit weighted edge list (`Chain`,
  `Chain.Valid`), their length as the property defines it (`Chain.len`), forward edge lists (`FwdIn`),
  and the proof that the dynamic programme `Spec.longestChain` computes the maximum chain length.  The facts about the two folds involved (`max` with a key, a table built one
  row at a time) are stated for any such fold: the code's one-pass table (`Lemmas/CpRepaired.lean`)
  is another instance.
-/
namespace OsacaVerif.Spec
open OsacaVerif

-- for `Decidable (c.Valid infos es)`
deriving instance DecidableEq for WEdge

/-! ### maxima -/

/-- Python's `max(i :: is, key=f)` as the models fold it: a member of the list with the largest key -/
theorem foldl_argmax {α : Type} (f : α → Rat) (is : List α) (i : α) :
    is.foldl (fun m x => if f m < f x then x else m) i ∈ i :: is ∧
    ∀ x ∈ i :: is, f x ≤ f (is.foldl (fun m x => if f m < f x then x else m) i) := by
  induction is generalizing i with
  | nil => exact ⟨List.mem_cons_self, fun x hx => le_of_eq (congrArg f (List.mem_singleton.mp hx))⟩
  | cons a is ih =>
    obtain ⟨hm, hge⟩ := ih (if f i < f a then a else i)
    obtain ⟨hj, hge⟩ := List.forall_mem_cons.mp hge
    have hstep : (if f i < f a then a else i) ∈ i :: a :: is ∧
        f i ≤ f (if f i < f a then a else i) ∧ f a ≤ f (if f i < f a then a else i) := by
      by_cases h : f i < f a
      · rw [if_pos h]; exact ⟨List.mem_cons_of_mem _ List.mem_cons_self, le_of_lt h, le_refl _⟩
      · rw [if_neg h]; exact ⟨List.mem_cons_self, le_refl _, not_lt.mp h⟩
    rw [List.foldl_cons]
    refine ⟨?_, List.forall_mem_cons.mpr ⟨le_trans hstep.2.1 hj,
      List.forall_mem_cons.mpr ⟨le_trans hstep.2.2 hj, hge⟩⟩⟩
    rcases List.mem_cons.mp hm with h | h
    · rw [h]; exact hstep.1
    · exact List.mem_cons_of_mem _ (List.mem_cons_of_mem _ h)

theorem maxR_eq_some_iff {l : List Rat} {m : Rat} : maxR l = some m ↔ m ∈ l ∧ ∀ x ∈ l, x ≤ m := by
  cases l with
  | nil => simp [maxR]
  | cons v vs =>
    obtain ⟨hm, hge⟩ := foldl_argmax id vs v
    refine ⟨fun h => Option.some.inj h ▸ ⟨hm, hge⟩, fun ⟨hm', hge'⟩ => congrArg some ?_⟩
    exact le_antisymm (hge' _ hm) (hge m hm')

theorem maxR_of_mem (l : List Rat) (x : Rat) (hx : x ∈ l) : ∃ m, maxR l = some m ∧ x ≤ m := by
  cases l with
  | nil => simp at hx
  | cons v vs => exact ⟨_, rfl, (foldl_argmax id vs v).2 x hx⟩

theorem maxOr0_ge (l : List Rat) (x : Rat) (hx : x ∈ l) : x ≤ maxOr0 l := by
  obtain ⟨m, hm, hle⟩ := maxR_of_mem l x hx
  simp [maxOr0, hm, hle]

/-! ### lists with distinct keys -/

theorem find?_of_nodup_key {α β : Type} [BEq β] [LawfulBEq β] (key : α → β) (l : List α)
    (h : (l.map key).Nodup) (a : α) (ha : a ∈ l) : l.find? (fun x => key x == key a) = some a := by
  induction l with
  | nil => simp at ha
  | cons b l ih =>
    simp only [List.map_cons, List.nodup_cons] at h
    rcases List.mem_cons.mp ha with rfl | ha
    · simp
    · have hne : key b ≠ key a := fun hk => h.1 (hk ▸ List.mem_map.mpr ⟨a, ha, rfl⟩)
      have : (key b == key a) = false := by simpa using hne
      rw [List.find?_cons, this]
      exact ih h.2 ha

theorem find?_of_mem_keys {α : Type} (key : α → Nat) (l : List α) (x : Nat) (hx : x ∈ l.map key) :
    ∃ t ∈ l, key t = x ∧ l.find? (fun t => key t == x) = some t := by
  obtain ⟨t0, ht0, hk0⟩ := List.mem_map.mp hx
  cases hf : l.find? (fun t => key t == x) with
  | none => exact absurd hk0 (by simpa using List.find?_eq_none.mp hf t0 ht0)
  | some t => exact ⟨t, List.mem_of_find?_eq_some hf, by simpa using List.find?_some hf, rfl⟩

theorem nodup_of_sorted (l : List Nat) (hs : l.Pairwise (· < ·)) : l.Nodup :=
  hs.imp (fun h => Nat.ne_of_lt h)

theorem idxOf_lt_mid {pre post : List Nat} {a x : Nat} (hnd : (pre ++ a :: post).Nodup) :
    (pre ++ a :: post).idxOf x < (pre ++ a :: post).idxOf a ↔ x ∈ pre := by
  have ha : a ∉ pre := fun hin => (List.nodup_append.mp hnd).2.2 _ hin a (by simp) rfl
  rw [List.idxOf_append, List.idxOf_append, if_neg ha, List.idxOf_cons_self]
  split
  · rename_i hx
    exact ⟨fun _ => hx, fun _ => Nat.zero_add _ ▸ List.idxOf_lt_length_iff.mpr hx⟩
  · rename_i hx
    exact ⟨fun h => absurd h (by omega), fun h => absurd h hx⟩

/-! ### tables built one row at a time -/

/-- a table built one row at a time, each row computed from the rows before it (the shape of the
    dynamic programme `longestChain` and of `LCD.cpTable`) -/
def rowsOf {α β : Type} (row : List β → α → β) (l : List α) : List β :=
  l.foldl (fun acc a => acc ++ [row acc a]) []

section rowsOf
variable {α β : Type} (row : List β → α → β)

theorem rowsOf_snoc (pre : List α) (a : α) :
    rowsOf row (pre ++ [a]) = rowsOf row pre ++ [row (rowsOf row pre) a] := by
  simp [rowsOf, List.foldl_append]

theorem rowsOf_split (pre : List α) (a : α) (post : List α) :
    ∃ tl, rowsOf row (pre ++ a :: post) = rowsOf row pre ++ row (rowsOf row pre) a :: tl := by
  induction post using List.reverseRecOn with
  | nil => exact ⟨[], rowsOf_snoc row pre a⟩
  | append_singleton post b ih =>
    obtain ⟨tl, h⟩ := ih
    refine ⟨tl ++ [row (rowsOf row (pre ++ a :: post)) b], ?_⟩
    rw [show pre ++ a :: (post ++ [b]) = (pre ++ a :: post) ++ [b] by simp, rowsOf_snoc, h]
    simp

theorem rowsOf_map {γ : Type} (key : β → γ) (kf : α → γ) (h : ∀ acc a, key (row acc a) = kf a)
    (l : List α) : (rowsOf row l).map key = l.map kf := by
  induction l using List.reverseRecOn with
  | nil => rfl
  | append_singleton pre a ih => rw [rowsOf_snoc]; simp [ih, h]

/-- a property of the rows is established row by row, each from the rows before it -/
theorem rowsOf_forall (l : List α) (P : β → Prop)
    (hstep : ∀ pre a post, l = pre ++ a :: post → (∀ t ∈ rowsOf row pre, P t) →
      P (row (rowsOf row pre) a)) :
    ∀ t ∈ rowsOf row l, P t := by
  suffices h : ∀ pre post, l = pre ++ post → ∀ t ∈ rowsOf row pre, P t from h l [] (by simp)
  intro pre
  induction pre using List.reverseRecOn with
  | nil => intro post _ t ht; simp [rowsOf] at ht
  | append_singleton pre a ih =>
    intro post hsplit t ht
    have hsplit' : l = pre ++ a :: post := by simpa using hsplit
    rw [rowsOf_snoc, List.mem_append, List.mem_singleton] at ht
    rcases ht with ht | rfl
    · exact ih (a :: post) hsplit' t ht
    · exact hstep pre a post hsplit' (ih (a :: post) hsplit')

end rowsOf

/-! ### the table of the dynamic programme -/

abbrev Table := List (Nat × Option Rat × Rat)

/-- best `loadStage i₁ + Σ w` over chains with ≥ 2 members ending at `line`, from the table so far -/
def extOf (es : List WEdge) (acc : Table) (line : Nat) : Option Rat :=
  maxR (es.filterMap fun e =>
    if e.dst == line then (acc.find? (·.1 == e.src)).map (fun t => t.2.2 + e.w) else none)

/-- best value a chain continuing from a node starts with -/
def bOf (ext : Option Rat) (stage : Rat) : Rat :=
  match ext with
  | some x => if x < stage then stage else x
  | none => stage

def rowT (es : List WEdge) (acc : Table) (i : LatInfo) : Nat × Option Rat × Rat :=
  (i.line, extOf es acc i.line, bOf (extOf es acc i.line) i.loadStage)

def table (infos : List LatInfo) (es : List WEdge) : Table := rowsOf (rowT es) infos

theorem longestChain_eq (infos : List LatInfo) (es : List WEdge) :
    longestChain infos es = maxOr0 (infos.map fun i => endValue (table infos es) i) := rfl

theorem table_snoc (pre : List LatInfo) (i : LatInfo) (es : List WEdge) :
    table (pre ++ [i]) es = table pre es ++ [rowT es (table pre es) i] :=
  rowsOf_snoc (rowT es) pre i

theorem table_keys (infos : List LatInfo) (es : List WEdge) :
    (table infos es).map (·.1) = infos.map (·.line) :=
  rowsOf_map (rowT es) (·.1) (·.line) (fun _ _ => rfl) infos

theorem table_forall (infos : List LatInfo) (es : List WEdge) (P : Nat × Option Rat × Rat → Prop)
    (hstep : ∀ pre i post, infos = pre ++ i :: post → i ∈ infos → (∀ t ∈ table pre es, P t) →
      P (rowT es (table pre es) i)) :
    ∀ t ∈ table infos es, P t :=
  rowsOf_forall (rowT es) infos P fun pre i post hsplit =>
    hstep pre i post hsplit (hsplit ▸ List.mem_append_right _ List.mem_cons_self)

theorem extOf_eq_some {es : List WEdge} {acc : Table} {line : Nat} {x : Rat}
    (h : extOf es acc line = some x) :
    ∃ e ∈ es, e.dst = line ∧ ∃ t, acc.find? (·.1 == e.src) = some t ∧ t.2.2 + e.w = x := by
  have hmem := (maxR_eq_some_iff.mp h).1
  simpa only [List.mem_filterMap, Option.ite_none_right_eq_some, Option.map_eq_some_iff,
    beq_iff_eq] using hmem

theorem le_extOf {es : List WEdge} {acc : Table} {line : Nat} {e : WEdge} {t : Nat × Option Rat × Rat}
    (he : e ∈ es) (hd : e.dst = line) (ht : acc.find? (·.1 == e.src) = some t) :
    ∃ m, extOf es acc line = some m ∧ t.2.2 + e.w ≤ m :=
  maxR_of_mem _ _ (List.mem_filterMap.mpr ⟨e, he, by simp [hd, ht]⟩)

theorem bOf_ge_stage (ext : Option Rat) (stage : Rat) : stage ≤ bOf ext stage := by
  cases ext with
  | none => exact le_refl _
  | some x =>
    by_cases h : x < stage
    · exact le_of_eq (if_pos h).symm
    · exact le_trans (not_lt.mp h) (le_of_eq (if_neg h).symm)

theorem bOf_ge_ext (x stage : Rat) : x ≤ bOf (some x) stage := by
  by_cases h : x < stage
  · exact le_trans (le_of_lt h) (le_of_eq (if_pos h).symm)
  · exact le_of_eq (if_neg h).symm

theorem bOf_cases (ext : Option Rat) (stage : Rat) : bOf ext stage = stage ∨ ext = some (bOf ext stage) := by
  unfold bOf
  cases ext with
  | none => exact Or.inl rfl
  | some x => simp only; split <;> simp

theorem endValue_of_find {tbl : Table} {i : LatInfo} {t : Nat × Option Rat × Rat}
    (h : tbl.find? (·.1 == i.line) = some t) :
    endValue tbl i = match t.2.1 with | some x => max i.lat (x + i.lat) | none => i.lat := by
  unfold endValue
  rw [h]
  obtain ⟨l, ext, b⟩ := t
  cases ext with
  | none => rfl
  | some x =>
    by_cases hx : i.lat < x + i.lat
    · exact (if_pos hx).trans (max_eq_right (le_of_lt hx)).symm
    · exact (if_neg hx).trans (max_eq_left (not_lt.mp hx)).symm

/-! ### chains -/

/-- a dependency chain: a start line and the edges followed from there -/
structure Chain where
  start : Nat
  edges : List WEdge
  deriving Repr, DecidableEq

/-- consecutive edges are linked: each starts where the previous one ended -/
def linked : Nat → List WEdge → Bool
  | _, [] => true
  | s, e :: es => e.src == s && linked e.dst es

/-- the last line of a chain -/
def endOf : Nat → List WEdge → Nat
  | s, [] => s
  | _, e :: es => endOf e.dst es

theorem linked_snoc (s : Nat) (es : List WEdge) (e : WEdge) :
    linked s (es ++ [e]) = true ↔ linked s es = true ∧ e.src = endOf s es := by
  induction es generalizing s with
  | nil => simp [linked, endOf]
  | cons a es ih => simp [linked, endOf, ih, and_assoc]

theorem endOf_snoc (s : Nat) (es : List WEdge) (e : WEdge) : endOf s (es ++ [e]) = e.dst := by
  induction es generalizing s with
  | nil => simp [endOf]
  | cons a es ih => simp [endOf, ih]

def latOf (infos : List LatInfo) (l : Nat) : Rat :=
  match infos.find? (·.line == l) with | some i => i.lat | none => 0

def stageOf (infos : List LatInfo) (l : Nat) : Rat :=
  match infos.find? (·.line == l) with | some i => i.loadStage | none => 0

/-- a genuine chain of the graph: it starts at an instruction, follows edges of the edge list, and
    stays within the instructions -/
def Chain.Valid (infos : List LatInfo) (es : List WEdge) (c : Chain) : Prop :=
  (∃ i ∈ infos, i.line = c.start) ∧ (∀ e ∈ c.edges, e ∈ es ∧ ∃ i ∈ infos, i.line = e.dst) ∧
  linked c.start c.edges = true

instance (infos : List LatInfo) (es : List WEdge) (c : Chain) : Decidable (c.Valid infos es) := by
  unfold Chain.Valid; infer_instance

/-- `loadStage i₁ + Σ w`: what a chain contributes before the latency of its last member -/
def Chain.pv (infos : List LatInfo) (c : Chain) : Rat :=
  stageOf infos c.start + (c.edges.map (·.w)).sum

/-- **chain length as the property defines it**: `chainLen [i] = lat i`,
    `chainLen (i₁ … iₙ) = loadStage i₁ + Σ w(iₖ, iₖ₊₁) + lat iₙ` -/
def Chain.len (infos : List LatInfo) (c : Chain) : Rat :=
  match c.edges with
  | [] => latOf infos c.start
  | _ :: _ => c.pv infos + latOf infos (endOf c.start c.edges)

theorem Chain.len_of_ne (infos : List LatInfo) (c : Chain) (h : c.edges ≠ []) :
    c.len infos = c.pv infos + latOf infos (endOf c.start c.edges) := by
  unfold Chain.len
  cases hc : c.edges with
  | nil => exact absurd hc h
  | cons a as => rfl

theorem single_valid (infos : List LatInfo) (es : List WEdge) (i : LatInfo) (hi : i ∈ infos) :
    (Chain.mk i.line []).Valid infos es :=
  ⟨⟨i, hi, rfl⟩, by simp, rfl⟩

theorem Chain.valid_snoc {infos : List LatInfo} {es : List WEdge} {s : Nat} {es' : List WEdge} {e : WEdge} :
    (Chain.mk s (es' ++ [e])).Valid infos es ↔
      (Chain.mk s es').Valid infos es ∧ e ∈ es ∧ (∃ i ∈ infos, i.line = e.dst) ∧ e.src = endOf s es' := by
  constructor
  · rintro ⟨hs, he, hl⟩
    obtain ⟨hl', hsrc⟩ := (linked_snoc _ _ _).mp hl
    exact ⟨⟨hs, fun f hf => he f (List.mem_append_left _ hf), hl'⟩, (he e (by simp)).1,
      (he e (by simp)).2, hsrc⟩
  · rintro ⟨⟨hs, he, hl⟩, hin, hd, hsrc⟩
    refine ⟨hs, fun f hf => ?_, (linked_snoc _ _ _).mpr ⟨hl, hsrc⟩⟩
    rcases List.mem_append.mp hf with hf | hf
    · exact he f hf
    · rw [List.mem_singleton.mp hf]; exact ⟨hin, hd⟩

theorem Chain.pv_snoc (infos : List LatInfo) (s : Nat) (es' : List WEdge) (e : WEdge) :
    (Chain.mk s (es' ++ [e])).pv infos = (Chain.mk s es').pv infos + e.w := by
  simp only [Chain.pv, List.map_append, List.sum_append, List.map_cons, List.map_nil, List.sum_cons,
    List.sum_nil]
  ring

theorem Chain.end_mem (infos : List LatInfo) (es : List WEdge) (c : Chain) (h : c.Valid infos es) :
    ∃ i ∈ infos, i.line = endOf c.start c.edges := by
  obtain ⟨hs, he, _⟩ := h
  rcases List.eq_nil_or_concat c.edges with hnil | ⟨es', e, hc⟩
  · rw [hnil]; exact hs
  · rw [hc, List.concat_eq_append, endOf_snoc]
    exact (he e (by rw [hc]; simp)).2

theorem latOf_eq (infos : List LatInfo) (hnd : (infos.map (·.line)).Nodup) (i : LatInfo) (hi : i ∈ infos) :
    latOf infos i.line = i.lat := by
  unfold latOf
  rw [find?_of_nodup_key (·.line) infos hnd i hi]

theorem stageOf_eq (infos : List LatInfo) (hnd : (infos.map (·.line)).Nodup) (i : LatInfo) (hi : i ∈ infos) :
    stageOf infos i.line = i.loadStage := by
  unfold stageOf
  rw [find?_of_nodup_key (·.line) infos hnd i hi]

/-! ### forward edge lists -/

/-- every edge between two instructions points forward in the order of `infos` -/
def FwdIn (infos : List LatInfo) (es : List WEdge) : Prop :=
  ∀ e ∈ es, e.src ∈ infos.map (·.line) → e.dst ∈ infos.map (·.line) →
    (infos.map (·.line)).idxOf e.src < (infos.map (·.line)).idxOf e.dst

instance (infos : List LatInfo) (es : List WEdge) : Decidable (FwdIn infos es) := by
  unfold FwdIn; infer_instance

theorem FwdIn.split {infos : List LatInfo} {es : List WEdge} (h : FwdIn infos es)
    (hnd : (infos.map (·.line)).Nodup) {pre post : List LatInfo} {i : LatInfo}
    (hsplit : infos = pre ++ i :: post) {e : WEdge} (he : e ∈ es) (hd : e.dst = i.line)
    (hs : e.src ∈ infos.map (·.line)) : e.src ∈ pre.map (·.line) := by
  have hlt := h e he hs (by
    rw [hd, hsplit]; exact List.mem_map_of_mem (List.mem_append_right _ List.mem_cons_self))
  rw [hsplit, List.map_append, List.map_cons] at hlt hnd
  exact (idxOf_lt_mid hnd).mp (hd ▸ hlt)

/-- the situation of OSACA: lines strictly increasing and every edge goes to a larger line -/
theorem fwdIn_of_sorted (infos : List LatInfo) (es : List WEdge)
    (hs : (infos.map (·.line)).Pairwise (· < ·)) (he : ∀ e ∈ es, e.src < e.dst) : FwdIn infos es := by
  intro e hin ha hb
  obtain ⟨pre, post, hsplit⟩ := List.append_of_mem hb
  rw [hsplit] at hs ha ⊢
  refine (idxOf_lt_mid (nodup_of_sorted _ hs)).mpr ?_
  rcases List.mem_append.mp ha with ha | ha
  · exact ha
  · have hge : ∀ x ∈ e.dst :: post, e.dst ≤ x := by
      intro x hx
      rcases List.mem_cons.mp hx with rfl | hx
      · exact le_refl _
      · exact Nat.le_of_lt (List.rel_of_pairwise_cons (List.pairwise_append.mp hs).2.1 hx)
    have := hge _ ha
    have := he e hin
    omega

/-! ### the invariant: every table entry is sound and complete -/

/-- soundness of a table entry: its values are the `pv` of genuine chains ending at its line -/
def EntrySound (infos : List LatInfo) (es : List WEdge) (t : Nat × Option Rat × Rat) : Prop :=
  (∀ x, t.2.1 = some x → ∃ c : Chain, c.Valid infos es ∧ c.edges ≠ [] ∧
      endOf c.start c.edges = t.1 ∧ c.pv infos = x) ∧
  (∃ c : Chain, c.Valid infos es ∧ endOf c.start c.edges = t.1 ∧ c.pv infos = t.2.2)

/-- completeness of a table entry: it dominates the `pv` of every genuine chain ending at its line -/
def EntryComplete (infos : List LatInfo) (es : List WEdge) (t : Nat × Option Rat × Rat) : Prop :=
  ∀ c : Chain, c.Valid infos es → endOf c.start c.edges = t.1 →
    c.pv infos ≤ t.2.2 ∧ (c.edges ≠ [] → ∃ x, t.2.1 = some x ∧ c.pv infos ≤ x)

/-- the chain behind a table value is the chain behind the value it was computed from, extended by
    the edge it came along; the chain behind `b` is that one or the instruction alone -/
theorem table_sound (infos : List LatInfo) (es : List WEdge) (hnd : (infos.map (·.line)).Nodup) :
    ∀ t ∈ table infos es, EntrySound infos es t := by
  apply table_forall
  intro pre i post hsplit hi hT
  have hext : ∀ x, extOf es (table pre es) i.line = some x → ∃ c : Chain, c.Valid infos es ∧
      c.edges ≠ [] ∧ endOf c.start c.edges = i.line ∧ c.pv infos = x := by
    intro x hx
    obtain ⟨e, he, hd, t, hfind, rfl⟩ := extOf_eq_some hx
    obtain ⟨_, c', hv', hend', hpv'⟩ := hT t (List.mem_of_find?_eq_some hfind)
    have hkey : t.1 = e.src := by simpa using List.find?_some hfind
    exact ⟨⟨c'.start, c'.edges ++ [e]⟩,
      Chain.valid_snoc.mpr ⟨hv', he, ⟨i, hi, hd.symm⟩, by rw [hend', hkey]⟩,
      List.append_ne_nil_of_right_ne_nil _ (List.cons_ne_nil _ _),
      by rw [endOf_snoc, hd], by rw [Chain.pv_snoc, hpv']⟩
  refine ⟨hext, ?_⟩
  rcases bOf_cases (extOf es (table pre es) i.line) i.loadStage with h | h
  · refine ⟨⟨i.line, []⟩, single_valid infos es i hi, rfl, ?_⟩
    rw [show (rowT es (table pre es) i).2.2 = i.loadStage from h]
    exact (add_zero _).trans (stageOf_eq infos hnd i hi)
  · obtain ⟨c, hv, _, hend, hpv⟩ := hext _ h
    exact ⟨c, hv, hend, hpv⟩

/-- a chain ending at a line is the instruction alone, or a chain ending at an earlier line (edges
    point forward) extended by an edge: the row of that line dominates it, and `ext` the extension -/
theorem table_complete (infos : List LatInfo) (es : List WEdge) (hnd : (infos.map (·.line)).Nodup)
    (hfwd : FwdIn infos es) : ∀ t ∈ table infos es, EntryComplete infos es t := by
  apply table_forall
  intro pre i post hsplit hi hT c hv hend
  obtain ⟨s, edges⟩ := c
  change endOf s edges = i.line at hend
  rcases List.eq_nil_or_concat edges with rfl | ⟨es', e, rfl⟩
  · have hpv : (Chain.mk s []).pv infos = i.loadStage := by
      rw [show s = i.line from hend]
      exact (add_zero _).trans (stageOf_eq infos hnd i hi)
    exact ⟨hpv ▸ bOf_ge_stage _ _, fun h => absurd rfl h⟩
  · rw [List.concat_eq_append] at hv hend ⊢
    rw [endOf_snoc] at hend
    obtain ⟨hv', he, _, hsrc⟩ := Chain.valid_snoc.mp hv
    obtain ⟨j, hj, hjl⟩ := Chain.end_mem infos es _ hv'
    have hpre : e.src ∈ (table pre es).map (·.1) := by
      rw [table_keys]
      exact hfwd.split hnd hsplit he hend (hsrc ▸ List.mem_map.mpr ⟨j, hj, hjl⟩)
    obtain ⟨t, ht, htk, hfind⟩ := find?_of_mem_keys (fun t : Nat × Option Rat × Rat => t.1) _ _ hpre
    obtain ⟨m, hm, hmle⟩ := le_extOf he hend hfind
    have hle := (hT t ht ⟨s, es'⟩ hv' (by rw [htk, hsrc])).1
    have hb := bOf_ge_ext m i.loadStage
    rw [Chain.pv_snoc]
    simp only [rowT, hm]
    have hm' := le_trans (add_le_add_left hle e.w) hmle
    exact ⟨le_trans hm' hb, fun _ => ⟨m, rfl, hm'⟩⟩

/-! ### the dynamic programme computes the maximum -/

theorem entry_of_info (infos : List LatInfo) (es : List WEdge) (j : LatInfo) (hj : j ∈ infos) :
    ∃ t ∈ table infos es, t.1 = j.line ∧ (table infos es).find? (·.1 == j.line) = some t :=
  find?_of_mem_keys (fun t : Nat × Option Rat × Rat => t.1) _ _ (by rw [table_keys]; exact List.mem_map.mpr ⟨j, hj, rfl⟩)

/-- **the DP dominates every genuine chain** -/
theorem longestChain_ge (infos : List LatInfo) (es : List WEdge) (hnd : (infos.map (·.line)).Nodup)
    (hfwd : FwdIn infos es) (c : Chain) (hv : c.Valid infos es) :
    c.len infos ≤ longestChain infos es := by
  obtain ⟨j, hj, hjl⟩ := Chain.end_mem infos es c hv
  obtain ⟨t, ht, htk, hfind⟩ := entry_of_info infos es j hj
  have hcomp := table_complete infos es hnd hfwd t ht c hv (by rw [htk, hjl])
  have hlat : latOf infos (endOf c.start c.edges) = j.lat := by rw [← hjl]; exact latOf_eq infos hnd j hj
  rw [longestChain_eq]
  refine le_trans ?_ (maxOr0_ge _ (endValue (table infos es) j) (List.mem_map.mpr ⟨j, hj, rfl⟩))
  rw [endValue_of_find hfind]
  by_cases hnil : c.edges = []
  · have hlen : c.len infos = j.lat := by
      unfold Chain.len
      rw [hnil] at hlat ⊢
      exact hlat
    rw [hlen]
    split
    · exact le_max_left _ _
    · exact le_refl _
  · obtain ⟨x, hx, hle⟩ := hcomp.2 hnil
    rw [Chain.len_of_ne infos c hnil, hlat, hx]
    exact le_trans (add_le_add_left hle _) (le_max_right _ _)

theorem lat_le_longestChain (infos : List LatInfo) (es : List WEdge) (i : LatInfo) (hi : i ∈ infos) :
    i.lat ≤ longestChain infos es := by
  obtain ⟨t, _, _, hfind⟩ := entry_of_info infos es i hi
  rw [longestChain_eq]
  refine le_trans ?_ (maxOr0_ge _ _ (List.mem_map_of_mem hi))
  rw [endValue_of_find hfind]
  split
  · exact le_max_left _ _
  · exact le_refl _

/-- **the DP value is the length of a genuine chain** (needs no forwardness) -/
theorem longestChain_attained (infos : List LatInfo) (es : List WEdge)
    (hnd : (infos.map (·.line)).Nodup) (hne : infos ≠ []) :
    ∃ c : Chain, c.Valid infos es ∧ c.len infos = longestChain infos es := by
  obtain ⟨j0, hj0⟩ := List.exists_mem_of_ne_nil _ hne
  obtain ⟨m, hm, _⟩ := maxR_of_mem _ _ (List.mem_map.mpr ⟨j0, hj0, rfl⟩ :
    endValue (table infos es) j0 ∈ infos.map fun i => endValue (table infos es) i)
  obtain ⟨j, hj, hval⟩ := List.mem_map.mp (maxR_eq_some_iff.mp hm).1
  rw [longestChain_eq, maxOr0, hm, Option.getD_some, ← hval]
  obtain ⟨t, ht, htk, hfind⟩ := entry_of_info infos es j hj
  have hsingle : ∃ c : Chain, c.Valid infos es ∧ c.len infos = j.lat :=
    ⟨⟨j.line, []⟩, single_valid infos es j hj, by simp [Chain.len, latOf_eq infos hnd j hj]⟩
  rw [endValue_of_find hfind]
  split
  · rename_i x hx
    rcases max_choice j.lat (x + j.lat) with h | h
    · rw [h]; exact hsingle
    · obtain ⟨c, hv, hnn, hend, hpv⟩ := (table_sound infos es hnd t ht).1 x hx
      exact ⟨c, hv, by rw [h, Chain.len_of_ne infos c hnn, hpv, hend, htk, latOf_eq infos hnd j hj]⟩
  · exact hsingle

theorem longestChain_nil (es : List WEdge) : longestChain [] es = 0 := by
  simp [longestChain_eq, maxOr0, maxR]

end OsacaVerif.Spec
