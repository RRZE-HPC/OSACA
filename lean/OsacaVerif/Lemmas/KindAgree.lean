import OsacaVerif.Model.Match
import OsacaVerif.Spec.KindAgree
import OsacaVerif.Lemmas.Text
/-
  The matcher (`Match.checkOperand`) decides kind agreement (`Spec.KindAgree`) on the domain of the
  parsers and of the entry schema; the function `Spec.kindAgreeB` is the relation `Spec.KindAgree`.
  In front, two facts about the matcher alone: matched lists have equal length, only a memory pattern matches a
  memory operand.
-/
namespace OsacaVerif.Match
open OsacaVerif OsacaVerif.Text OsacaVerif.Operand

theorem matchOperands_length (isa : Isa) (es : List EOperand) (os : List POperand)
    (h : matchOperands isa es os = true) : es.length = os.length := by
  fun_induction matchOperands isa es os with
  | case1 => rfl
  | case2 e es o os ih => exact congrArg (· + 1) (ih (Bool.and_eq_true_iff.mp h).2)
  | case3 => cases h

theorem checkOperand_mem (isa : Isa) (e : EOperand) (m : PMem) (h : checkOperand isa e (.mem m) = true) :
    ∃ b off i s pre post, e = .mem b off i s pre post := by
  cases e with
  | mem b off i s pre post => exact ⟨b, off, i, s, pre, post, rfl⟩
  | _ => cases isa <;> cases h

end OsacaVerif.Match

namespace OsacaVerif.Lemmas.KindAgree
open OsacaVerif OsacaVerif.Text OsacaVerif.Operand OsacaVerif.Match OsacaVerif.Spec

/-! ### the literals of the source are the literals of the specification -/
theorem wildcard_eq : Gen.wildcard = star := by decide
theorem gpr_eq : Gen.x86GprClass = gprClass := by decide
theorem vec_eq : Gen.vectorNames = vectorClasses := by decide
theorem immType_eq : Gen.x86ImmType = tInt := by decide
theorem offImd_eq : Gen.x86OffImd = tImd := by decide
theorem offId_eq : Gen.x86OffId = tId := by decide
theorem a64OffImd_eq : Gen.a64OffImd = tImd := by decide
theorem a64Types_eq : Gen.a64ImmTypes = a64ImmTypes := by decide
theorem scaleUnit_eq : Gen.scaleUnit = 1 := by decide
theorem unknown_eq : Gen.unknownClassMatches = true := by decide

theorem isWild_str (c : Txt) : isWild (.str c) = (c == star) := by
  simp [isWild, isStr, wildcard_eq]

theorem stem_eq (n : Txt) : x86Stem n = stem n := rfl

theorem isVector_eq (n : Txt) : RegDep.isVectorRegister n = vectorClasses.contains (stem n) := by
  simp [RegDep.isVectorRegister, vec_eq, stem]

/-- x86 register rule -/
theorem x86RegType_eq (n : Option Txt) (r : PReg) (h : (r.name != star) = true) :
    x86RegType n r = x86RegClass n r.name := by
  have h' : (r.name == star) = false := beq_eq_false_iff_ne.mpr (bne_iff_ne.mp h)
  unfold x86RegType x86RegClass
  rw [wildcard_eq, gpr_eq, isVector_eq, stem_eq, h']
  cases n with
  | none => simp
  | some c =>
    by_cases h1 : c = star
    · simp [h1]
    · have h1' : (c == star) = false := beq_eq_false_iff_ne.mpr h1
      by_cases h2 : stem r.name ∈ vectorClasses
      · simp [h1', h2]
      · simp [h1', h2]

/-- the test `parserOperand` makes of the base and of the index of a memory operand:
    `parserOperand (.mem m) = (regOkOpt m.base && regOkOpt m.index)` by unfolding -/
def regOkOpt (r : Option PReg) : Bool :=
  match r with
  | some reg => parserReg reg
  | none => true

theorem parserReg_name (r : PReg) (h : parserReg r = true) : (r.name != star) = true := by
  simp only [parserReg, Bool.and_eq_true] at h
  exact h.1.1

/-- x86 base / index rule -/
theorem x86AddrReg_eq (f : Y) (r : Option PReg) (h : regOkOpt r = true) :
    x86AddrReg f r = x86AddrField f r := by
  cases r with
  | none =>
    cases f with
    | str c => simp [x86AddrReg, x86AddrField, isWild_str]
    | _ => rfl
  | some reg =>
    have hn := parserReg_name reg h
    cases f with
    | str c =>
      simp only [x86AddrReg, x86AddrField, isWild_str, yName, x86RegType_eq _ reg hn, Option.isNone_some, Bool.false_and,
        Bool.false_or, x86RegClass]
      cases c == star <;> rfl
    | _ => simp [x86AddrReg, x86AddrField, isWild, isStr, yName, x86RegType_eq _ reg hn, x86RegClass]

theorem x86OffsetOk_eq (f : Y) (o : POff) : x86OffsetOk f o = x86OffsetField f o := by
  cases f with
  | str c => cases o <;> simp [x86OffsetOk, x86OffsetField, isWild_str, isStr, offImd_eq, offId_eq]
  | _ => cases o <;> rfl

/-- scale rule, for the scale values the entry schema allows -/
theorem scaleOk_eq (f : Y) (s : Int)
    (h : scaleSchema f = true) :
    scaleOk f s = scaleField f s := by
  cases f with
  | null => simp [scaleOk, scaleField, eqInt, isWild, isStr, scaleUnit_eq]
  | str t =>
    have : t = star := by simpa [scaleSchema] using h
    subst this
    simp [scaleOk, scaleField, eqInt, isWild, isStr, wildcard_eq]
  | num q =>
    simp only [scaleOk, scaleField, eqInt, isWild, isStr, scaleUnit_eq, Bool.or_false]
    by_cases h1 : q = (s : Rat)
    · simp [h1]
    · have h1' : (q == (s : Rat)) = false := beq_eq_false_iff_ne.mpr h1
      simp [h1', bne]
  | bool b => simp [scaleSchema] at h
  | list l => simp [scaleSchema] at h
  | map kv => simp [scaleSchema] at h

theorem a64ShapeOk_eq (es : Option Txt) (s : Txt) (h : (!s.contains 42) = true) :
    a64ShapeOk es s = (match es with
                       | some e => e == s || e.contains 42
                       | none => false) := by
  have h' : s.contains 42 = false := by simpa using h
  cases es with
  | none => rfl
  | some e =>
    simp only [a64ShapeOk, wildcard_eq, star, isInfix_singleton]
    have : (s ++ e).contains 42 = e.contains 42 := by
      simp only [List.contains_eq_mem, List.mem_append] at *
      simp [h']
    rw [this, Bool.beq_comm]

theorem a64RegType_eq (p s : Option Txt) (r : PReg) (h : parserReg r = true) :
    a64RegType p s r = (a64Prefix p r.pfx && a64Shape s r) := by
  -- with a register prefix that is not `*`, both branches of the code test "entry prefix `*` or equal" and then the shape
  have hb : ∀ a b x : Bool, (if a = true then x else if (!b) = true then false else x) = ((a || b) && x) := by
    intro a b x; cases a <;> cases b <;> rfl
  simp only [parserReg, Bool.and_eq_true] at h
  obtain ⟨⟨_, hp⟩, hs⟩ := h
  have hp' : (r.pfx == some star) = false := beq_eq_false_iff_ne.mpr (bne_iff_ne.mp hp)
  cases hsh : r.shape with
  | some rs =>
    rw [hsh] at hs
    simp only [a64RegType, a64Prefix, a64Shape, hsh, wildcard_eq, hp', Bool.false_or, a64ShapeOk_eq s rs hs, bne,
      Bool.beq_comm (a := p) (b := r.pfx)]
    exact hb _ _ _
  | none =>
    rw [hsh] at hs
    have hl : r.lanes = none := by simpa using hs
    simp only [a64RegType, a64Prefix, a64Shape, hsh, hl, wildcard_eq, hp', Bool.false_or, bne,
      Bool.beq_comm (a := p) (b := r.pfx)]
    exact hb _ _ _

theorem a64BaseOk_eq (f : Y) (r : Option PReg) : a64BaseOk f r = a64BaseField f r := by
  cases f with
  | null => cases r with
    | none => rfl
    | some reg => show (false || false || eqOptTxt reg.pfx .null) = (reg.pfx == none); cases reg.pfx <;> rfl
  | str c => cases r with
    | none => simp [a64BaseOk, a64BaseField, isWild_str]
    | some reg =>
      simp only [a64BaseOk, a64BaseField, isWild_str, Option.isNone_some, Bool.false_and, Bool.false_or]
      cases reg.pfx <;> simp [eqOptTxt, eq_comm]
  | _ => cases r with
    | none => rfl
    | some reg => cases h : reg.pfx <;> simp [a64BaseOk, a64BaseField, isWild, isStr, eqOptTxt, h]

theorem a64OffsetOk_eq (f : Y) (o : POff) : a64OffsetOk f o = a64OffsetField f o := by
  cases f with
  | str c => cases o <;> simp [a64OffsetOk, a64OffsetField, isWild_str, isStr, a64OffImd_eq]
  | _ => cases o <;> rfl

theorem a64IndexOk_eq (f : Y) (r : Option PReg) : a64IndexOk f r = a64IndexField f r := by
  cases f with
  | str c => cases r with
    | none => simp [a64IndexOk, a64IndexField, isWild_str]
    | some reg =>
      simp only [a64IndexOk, a64IndexField, isWild_str, Option.isNone_some, Bool.false_and, Bool.false_or]
      cases reg.pfx with
      | none => simp
      | some p => simp [isStr, Bool.beq_comm (a := c)]
  | _ => cases r with
    | none => rfl
    | some reg => cases h : reg.pfx <;> simp [a64IndexOk, a64IndexField, isWild, isStr, h]

theorem a64PreOk_eq (f : Y) (b : Bool)
    (h : triSchema f = true) :
    a64PreOk f b = triField f b := by
  cases f with
  | bool b' => cases b <;> cases b' <;> rfl
  | str c => cases beq_iff_eq.mp h; rfl
  | _ => cases h

theorem a64PostOk_eq (f : Y) (b : Bool)
    (h : triSchema f = true) :
    a64PostOk f b = triField f b := by
  cases f with
  | bool b' => cases b <;> cases b' <;> rfl
  | str c => cases beq_iff_eq.mp h; cases b <;> rfl
  | _ => cases h

theorem find?_isStr (t : Txt) (l : List Txt) :
    l.find? (fun ty => isStr (.str t) ty) = if l.contains t then some t else none := by
  induction l with
  | nil => rfl
  | cons a as ih =>
    rw [List.find?_cons, List.contains_cons, ih]
    show (match t == a with | true => some a | false => _) = _
    cases h : t == a
    · rfl
    · cases beq_iff_eq.mp h; rfl

theorem checkA64Rest_imm (t : Y) (o : POperand) : checkA64Rest (.imm t) o = false := by
  cases o with
  | imm ot hv hi => cases hi <;> rfl
  | _ => rfl

/-- an AArch64 immediate entry: `*` takes every immediate with a value, a known type name those of that type -/
theorem a64Imm_entry (t : Txt) (o : POperand) :
    (match a64ImmEntry (.str t) o with
     | some b => b
     | none => checkA64Rest (.imm (.str t)) o) =
    match o with
    | .imm ot hv _ => hv && (t == star || (a64ImmTypes.contains t && ot == some t))
    | _ => false := by
  rw [a64ImmEntry.eq_def, isWild_str, find?_isStr, a64Types_eq, checkA64Rest_imm]
  cases h0 : t == star <;> cases h1 : a64ImmTypes.contains t <;> cases o <;> simp [Bool.and_comm]

theorem x86MemType_eq (b off i s : Y) (m : PMem) (hm : parserOperand (.mem m) = true) (hs : scaleSchema s = true) :
    x86MemType b off i s m = x86MemShape b off i s m := by
  rw [parserOperand, Bool.and_eq_true] at hm
  rw [x86MemType, x86MemShape, x86BaseOk, x86IndexOk, x86AddrReg_eq b m.base hm.1, x86AddrReg_eq i m.index hm.2,
    x86OffsetOk_eq, scaleOk_eq s m.scale hs]

theorem a64MemType_eq (b off i s pre post : Y) (m : PMem) (hs : scaleSchema s = true) (hpre : triSchema pre = true)
    (hpost : triSchema post = true) : a64MemType b off i s pre post m = a64MemShape b off i s pre post m := by
  rw [a64MemType, a64MemShape, a64BaseOk_eq, a64OffsetOk_eq, a64IndexOk_eq, scaleOk_eq s m.scale hs,
    a64PreOk_eq pre m.pre hpre, a64PostOk_eq post m.post hpost]

theorem check_eq_kind (isa : Isa) (e : EOperand) (o : POperand)
    (ho : parserOperand o = true) (he : schemaOperand e = true) :
    checkOperand isa e o = kindAgreeB isa e o := by
  -- an immediate entry carries a type name (schema); against an operand that is no immediate both sides are `false`
  have himm : ∀ t, schemaOperand (.imm t) = true → ∃ ty, t = .str ty := by
    intro t h
    cases t with
    | str ty => exact ⟨ty, rfl⟩
    | _ => cases h
  cases o with
  | wild => cases e <;> rfl
  | reg r =>
    have hr : parserReg r = true := ho
    cases isa with
    | x86 =>
      cases e with
      | reg n p s => exact x86RegType_eq n r (parserReg_name r hr)
      | imm t => obtain ⟨ty, rfl⟩ := himm t he; rfl
      | _ => rfl
    | a64 =>
      cases e with
      | reg n p s => exact a64RegType_eq p s r hr
      | imm t => obtain ⟨ty, rfl⟩ := himm t he; rfl
      | _ => rfl
  | mem m =>
    cases isa with
    | x86 =>
      cases e with
      | mem b off i s pre post =>
        simp only [schemaOperand, Bool.and_eq_true] at he
        exact x86MemType_eq b off i s m ho he.1.1.2
      | imm t => obtain ⟨ty, rfl⟩ := himm t he; rfl
      | _ => rfl
    | a64 =>
      cases e with
      | mem b off i s pre post =>
        simp only [schemaOperand, Bool.and_eq_true] at he
        exact a64MemType_eq b off i s pre post m he.1.1.2 he.1.2 he.2
      | imm t => obtain ⟨ty, rfl⟩ := himm t he; rfl
      | _ => rfl
  | imm ot hv hi =>
    cases isa with
    | x86 =>
      cases e with
      | imm t =>
        obtain ⟨ty, rfl⟩ := himm t he
        show (ty == Gen.x86ImmType) = (false || ty == tInt)
        rw [immType_eq]; rfl
      | _ => rfl
    | a64 =>
      cases e with
      | imm t => obtain ⟨ty, rfl⟩ := himm t he; exact a64Imm_entry ty _
      | _ => cases hi <;> rfl
  | ident =>
    cases isa with
    | x86 =>
      cases e with
      | imm t => obtain ⟨ty, rfl⟩ := himm t he; rfl
      | _ => rfl
    | a64 =>
      cases e with
      | imm t => obtain ⟨ty, rfl⟩ := himm t he; exact a64Imm_entry ty _
      | _ => rfl
  | cond cc =>
    cases isa with
    | x86 => cases e <;> exact unknown_eq
    | a64 =>
      cases e with
      | imm t => obtain ⟨ty, rfl⟩ := himm t he; exact a64Imm_entry ty _
      | cond c => show (c == Gen.wildcard || c == cc) = _; rw [wildcard_eq]; rfl
      | _ => rfl
  | prfop =>
    cases isa with
    | x86 => cases e <;> exact unknown_eq
    | a64 =>
      cases e with
      | imm t => obtain ⟨ty, rfl⟩ := himm t he; exact a64Imm_entry ty _
      | _ => rfl
  | other =>
    cases isa with
    | x86 => cases e <;> exact unknown_eq
    | a64 =>
      cases e with
      | imm t => obtain ⟨ty, rfl⟩ := himm t he; exact a64Imm_entry ty _
      | _ => rfl

/-! ### the function is the relation -/

theorem kindAgree_of_b (isa : Isa) (e : EOperand) (o : POperand) (h : kindAgreeB isa e o = true) :
    KindAgree isa e o := by
  unfold kindAgreeB at h
  split at h
  · split at h
    · exact .wildReg isa _ _ _
    · cases h
  · split at h
    · rw [Bool.or_eq_true] at h
      rcases h with h | h
      · exact .x86UnknownClass e o h
      · split at h
        · exact .x86Reg _ _ _ _ h
        · exact .x86Mem _ _ _ _ _ _ _ h
        · cases beq_iff_eq.mp h; exact .x86Imm _ _ _
        · exact .x86Ident
        · cases h
    · split at h
      · rw [Bool.and_eq_true] at h; exact .a64Reg _ _ _ _ h.1 h.2
      · exact .a64Mem _ _ _ _ _ _ _ h
      · rw [Bool.and_eq_true, Bool.or_eq_true, Bool.and_eq_true] at h
        obtain ⟨rfl, h | ⟨h1, h2⟩⟩ := h
        · cases beq_iff_eq.mp h; exact .a64ImmAny _ _
        · cases beq_iff_eq.mp h2; exact .a64ImmTyped _ _ (List.contains_iff_mem.mp h1)
      · exact .a64Ident
      · cases h; exact .a64IdentImm _ _
      · exact .a64Cond _ _ (by simpa using h)
      · exact .a64Prfop
      · cases h

theorem b_of_kindAgree (isa : Isa) (e : EOperand) (o : POperand) (h : KindAgree isa e o) :
    kindAgreeB isa e o = true := by
  cases h with
  | wildReg => rfl
  | x86Reg n p s r h => exact h
  | x86Mem b off i s pre post m h => exact h
  | x86Imm => rfl
  | x86Ident => rfl
  | x86UnknownClass e o h => cases o <;> first | rfl | cases h
  | a64Reg n p s r h1 h2 => exact Bool.and_eq_true_iff.mpr ⟨h1, h2⟩
  | a64Mem b off i s pre post m h => exact h
  | a64ImmAny => rfl
  | a64ImmTyped t hi h => simp [kindAgreeB, h]
  | a64Ident => rfl
  | a64IdentImm => rfl
  | a64Cond c c' h => simpa [kindAgreeB] using h
  | a64Prfop => rfl

theorem kindAgreeB_iff (isa : Isa) (e : EOperand) (o : POperand) :
    kindAgreeB isa e o = true ↔ KindAgree isa e o :=
  ⟨kindAgree_of_b isa e o, b_of_kindAgree isa e o⟩

/-- lists: the conjunction over positions is `OperandsAgree` -/
theorem kindAgreeAll_iff (isa : Isa) (es : List EOperand) (os : List POperand) :
    kindAgreeAll isa es os = true ↔ OperandsAgree isa es os := by
  fun_induction kindAgreeAll isa es os with
  | case1 => exact ⟨fun _ => .nil, fun _ => rfl⟩
  | case2 e es o os ih =>
    rw [Bool.and_eq_true, kindAgreeB_iff, ih]
    exact ⟨fun ⟨h1, h2⟩ => .cons h1 h2, fun | .cons h1 h2 => ⟨h1, h2⟩⟩
  | case3 es os h1 h2 =>
    refine ⟨nofun, fun h => ?_⟩
    cases h with
    | nil => exact (h1 rfl rfl).elim
    | cons _ _ => exact (h2 _ _ _ _ rfl rfl).elim

theorem operandsAgree_length {isa : Isa} {es : List EOperand} {os : List POperand}
    (h : OperandsAgree isa es os) : es.length = os.length := by
  induction h with
  | nil => rfl
  | cons _ _ ih => simp [ih]

/-- the matcher on operand lists = the oracle on operand lists (parser domain, entry schema) -/
theorem matchOperands_eq (isa : Isa) (es : List EOperand) (os : List POperand)
    (ho : os.all parserOperand = true) (he : es.all schemaOperand = true) :
    matchOperands isa es os = kindAgreeAll isa es os := by
  induction es generalizing os with
  | nil => cases os <;> rfl
  | cons e es ih =>
    cases os with
    | nil => rfl
    | cons o os =>
      simp only [List.all_cons, Bool.and_eq_true] at ho he
      simp only [matchOperands, kindAgreeAll, check_eq_kind isa e o ho.1 he.1, ih os ho.2 he.2]

end OsacaVerif.Lemmas.KindAgree
