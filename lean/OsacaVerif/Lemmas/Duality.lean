import OsacaVerif.Spec.Assignment
import OsacaVerif.Lemmas.Balance
import Mathlib.Combinatorics.Hall.Finite
import Mathlib.Algebra.BigOperators.Fin
import Mathlib.Algebra.BigOperators.Group.Finset.Sigma
import Mathlib.Algebra.Order.BigOperators.Group.Finset
import Mathlib.Algebra.BigOperators.Field
import Mathlib.Data.Fintype.Sigma
/-
  Helper lemmas of C02Duality: the fractional Hall / Gale supply–demand theorem.

  * `nat_hall`  — integral version: demands `d i`, admissible sets `N i`, uniform capacity `c`;
    if every set `J` of demanders satisfies `Σ_{i∈J} d i ≤ c·|⋃_{i∈J} N i|` there is an integral
    transport plan.  Proved from Hall's marriage theorem (Mathlib) on units × slots.
  * `frac_hall` — rational version, by clearing denominators.
  * sums over lists as `Finset` sums, and a transport plan `Fin m → Fin n → ℚ` as a schedule
    (list of rows), for `Props/C02Duality.lean`.
-/
namespace OsacaVerif.Duality
open Finset

/-- **integral supply–demand theorem** (uniform capacity `c` per port) -/
theorem nat_hall {ι P : Type} [Fintype ι] [DecidableEq ι] [Fintype P] [DecidableEq P]
    (d : ι → ℕ) (N : ι → Finset P) (c : ℕ)
    (hall : ∀ J : Finset ι, ∑ i ∈ J, d i ≤ c * #(J.biUnion N)) :
    ∃ y : ι → P → ℕ, (∀ i p, p ∉ N i → y i p = 0) ∧ (∀ i, ∑ p, y i p = d i) ∧
      (∀ p, ∑ i, y i p ≤ c) := by
  -- units: `d i` copies of demander `i`; slots: `c` copies of every port
  let t : (Σ i, Fin (d i)) → Finset (P × Fin c) := fun u => N u.1 ×ˢ univ
  have hHall : ∀ A : Finset (Σ i, Fin (d i)), #A ≤ #(A.biUnion t) := by
    intro A
    have h1 : A.biUnion t = ((A.image Sigma.fst).biUnion N) ×ˢ univ := by
      ext ⟨p, k⟩
      simp only [t, mem_biUnion, mem_product, mem_univ, and_true, mem_image]
      constructor
      · rintro ⟨u, hu, hp⟩; exact ⟨u.1, ⟨u, hu, rfl⟩, hp⟩
      · rintro ⟨i, ⟨u, hu, rfl⟩, hp⟩; exact ⟨u, hu, hp⟩
    have h2 : A ⊆ (A.image Sigma.fst).sigma fun _ => univ := fun u hu =>
      mem_sigma.mpr ⟨mem_image_of_mem _ hu, mem_univ _⟩
    calc #A ≤ #((A.image Sigma.fst).sigma fun i => (univ : Finset (Fin (d i)))) := card_le_card h2
      _ = ∑ i ∈ A.image Sigma.fst, d i := by simp only [card_sigma, card_univ, Fintype.card_fin]
      _ ≤ c * #((A.image Sigma.fst).biUnion N) := hall _
      _ = #(A.biUnion t) := by rw [h1, card_product, card_univ, Fintype.card_fin, mul_comm]
  -- a matching `f` of units to slots; `y i p` counts the units of `i` matched to a slot of `p`
  obtain ⟨f, hinj, hf⟩ := (all_card_le_biUnion_card_iff_existsInjective' t).mp hHall
  refine ⟨fun i p => #{k : Fin (d i) | (f ⟨i, k⟩).1 = p}, ?_, ?_, ?_⟩
  · intro i p hp
    rw [card_eq_zero, filter_eq_empty_iff]
    rintro k - rfl
    exact hp (mem_product.mp (hf ⟨i, k⟩)).1
  · intro i
    rw [← card_eq_sum_card_fiberwise fun _ _ => mem_univ _, card_univ, Fintype.card_fin]
  · intro p
    rw [← card_sigma]
    refine (card_le_card_of_injOn (fun u => (f u).2) (fun _ _ => mem_univ _) ?_).trans_eq
      (card_fin c)
    intro u hu u' hu' he
    rw [mem_coe, mem_sigma, mem_filter] at hu hu'
    exact hinj (Prod.ext (hu.2.2.trans hu'.2.2.symm) he)

theorem exists_nat_eq_mul (q : ℚ) (hq : 0 ≤ q) (D : ℕ) (h : q.den ∣ D) :
    ∃ k : ℕ, (k : ℚ) = q * D := by
  obtain ⟨e, rfl⟩ := h
  refine ⟨q.num.toNat * e, ?_⟩
  rw [Nat.cast_mul, Nat.cast_mul, ← mul_assoc, Rat.mul_den_eq_num, ← Int.cast_natCast q.num.toNat,
    Int.toNat_of_nonneg (Rat.num_nonneg.mpr hq)]

/-- **fractional supply–demand theorem** (rational data, uniform capacity `T` per port): if every
    set `J` of demanders satisfies `Σ_{i∈J} a i ≤ T·|⋃_{i∈J} N i|`, there is a non-negative
    transport plan supported on the admissible ports, serving every demand exactly and loading
    no port beyond `T`. -/
theorem frac_hall {ι P : Type} [Fintype ι] [DecidableEq ι] [Fintype P] [DecidableEq P]
    (a : ι → ℚ) (N : ι → Finset P) (T : ℚ) (ha : ∀ i, 0 ≤ a i) (hT : 0 ≤ T)
    (hall : ∀ J : Finset ι, ∑ i ∈ J, a i ≤ T * (#(J.biUnion N) : ℚ)) :
    ∃ x : ι → P → ℚ, (∀ i p, 0 ≤ x i p) ∧ (∀ i p, p ∉ N i → x i p = 0) ∧
      (∀ i, ∑ p, x i p = a i) ∧ (∀ p, ∑ i, x i p ≤ T) := by
  -- a common denominator `D`; in units of `1/D` the data are natural numbers `c`, `d i`
  obtain ⟨D, hDpos, hDT, hDa⟩ : ∃ D : ℕ, 0 < D ∧ T.den ∣ D ∧ ∀ i, (a i).den ∣ D :=
    ⟨T.den * ∏ i, (a i).den,
      Nat.mul_pos T.den_pos
        (Nat.pos_of_ne_zero (Finset.prod_ne_zero_iff.mpr fun i _ => (a i).den_ne_zero)),
      Nat.dvd_mul_right _ _,
      fun i => Nat.dvd_trans (Finset.dvd_prod_of_mem (fun i => (a i).den) (mem_univ i))
        (Nat.dvd_mul_left _ _)⟩
  have hDq : (0 : ℚ) < D := Nat.cast_pos.mpr hDpos
  obtain ⟨c, hc⟩ := exists_nat_eq_mul T hT D hDT
  choose d hd using fun i => exists_nat_eq_mul (a i) (ha i) D (hDa i)
  obtain ⟨y, hy0, hyr, hyc⟩ := nat_hall d N c fun J => by
    rw [← Nat.cast_le (α := ℚ), Nat.cast_sum, Nat.cast_mul, hc, sum_congr rfl fun i _ => hd i,
      ← sum_mul, mul_right_comm]
    exact mul_le_mul_of_nonneg_right (hall J) hDq.le
  refine ⟨fun i p => (y i p : ℚ) / D, fun i p => div_nonneg (Nat.cast_nonneg _) hDq.le,
    fun i p hp => ?_, fun i => ?_, fun p => ?_⟩
  · show (y i p : ℚ) / D = 0
    rw [hy0 i p hp, Nat.cast_zero, zero_div]
  · show ∑ p, (y i p : ℚ) / D = a i
    rw [← sum_div, div_eq_iff hDq.ne', ← Nat.cast_sum, hyr, hd]
  · show ∑ i, (y i p : ℚ) / D ≤ T
    rw [← sum_div, div_le_iff₀ hDq, ← hc, ← Nat.cast_sum]
    exact Nat.cast_le.mpr (hyc p)

/-! ### list ↔ `Finset.sum` bridges -/

open OsacaVerif OsacaVerif.Ports OsacaVerif.Spec

theorem sum_map_eq_range {α : Type} (l : List α) (f : α → ℚ) (d : α) :
    (l.map f).sum = ∑ i ∈ range l.length, f (l.getD i d) := by
  induction l with
  | nil => rfl
  | cons a l ih =>
    rw [List.length_cons, Finset.sum_range_succ', List.map_cons, List.sum_cons, ih]
    exact add_comm _ _

theorem sum_eq_range (l : List ℚ) : l.sum = ∑ i ∈ range l.length, l.getD i 0 :=
  (congrArg List.sum l.map_id.symm).trans (sum_map_eq_range l id 0)

theorem confined_eq_range (us : List Uop) (S : List Nat) :
    confined us S = ∑ i ∈ range us.length,
      if (us.getD i default).ports.all (· ∈ S) then (us.getD i default).amount else 0 := by
  unfold confined
  rw [sum_filter_map, sum_map_eq_range _ _ default]

/-- the micro-ops indexed by `J` are among those confined to any `S` that contains their ports -/
theorem sum_le_confined (us : List Uop) (hnn : ∀ u ∈ us, 0 ≤ u.amount)
    (J : Finset (Fin us.length)) (S : List Nat) (hJ : ∀ i ∈ J, ∀ p ∈ (us.get i).ports, p ∈ S) :
    ∑ i ∈ J, (us.get i).amount ≤ confined us S := by
  rw [confined_eq_range, Finset.sum_range]
  refine le_trans (Finset.sum_le_sum fun i hi => le_of_eq ?_)
    (Finset.sum_le_sum_of_subset_of_nonneg (Finset.subset_univ J) fun i _ _ => ?_)
  · rw [List.getD_eq_getElem _ _ i.2, if_pos]
    · rfl
    · exact List.all_eq_true.mpr fun p hp => decide_eq_true (hJ i hi p hp)
  · rw [List.getD_eq_getElem _ _ i.2]
    split_ifs
    · exact hnn _ (List.getElem_mem i.2)
    · exact le_rfl

theorem totalAmount_eq_range (us : List Uop) :
    totalAmount us = ∑ i ∈ range us.length, (us.getD i default).amount :=
  sum_map_eq_range _ _ _

theorem sumOn_eq_sum (v : List ℚ) (S : List Nat) (hS : S.Nodup) :
    sumOn v S = ∑ p ∈ S.toFinset, v.getD p 0 := by
  unfold sumOn
  exact (List.sum_toFinset _ hS).symm

/-! ### schedules -/

/-- the specification's column sums and the balancer's pressure vector are the same function -/
theorem colSums_eq_pressure (n : Nat) (x : List (List ℚ)) : Spec.colSums n x = Balance.pressure n x :=
  rfl

theorem length_colSums (n : Nat) (x : List (List ℚ)) : (Spec.colSums n x).length = n := by
  rw [colSums_eq_pressure, Balance.length_pressure]

theorem getD_colSums (n : Nat) (x : List (List ℚ)) (p : Nat) (hp : p < n) :
    (Spec.colSums n x).getD p 0 = ∑ i ∈ range x.length, (x.getD i []).getD p 0 := by
  rw [colSums_eq_pressure, Balance.getD_pressure n x p hp]
  exact sum_map_eq_range x (fun r => r.getD p 0) []

section
variable {n : Nat} {us : List Uop} {x : List (List ℚ)}

theorem _root_.OsacaVerif.Spec.Assignment.getD_mem (h : Assignment n us x) (i : Nat) (hi : i < us.length) :
    x.getD i [] ∈ x := by
  have : i < x.length := h.rows ▸ hi
  rw [List.getD_eq_getElem _ _ this]
  exact List.getElem_mem _

theorem _root_.OsacaVerif.Spec.Assignment.entry_nonneg (h : Assignment n us x) (i p : Nat) :
    0 ≤ (x.getD i []).getD p 0 := by
  by_cases hi : i < x.length
  · have hm : x.getD i [] ∈ x := by
      rw [List.getD_eq_getElem _ _ hi]; exact List.getElem_mem _
    by_cases hp : p < (x.getD i []).length
    · rw [List.getD_eq_getElem _ _ hp]
      exact h.nonneg _ hm _ (List.getElem_mem _)
    · rw [List.getD_eq_default _ _ (not_lt.mp hp)]
  · rw [List.getD_eq_default x _ (not_lt.mp hi)]
    exact le_rfl

theorem _root_.OsacaVerif.Spec.Assignment.rowSum_range (h : Assignment n us x) (i : Nat) (hi : i < us.length) :
    ∑ p ∈ range n, (x.getD i []).getD p 0 = (us.getD i default).amount := by
  rw [← h.rowSum i hi, sum_eq_range, h.width _ (h.getD_mem i hi)]

/-- a schedule is a decomposition whose rows keep the balancer's invariant with `lo = 0` -/
theorem _root_.OsacaVerif.Spec.Assignment.inv (h : Assignment n us x) : Balance.Inv 0 n us x := by
  refine List.forall₂_iff_get.mpr ⟨h.rows.symm, fun i hi hi' => ?_⟩
  have hu : us.getD i default = us.get ⟨i, hi⟩ := List.getD_eq_getElem _ _ hi
  have hx : x.getD i [] = x.get ⟨i, hi'⟩ := List.getD_eq_getElem _ _ hi'
  exact ⟨h.width _ (List.get_mem _ _), hx ▸ hu ▸ h.rowSum i hi,
    fun p hp hnot => hx ▸ h.support i hi p hp (hu ▸ hnot), fun p _ => hx ▸ h.entry_nonneg i p⟩

end

section
variable {m n : Nat} (x : Fin m → Fin n → ℚ)

theorem getD_ofFn_ofFn (i : Nat) (hi : i < m) (p : Nat) (hp : p < n) :
    ((List.ofFn fun i => List.ofFn (x i)).getD i []).getD p 0 = x ⟨i, hi⟩ ⟨p, hp⟩ := by
  have h1 : (List.ofFn fun i => List.ofFn (x i)).getD i [] = List.ofFn (x ⟨i, hi⟩) := by
    rw [List.getD_eq_getElem _ _ (by rwa [List.length_ofFn]), List.getElem_ofFn]
  rw [h1, List.getD_eq_getElem _ _ (by rwa [List.length_ofFn]), List.getElem_ofFn]

theorem getD_colSums_ofFn (p : Nat) (hp : p < n) :
    (Spec.colSums n (List.ofFn fun i => List.ofFn (x i))).getD p 0 = ∑ i, x i ⟨p, hp⟩ := by
  rw [getD_colSums _ _ p hp, List.length_ofFn, Finset.sum_range]
  exact Finset.sum_congr rfl fun i _ => getD_ofFn_ofFn x i i.2 p hp

end

/-- a non-negative plan on the admissible ports that serves every micro-op is a schedule -/
theorem assignment_ofFn (n : Nat) (us : List Uop) (x : Fin us.length → Fin n → ℚ)
    (h0 : ∀ i p, 0 ≤ x i p) (hs : ∀ i (p : Fin n), (p : ℕ) ∉ (us.get i).ports → x i p = 0)
    (hr : ∀ i, ∑ p, x i p = (us.get i).amount) :
    Assignment n us (List.ofFn fun i => List.ofFn (x i)) where
  rows := List.length_ofFn
  width r hr' := by
    obtain ⟨i, rfl⟩ := (List.mem_ofFn' _ _).mp hr'
    exact List.length_ofFn
  nonneg r hr' c hc := by
    obtain ⟨i, rfl⟩ := (List.mem_ofFn' _ _).mp hr'
    obtain ⟨p, rfl⟩ := (List.mem_ofFn' _ _).mp hc
    exact h0 i p
  support i hi p hp hnot := by
    rw [getD_ofFn_ofFn x i hi p hp]
    rw [List.getD_eq_getElem us default hi] at hnot
    exact hs ⟨i, hi⟩ ⟨p, hp⟩ hnot
  rowSum i hi := by
    rw [List.getD_eq_getElem _ _ (by rwa [List.length_ofFn]), List.getD_eq_getElem _ _ hi,
      List.getElem_ofFn, List.sum_ofFn]
    exact hr ⟨i, hi⟩

theorem getD_le_maxLoad (v : List ℚ) (p : Nat) (hp : p < v.length) : v.getD p 0 ≤ maxLoad v := by
  rw [List.getD_eq_getElem _ _ hp]
  exact (le_foldl_max v 0).2 _ (List.getElem_mem _)

theorem maxLoad_nonneg (v : List ℚ) : 0 ≤ maxLoad v := (le_foldl_max v 0).1

theorem maxLoad_le_iff (v : List ℚ) (B : ℚ) : maxLoad v ≤ B ↔ 0 ≤ B ∧ ∀ c ∈ v, c ≤ B :=
  foldl_max_le_iff v 0 B

end OsacaVerif.Duality
