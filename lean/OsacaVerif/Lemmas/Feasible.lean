import OsacaVerif.Lemmas.Ports
import Mathlib.Algebra.BigOperators.Ring.List
import Mathlib.Algebra.Order.BigOperators.Group.List
/-
  Sums of the uniform shares of one micro-op over a set of ports, and `sumOn` on a whole vector.
-/
namespace OsacaVerif.Spec
open OsacaVerif OsacaVerif.Ports

theorem sumOn_nil (v : List Rat) : sumOn v [] = 0 := rfl

theorem sumOn_cons (v : List Rat) (p : Nat) (S : List Nat) :
    sumOn v (p :: S) = v.getD p 0 + sumOn v S := rfl

theorem sum_eq_sumOn_range (v : List Rat) : v.sum = sumOn v (List.range v.length) := by
  induction v with
  | nil => rfl
  | cons a v ih =>
    rw [List.length_cons, List.range_succ_eq_map, sumOn_cons, List.sum_cons, ih, sumOn, sumOn,
      List.map_map]
    rfl

theorem sum_filter_map {α : Type} (l : List α) (p : α → Bool) (f : α → Rat) :
    ((l.filter p).map f).sum = (l.map fun u => if p u then f u else 0).sum := by
  induction l with
  | nil => rfl
  | cons a l ih =>
    rw [List.filter_cons, List.map_cons, List.sum_cons, ← ih]
    cases p a
    · exact (zero_add _).symm
    · rfl

theorem sum_indicator (S : List Nat) (hS : S.Nodup) (q : Nat) :
    (S.map fun p => if q = p then (1 : Rat) else 0).sum = if q ∈ S then 1 else 0 := by
  induction S with
  | nil => rfl
  | cons a S ih =>
    obtain ⟨ha, hS'⟩ := List.nodup_cons.mp hS
    rw [List.map_cons, List.sum_cons, ih hS']
    by_cases h1 : q = a
    · subst h1
      rw [if_pos rfl, if_neg ha, if_pos List.mem_cons_self, add_zero]
    · simp only [h1, List.mem_cons, false_or, if_false, zero_add]

theorem sum_count (S : List Nat) (hS : S.Nodup) (ports : List Nat) :
    (S.map fun p => (ports.count p : Rat)).sum = ((ports.filter (· ∈ S)).length : Rat) := by
  induction ports with
  | nil => simp only [List.count_nil, Nat.cast_zero, List.map_const', List.sum_replicate, nsmul_zero,
      List.filter_nil, List.length_nil]
  | cons q qs ih =>
    have : ∀ p, ((q :: qs).count p : Rat) = (qs.count p : Rat) + (if q = p then 1 else 0) := by
      intro p
      rw [List.count_cons]
      simp only [beq_iff_eq]
      split_ifs <;> push_cast <;> rfl
    simp only [this, List.sum_map_add, ih, sum_indicator S hS q, List.filter_cons, decide_eq_true_eq]
    split_ifs
    · rw [List.length_cons, Nat.cast_succ]
    · rw [add_zero]

theorem share_nonneg (u : Uop) (p : Nat) (h1 : 0 ≤ u.cycles) (h2 : 0 ≤ u.mult) : 0 ≤ share u p :=
  mul_nonneg (Nat.cast_nonneg _) (mul_nonneg h2 (div_nonneg h1 (Nat.cast_nonneg _)))

theorem share_eq_zero (u : Uop) (p : Nat) (h : p ∉ u.ports) : share u p = 0 := by
  rw [share, List.count_eq_zero_of_not_mem h, Nat.cast_zero, zero_mul]

theorem sum_share_confined (u : Uop) (S : List Nat) (hS : S.Nodup) (hne : u.ports ≠ [])
    (hsub : ∀ p ∈ u.ports, p ∈ S) : (S.map (share u ·)).sum = u.amount := by
  have hl : (u.ports.length : Rat) ≠ 0 :=
    Nat.cast_ne_zero.mpr (mt List.length_eq_zero_iff.mp hne)
  simp only [share]
  rw [List.sum_map_mul_right, sum_count S hS,
    List.filter_eq_self.mpr fun p hp => decide_eq_true (hsub p hp), Uop.amount, mul_left_comm,
    mul_div_cancel₀ _ hl]

end OsacaVerif.Spec
