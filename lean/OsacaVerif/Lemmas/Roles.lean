import OsacaVerif.Model.Isa
import OsacaVerif.Lemmas.KindAgree
/-
  Lemmas about `Model/Isa.lean`.  Operand roles: membership and multiplicity in the lists built by `pick` / `indexed`
  (`pick` is a filtered zip, so both come from the library), Python slices with the literal bounds of the default-role
  functions, the adjacent-equality test of the zero idiom, what a successful lookup says about the entry, the
  write-back step.  Register changes: the post- and pre-indexed loops skip a prefix without such operands, and the
  two unfoldings of `regChanges` (post-indexed query; no operation) that the theorems of C03Roles start from.
-/
namespace OsacaVerif.Isa
open OsacaVerif OsacaVerif.Text OsacaVerif.Operand OsacaVerif.IsaOp

theorem getElem?_indexedFrom (k : Nat) (ops : List Opnd) (j : Nat) :
    (indexedFrom k ops)[j]? = ops[j]?.map (.op (k + j)) := by
  induction ops generalizing k j with
  | nil => rfl
  | cons a as ih =>
    cases j with
    | zero => rfl
    | succ j => simp only [indexedFrom, List.getElem?_cons_succ, ih, Nat.add_right_comm k 1 j, Nat.add_assoc]

theorem mem_indexedFrom (k : Nat) (ops : List Opnd) (x : SemOp) :
    x ∈ indexedFrom k ops ↔ ∃ j o, ops[j]? = some o ∧ x = .op (k + j) o := by
  simp only [List.mem_iff_getElem?, getElem?_indexedFrom, Option.map_eq_some_iff, eq_comm (a := x)]

theorem mem_indexed (ops : List Opnd) (i : Nat) (o : Opnd) :
    .op i o ∈ indexed ops ↔ ops[i]? = some o := by
  simp [indexed, mem_indexedFrom]

theorem hid_not_mem_indexedFrom (k : Nat) (ops : List Opnd) (h : HOp) : .hid h ∉ indexedFrom k ops := by
  simp [mem_indexedFrom]

theorem length_indexedFrom (k : Nat) (ops : List Opnd) : (indexedFrom k ops).length = ops.length := by
  induction ops generalizing k with
  | nil => rfl
  | cons a as ih => simp [indexedFrom, ih]

theorem indexedFrom_append (k : Nat) (a b : List Opnd) :
    indexedFrom k (a ++ b) = indexedFrom k a ++ indexedFrom (k + a.length) b := by
  induction a generalizing k with
  | nil => rfl
  | cons x xs ih => simp only [List.cons_append, indexedFrom, ih, List.length_cons, Nat.add_comm xs.length, Nat.add_assoc]

theorem pick_sublist (f : Role → Bool) (roles : List Role) (l : List SemOp) : (pick f roles l).Sublist l := by
  fun_induction pick f roles l with
  | case1 r rs o os hf ih => exact ih.cons_cons o
  | case2 r rs o os hf ih => exact ih.cons o
  | case3 => exact List.nil_sublist _

theorem pick_eq (f : Role → Bool) (roles : List Role) (l : List SemOp) :
    pick f roles l = ((roles.zip l).filter (fun x => f x.1)).map (·.2) := by
  induction roles generalizing l with
  | nil => rfl
  | cons r rs ih =>
    cases l with
    | nil => rfl
    | cons a as =>
      simp only [pick, ih, List.zip_cons_cons, List.filter_cons]
      split <;> rfl

theorem mem_pick_iff (f : Role → Bool) (roles : List Role) (l : List SemOp) (x : SemOp) :
    x ∈ pick f roles l ↔ ∃ (j : Nat) (r : Role), roles[j]? = some r ∧ l[j]? = some x ∧ f r = true := by
  have hz : ∀ r, (r, x) ∈ roles.zip l ↔ ∃ j : Nat, roles[j]? = some r ∧ l[j]? = some x := fun r => by
    simp only [List.mem_iff_getElem?, List.getElem?_zip_eq_some]
  simp only [pick_eq, List.mem_map, List.mem_filter, Prod.exists, exists_eq_right, hz]
  exact ⟨fun ⟨r, ⟨j, h1, h2⟩, h3⟩ => ⟨j, r, h1, h2, h3⟩, fun ⟨j, r, h1, h2, h3⟩ => ⟨r, ⟨j, h1, h2⟩, h3⟩⟩

theorem any_pick (f : Role → Bool) (roles : List Role) (l : List SemOp) (p : SemOp → Bool) :
    (pick f roles l).any p = (roles.zip l).any fun x => f x.1 && p x.2 := by
  rw [pick_eq, List.any_map, List.any_filter]
  rfl

theorem any_or {α : Type} (p q : α → Bool) (l : List α) : (l.any p || l.any q) = l.any fun x => p x || q x := by
  induction l with
  | nil => rfl
  | cons a as ih =>
    rw [List.any_cons, List.any_cons, List.any_cons, ← ih]
    cases p a <;> cases q a <;> cases as.any p <;> rfl

theorem any_pick_or (f g : Role → Bool) (roles : List Role) (l : List SemOp) (p : SemOp → Bool) :
    ((pick f roles l).any p || (pick g roles l).any p) = (pick (fun r => f r || g r) roles l).any p := by
  simp only [any_pick, any_or, Bool.and_or_distrib_right]   

theorem any_pickHidden_or (f g : Role → Bool) (hs : List (HOp × Role)) (p : SemOp → Bool) :
    ((pickHidden f hs).any p || (pickHidden g hs).any p) = (pickHidden (fun r => f r || g r) hs).any p := by
  simp only [pickHidden, List.any_map, List.any_filter, any_or, Bool.and_or_distrib_right]

theorem bor_bor_bor_comm (a b c d : Bool) : ((a || b) || (c || d)) = ((a || c) || (b || d)) := by
  cases a <;> cases b <;> cases c <;> rfl

theorem mem_pick_indexed (f : Role → Bool) (roles : List Role) (ops : List Opnd) (i : Nat) (o : Opnd) :
    .op i o ∈ pick f roles (indexed ops) ↔ ∃ r, ops[i]? = some o ∧ roles[i]? = some r ∧ f r = true := by
  simp only [indexed, mem_pick_iff, getElem?_indexedFrom, Option.map_eq_some_iff, SemOp.op.injEq, Nat.zero_add]
  constructor
  · rintro ⟨j, r, hr, ⟨_, ho, rfl, rfl⟩, hf⟩
    exact ⟨r, ho, hr, hf⟩
  · rintro ⟨r, ho, hr, hf⟩
    exact ⟨i, r, hr, ⟨o, ho, rfl, rfl⟩, hf⟩

theorem hid_not_mem_pick (f : Role → Bool) (roles : List Role) (ops : List Opnd) (h : HOp) :
    .hid h ∉ pick f roles (indexed ops) :=
  fun hm => hid_not_mem_indexedFrom 0 ops h ((pick_sublist f roles _).subset hm)

theorem mem_pickHidden (f : Role → Bool) (hs : List (HOp × Role)) (h : HOp) :
    .hid h ∈ pickHidden f hs ↔ ∃ r, (h, r) ∈ hs ∧ f r = true := by
  simp [pickHidden]

theorem op_not_mem_pickHidden (f : Role → Bool) (hs : List (HOp × Role)) (i : Nat) (o : Opnd) :
    .op i o ∉ pickHidden f hs := by
  simp [pickHidden]

/-- how often `operands[i]` occurs in a list of semantic operands -/
def occ (i : Nat) (l : List SemOp) : Nat :=
  l.countP fun x => match x with
    | .op j _ => j == i
    | _ => false

theorem occ_append (i : Nat) (a b : List SemOp) : occ i (a ++ b) = occ i a + occ i b :=
  List.countP_append

theorem occ_eq_zero_iff (i : Nat) (l : List SemOp) : occ i l = 0 ↔ ∀ o, .op i o ∉ l := by
  rw [occ, List.countP_eq_zero]
  constructor
  · intro h o ho
    simpa using h _ ho
  · intro h x hx
    cases x with
    | op j o => 
      simp only [beq_iff_eq]
      rintro rfl
      exact h o hx
    | _ => simp

theorem occ_pickHidden (i : Nat) (f : Role → Bool) (hs : List (HOp × Role)) : occ i (pickHidden f hs) = 0 :=
  (occ_eq_zero_iff i _).mpr fun o => op_not_mem_pickHidden f hs i o

theorem occ_hidden_map (i : Nat) (hs : List (HOp × Role)) : occ i (hs.map fun x => SemOp.hid x.1) = 0 :=
  (occ_eq_zero_iff i _).mpr fun o => by simp

theorem occ_indexedFrom_le (i k : Nat) (ops : List Opnd) : occ i (indexedFrom k ops) ≤ 1 := by
  induction ops generalizing k with
  | nil => exact Nat.zero_le 1
  | cons a as ih =>
    have hc : occ i (indexedFrom k (a :: as)) = occ i (indexedFrom (k + 1) as) + if k = i then 1 else 0 := by
      simp only [indexedFrom, occ, List.countP_cons, beq_iff_eq]
    rw [hc]
    split
    · next h =>
      have : occ i (indexedFrom (k + 1) as) = 0 := (occ_eq_zero_iff _ _).mpr fun o ho => by
        obtain ⟨j, _, _, hj⟩ := (mem_indexedFrom _ _ _).mp ho
        injection hj with hj
        omega
      omega
    · exact ih (k + 1)

/-- a sublist of the indexed operands holds `operands[i]` at most once -/
theorem occ_of_sublist {l : List SemOp} {k : Nat} {ops : List Opnd} (h : l.Sublist (indexedFrom k ops)) (i : Nat)
    (o : Opnd) (hm : .op i o ∈ l) : occ i l = 1 := by
  have h1 : occ i l ≤ 1 := by
    exact Nat.le_trans h.countP_le (occ_indexedFrom_le i k ops)
  have h2 : occ i l ≠ 0 := fun h0 => (occ_eq_zero_iff i l).mp h0 o hm
  omega

theorem occ_pick (f : Role → Bool) (roles : List Role) (ops : List Opnd) (i : Nat) (o : Opnd) (r : Role)
    (ho : ops[i]? = some o) (hr : roles[i]? = some r) :
    occ i (pick f roles (indexed ops)) = if f r then 1 else 0 := by
  split
  · next hf => exact occ_of_sublist (pick_sublist f roles _) i o ((mem_pick_indexed ..).mpr ⟨r, ho, hr, hf⟩)
  · next hf =>
    rw [occ_eq_zero_iff]
    intro o' hm
    obtain ⟨r', _, hr', hf'⟩ := (mem_pick_indexed ..).mp hm
    rw [hr] at hr'
    cases hr'
    exact hf hf'

theorem pySlice_0_m1 {α : Type} (l : List α) : pySlice (some 0) (some (-1)) l = l.dropLast := by
  simp [pySlice, pyBound, List.dropLast_eq_take]

theorem pySlice_m1_none {α : Type} (l : List α) : pySlice (some (-1)) none l = l.drop (l.length - 1) := by
  simp [pySlice, pyBound]

theorem pySlice_1_none {α : Type} (l : List α) : pySlice (some 1) none l = l.drop 1 := by
  cases l <;> simp [pySlice, pyBound]

theorem pySlice_none_1 {α : Type} (l : List α) : pySlice none (some 1) l = l.take 1 := by
  cases l <;> simp [pySlice, pyBound]

theorem getInstruction_some (isa : Isa) (db : List IsaEntry) (name : Txt) (ops : List POperand) (e : IsaEntry)
    (h : getInstruction isa db name ops = some e) : e ∈ db ∧ Match.matchOperands isa e.e.operands ops = true :=
  by
  unfold getInstruction at h
  have hm := List.find?_some h
  rw [Match.entryMatches, Bool.and_eq_true] at hm
  exact ⟨List.mem_of_find?_eq_some h, hm.2⟩

theorem lookup_some (isa : Isa) (db : List IsaEntry) (name : Txt) (ops : List POperand) (e : IsaEntry)
    (h : lookup isa db name ops = some e) : e ∈ db ∧ Match.matchOperands isa e.e.operands ops = true := by
  -- a hit of `lookup` is a hit of `getInstruction`, under the mnemonic or under its fall-back
  unfold lookup at h
  split at h
  · next he => exact getInstruction_some isa db name ops e (he.trans h)
  · split at h
    · next n _ => exact getInstruction_some isa db n ops e h
    · cases h

theorem op_mem_applyEntry {e : IsaEntry} {ops : List Opnd} {i : Nat} {o : Opnd}
    (h : .op i o ∈ (applyEntry e ops).src ∨ .op i o ∈ (applyEntry e ops).dst) : ops[i]? = some o := by
  unfold applyEntry at h
  split at h
  · simpa [mem_indexed] using h
  · simp only [List.mem_append, op_not_mem_pickHidden, or_false, mem_pick_indexed] at h
    rcases h with ⟨_, h, _⟩ | ⟨_, h, _⟩ <;> exact h

theorem wbOf_eq_some {x y : SemOp} (h : wbOf x = some y) :
    ∃ i o m b, x = .op i o ∧ o.p = .mem m ∧ (m.post || m.pre) = true ∧ m.base = some b ∧
      y = .wb i b m.pre m.post o.postVal := by
  unfold wbOf at h
  split at h
  · split at h
    · next hp =>
      split at h
      · next hpp =>
        split at h
        · next hb => cases h; exact ⟨_, _, _, _, rfl, hp, hpp, hb, rfl⟩
        · cases h
      · cases h
    · cases h
  · cases h

theorem wbOf_op_of_not_mem {i : Nat} {o : Opnd} (h : isMemP o.p = false) : wbOf (.op i o) = none := by
  rw [wbOf]
  split
  · next m hm => rw [hm] at h; cases h
  · rfl

theorem assignSrcDst_some (isa : Isa) (db : List IsaEntry) (name : Txt) (ops : List Opnd) :
    assignSrcDst isa db (some name) ops =
      { sem := semOf isa db name ops, hasLd := hasLoad (semOf isa db name ops),
        hasSt := hasStore (semOf isa db name ops) } := rfl

theorem assignSrcDst_sem (isa : Isa) (db : List IsaEntry) (name : Txt) (ops : List Opnd) :
    (assignSrcDst isa db (some name) ops).sem = semOf isa db name ops := rfl

theorem semOf_a64 (db : List IsaEntry) (name : Txt) (ops : List Opnd) :
    semOf .a64 db name ops = writeBack (baseSem .a64 db name ops) := rfl

theorem noMem_of_any {ops : List Opnd} (h : (ops.map (·.p)).any isMemP = false) : ∀ o ∈ ops, isMemP o.p = false :=
  fun o ho => Bool.eq_false_iff.mpr (List.any_eq_false.mp h o.p (List.mem_map_of_mem ho))

theorem pre_false_of_noMem {ops : List Opnd} (h : ∀ o ∈ ops, isMemP o.p = false) :
    ∀ o ∈ ops, ∀ m, o.p = .mem m → m.pre = false := fun o ho m hm => by
  have := h o ho
  rw [hm] at this
  cases this

/-- an error passed on is the error that was raised -/
theorem error_ne {α β : Type} {x : Except Err α} {e E : Err} (hx : x ≠ .error E) (he : x = .error e) :
    (Except.error e : Except Err β) ≠ .error E :=
  fun h => hx (he.trans (by injection h with h; rw [h]))

theorem postChange_append {pre : List Opnd} (h : ∀ x ∈ pre, ∀ m, x.p = .mem m → m.post = false) (rest : List Opnd) :
    postChange (pre ++ rest) = postChange rest := by
  induction pre with
  | nil => rfl
  | cons x xs ih =>
    have ih := ih fun y hy => h y (List.mem_cons_of_mem _ hy)
    rw [List.cons_append, postChange]
    split
    · next m hm =>
      have := h x List.mem_cons_self m hm
      split
      · next hpost => rw [this] at hpost; cases hpost
      · exact ih
    · exact ih

theorem regChanges_eq_postChange (isa : Isa) (db : List IsaEntry) (name : Txt) (ops : List Opnd) (sem : Sem) :
    regChanges isa db (some name) ops sem true = postChange ops := rfl

theorem regChanges_eq_of_operation_none (isa : Isa) (db : List IsaEntry) (name : Txt) (ops : List Opnd) (sem : Sem)
    (hop : (lookup isa db name (ops.map (·.p))).bind (·.operation) = none) :
    regChanges isa db (some name) ops sem false =
      match preIndexed false {} ops with
      | .error e => .error e
      | .ok t => .ok (dedupKeys ((destNames sem).map fun r => (r, changeOf t r))) := by
  simp only [regChanges, Bool.false_eq_true, if_false, hop, Option.isSome_none]
  cases preIndexed false {} ops with
  | error e => rfl
  | ok t => cases lookup isa db name (ops.map (·.p)) <;> rfl

theorem preIndexed_append (hasOp : Bool) (t : Track) {pre : List Opnd}
    (h : ∀ x ∈ pre, ∀ m, x.p = .mem m → m.pre = false) (rest : List Opnd) :
    preIndexed hasOp t (pre ++ rest) = preIndexed hasOp t rest := by
  induction pre with
  | nil => rfl
  | cons x xs ih =>
    have ih := ih fun y hy => h y (List.mem_cons_of_mem _ hy)
    rw [List.cons_append, preIndexed]
    split
    · next m hm => rw [h x List.mem_cons_self m hm]; exact ih
    · exact ih

theorem substituteMem_length (ops : List POperand) : (substituteMem ops).length = ops.length :=
  List.length_map _

theorem substituteMem_noMem (ops : List POperand) (h : ops.any isMemP = false) : substituteMem ops = ops := by
  rw [substituteMem]
  conv => rhs; rw [← List.map_id ops]
  refine List.map_congr_left fun o ho => ?_
  cases o with
  | mem m => cases (List.any_eq_false.mp h _ ho) rfl
  | _ => rfl

end OsacaVerif.Isa
