import OsacaVerif.Model.EndToEnd
import OsacaVerif.Lemmas.ParseX86File
import OsacaVerif.Lemmas.Pipeline
/-
  From the file text to its lines.  Which lines exist, how they are numbered, and that the per-line data of
  the file is a map over the numbered texts of a function (`lineOfText`; `lineOfText_ok_inv`: what it yields on a
  parsed line without exception) that sees the number only to store it.
  For both ISAs: `BaseParser.parse_file` is one function, the two parser models transcribe it twice
  (`ParseX86.parseFile`, `ParseA64.parseFile`); `parseFile_numbered` shows that both are the same numbering
  of the same lines with the ISA's `parse_line` applied to each.
-/
namespace OsacaVerif.EndToEnd
open OsacaVerif OsacaVerif.Text OsacaVerif.X86 OsacaVerif.ParseX86 OsacaVerif.Pipeline
open OsacaVerif.Spec.X86R (joinLines IsSplit)

/-- numbers and texts of the instruction forms `parse_file` creates (blank lines count, but yield none) -/
def numbered (s : Nat) : Nat → List Txt → List (Nat × Txt)
  | _, [] => []
  | i, l :: ls => if isBlank l then numbered s (i + 1) ls else (i + 1 + s, l) :: numbered s (i + 1) ls

/-- one parsed line with its per-instruction data, from the TEXT alone; the number is only stored -/
def lineOfText (isa : Operand.Isa) (m : Model) (num : Nat) (t : Txt) : Line :=
  match parseLineOf isa t with
  | .ok f => lineOf isa m num t f
  | .err _ => { pl := { sel := ⟨num, none, none, none, []⟩, text := t } }

theorem lineOfText_parsed {isa : Operand.Isa} {t : Txt} {f : Glue.Form} (hp : parseLineOf isa t = .ok f) (m : Model)
    (n : Nat) : lineOfText isa m n t = lineOf isa m n t f := by
  unfold lineOfText
  rw [hp]

/-- a parsed line without exception: `assign_tp_lt` answered `tp`, and the line carries `tp`'s numbers -/
theorem lineOfText_ok_inv {isa : Operand.Isa} {t : Txt} {f : Glue.Form} (hp : parseLineOf isa t = .ok f) (m : Model)
    (n : Nat) (herr : (lineOfText isa m n t).err = none) :
    ∃ sem tp, (lineOfText isa m n t).pl = { sel := f.sel n, sem := sem, text := t } ∧
      (stagesOf isa m f).tplt = .ok tp ∧ sem.tp = tp.tp ∧ sem.lat = tp.lat ∧ sem.latWoLoad = some tp.latWoLoad ∧
      sem.pressure = tp.pressure ∧ sem.used = Glue.usedMask m.mm.ports tp.uops ∧
      sem.flags = Glue.flagsOf (stagesOf isa m f).roles tp := by
  rw [lineOfText_parsed hp] at herr ⊢
  unfold lineOf at herr ⊢
  split at herr
  · next sem hs =>
    -- `semOfStages = .ok sem`: all three stage results are `.ok`
    unfold semOfStages at hs
    split at hs
    · cases hs
    · split at hs <;> cases hs
      exact ⟨_, _, rfl, ‹_›, rfl, rfl, rfl, rfl, rfl, rfl⟩
  · cases herr

/-- the lines of a file given by its lines -/
def textLines (isa : Operand.Isa) (m : Model) (ls : List Txt) : List Line :=
  (numbered 0 0 ls).map fun p => lineOfText isa m p.1 p.2

theorem fileLoop_numbered (p : Txt → Res) (s i : Nat) (ls : List Txt) :
    fileLoop p s i ls = (numbered s i ls).map fun q => ⟨q.1, q.2, p q.2⟩ := by
  induction ls generalizing i with
  | nil => rfl
  | cons l ls ih =>
    simp only [fileLoop, numbered]
    split
    · exact ih (i + 1)
    · simp [ih (i + 1)]

theorem numbered_append (s i : Nat) (xs zs : List Txt) :
    numbered s i (xs ++ zs) = numbered s i xs ++ numbered s (i + xs.length) zs := by
  induction xs generalizing i with
  | nil => simp [numbered]
  | cons x xs ih =>
    simp only [List.cons_append, numbered, List.length_cons]
    have e : i + (xs.length + 1) = i + 1 + xs.length := by omega
    split
    · rw [ih (i + 1), e]
    · rw [ih (i + 1), e]; rfl

theorem numbered_succ (s i : Nat) (ys : List Txt) :
    numbered s (i + 1) ys = (numbered s i ys).map fun p => (p.1 + 1, p.2) := by
  induction ys generalizing i with
  | nil => rfl
  | cons y ys ih =>
    simp only [numbered]
    split
    · exact ih (i + 1)
    · simp only [List.map_cons, ih (i + 1)]
      rw [show i + 1 + 1 + s = i + 1 + s + 1 by omega]

theorem numbered_mem (s i : Nat) (ls : List Txt) :
    ∀ p ∈ numbered s i ls, i + 1 + s ≤ p.1 ∧ p.1 ≤ i + ls.length + s ∧ p.2 ∈ ls := by
  induction ls generalizing i with
  | nil => intro p hp; cases hp
  | cons l ls ih =>
    intro p hp
    have tail : p ∈ numbered s (i + 1) ls → i + 1 + s ≤ p.1 ∧ p.1 ≤ i + (l :: ls).length + s ∧ p.2 ∈ l :: ls := by
      intro h
      obtain ⟨h1, h2, h3⟩ := ih (i + 1) p h
      exact ⟨by omega, by rw [List.length_cons]; omega, List.mem_cons_of_mem _ h3⟩
    rw [numbered] at hp
    split at hp
    · exact tail hp
    · rcases List.mem_cons.mp hp with rfl | h
      · exact ⟨Nat.le_refl _, by rw [List.length_cons]; omega, List.mem_cons_self⟩
      · exact tail h

theorem numbered_sorted (s i : Nat) (ls : List Txt) : ((numbered s i ls).map (·.1)).Pairwise (· < ·) := by
  induction ls generalizing i with
  | nil => exact List.Pairwise.nil
  | cons l ls ih =>
    simp only [numbered]
    split
    · exact ih (i + 1)
    · simp only [List.map_cons]
      refine List.Pairwise.cons ?_ (ih (i + 1))
      intro x hx
      obtain ⟨p, hp, rfl⟩ := List.mem_map.mp hx
      have := (numbered_mem s (i + 1) ls p hp).1
      omega

theorem numbered_insert (xs ys : List Txt) (n : Txt) (hn : isBlank n = false) :
    numbered 0 0 (xs ++ n :: ys) =
      numbered 0 0 xs ++ (xs.length + 1, n) :: (numbered 0 xs.length ys).map fun p => (p.1 + 1, p.2) := by
  rw [numbered_append]
  simp only [numbered, hn, Nat.zero_add, Nat.add_zero]
  rw [numbered_succ]
  simp

theorem numbered_replace (xs ys : List Txt) (l : Txt) (hl : isBlank l = false) :
    numbered 0 0 (xs ++ l :: ys) = numbered 0 0 xs ++ (xs.length + 1, l) :: numbered 0 (xs.length + 1) ys := by
  rw [numbered_append]
  simp [numbered, hl]

/-! ### the lines of a file are its lines -/

theorem splitLines_joinLines (ls : List Txt) (hne : ls ≠ []) (hnl : ∀ l ∈ ls, 10 ∉ l) :
    splitLines (joinLines ls) = ls :=
  (split_unique (joinLines ls) ls ⟨hne, hnl, rfl⟩).symm

theorem parseFileX86_numbered (content : Txt) :
    parseFile 0 content = (numbered 0 0 (splitLines content)).map fun q => ⟨q.1, q.2, parseLine q.2⟩ :=
  fileLoop_numbered parseLine 0 0 (splitLines content)

/-! the AArch64 parser model transcribes `parse_file` a second time: same lines, same blank test, same numbers -/

theorem a64_splitLines (s : Txt) : ParseA64.splitLines s = splitLines s := by
  induction s with
  | nil => rfl
  | cons c r ih =>
    simp only [ParseA64.splitLines, splitLines, ih]
    split
    · rfl
    · cases splitLines r <;> rfl

theorem a64_isBlank (l : Txt) : ParseA64.isBlank l = isBlank l := rfl

theorem a64_lineBase : Gen.A64.lineBase = 1 := by decide

theorem parseLinesFrom_numbered (s i : Nat) (ls : List Txt) :
    ParseA64.parseLinesFrom s i ls = (numbered s i ls).map fun q => ⟨q.1, q.2, ParseA64.parseLine q.2⟩ := by
  induction ls generalizing i with
  | nil => rfl
  | cons l ls ih =>
    simp only [ParseA64.parseLinesFrom, numbered, a64_isBlank, a64_lineBase]
    split
    · exact ih (i + 1)
    · simp [ih (i + 1)]

/-- **`parse_file` is the numbering of the non-blank lines with the ISA's `parse_line` on each** -/
theorem parseFile_numbered (isa : Operand.Isa) (content : Txt) :
    parseFileOf isa content =
      (numbered 0 0 (splitLines content)).map fun q => ⟨q.1, q.2, parseLineOf isa q.2⟩ := by
  cases isa with
  | x86 =>
    simp only [parseFileOf, parseFileX86_numbered, List.map_map, parseLineOf]
    rfl
  | a64 =>
    simp only [parseFileOf, ParseA64.parseFile, parseLinesFrom_numbered, a64_splitLines, List.map_map, parseLineOf]
    rfl

theorem linesOf_of_collect (isa : Operand.Isa) (m : Model) (nt : List (Nat × Txt)) (fs : List (Nat × Txt × Glue.Form))
    (h : collect (nt.map fun q => (⟨q.1, q.2, parseLineOf isa q.2⟩ : FLine)) = .ok fs) :
    linesOf isa m fs = nt.map fun p => lineOfText isa m p.1 p.2 := by
  induction nt generalizing fs with
  | nil => simp [collect] at h; subst h; rfl
  | cons q nt ih =>
    simp only [List.map_cons, collect] at h
    cases hp : parseLineOf isa q.2 with
    | err e => simp [hp] at h
    | ok f =>
      simp only [hp] at h
      cases hc : collect (nt.map fun q => (⟨q.1, q.2, parseLineOf isa q.2⟩ : FLine)) with
      | error e => simp [hc] at h
      | ok r =>
        simp only [hc] at h
        cases h
        simp only [linesOf, List.map_cons, lineOfText, hp]
        congr 1
        exact ih r hc

/-- **the per-line data of a file**: if the file parses, its lines are the numbered non-blank texts,
    each sent through `lineOfText` — a function of the model, the text, and (stored only) the number -/
theorem linesOf_file (isa : Operand.Isa) (m : Model) (content : Txt) (fs : List (Nat × Txt × Glue.Form))
    (h : collect (parseFileOf isa content) = .ok fs) :
    linesOf isa m fs = textLines isa m (splitLines content) := by
  rw [parseFile_numbered] at h
  exact linesOf_of_collect isa m _ fs h

/-! ### the number is only stored -/

def setLineNum (n : Nat) (l : Line) : Line := { l with pl := { l.pl with sel := { l.pl.sel with num := n } } }

theorem lineOfText_shape (isa : Operand.Isa) (m : Model) (t : Txt) :
    ∃ mn c d ops sem err, ∀ n, lineOfText isa m n t = { pl := { sel := ⟨n, mn, c, d, ops⟩, sem := sem, text := t }, err := err } := by
  unfold lineOfText
  cases parseLineOf isa t with
  | err e => exact ⟨_, _, _, _, _, _, fun _ => rfl⟩
  | ok f =>
    simp only [lineOf]
    cases semOfStages m (stagesOf isa m f) <;> exact ⟨_, _, _, _, _, _, fun _ => rfl⟩

theorem lineOfText_num (isa : Operand.Isa) (m : Model) (n n' : Nat) (t : Txt) :
    lineOfText isa m n t = setLineNum n (lineOfText isa m n' t) := by
  obtain ⟨_, _, _, _, _, _, h⟩ := lineOfText_shape isa m t
  rw [h n, h n']
  rfl

@[simp] theorem lineOfText_pl_num (isa : Operand.Isa) (m : Model) (n : Nat) (t : Txt) :
    (lineOfText isa m n t).pl.num = n := by
  obtain ⟨_, _, _, _, _, _, h⟩ := lineOfText_shape isa m t
  rw [h n]
  rfl

theorem lineOfText_pl_text (isa : Operand.Isa) (m : Model) (n : Nat) (t : Txt) : (lineOfText isa m n t).pl.text = t := by
  obtain ⟨_, _, _, _, _, _, h⟩ := lineOfText_shape isa m t
  rw [h n]

theorem textLines_nums (isa : Operand.Isa) (m : Model) (ls : List Txt) :
    (textLines isa m ls).map (·.pl.num) = (numbered 0 0 ls).map (·.1) := by
  simp [textLines, List.map_map, Function.comp_def]

theorem textLines_increasing (isa : Operand.Isa) (m : Model) (ls : List Txt) :
    Increasing ((textLines isa m ls).map (·.pl)) := by
  unfold Increasing
  rw [List.map_map]
  have := textLines_nums isa m ls
  simp only [Function.comp_def] at this ⊢
  rw [this]
  exact numbered_sorted 0 0 ls

end OsacaVerif.EndToEnd
