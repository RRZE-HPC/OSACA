import OsacaVerif.Model.Cache
import OsacaVerif.Spec.CacheSpec
/-
  Invariants of the cache state machine and the lemmas behind the C17 theorems.

  OSACA's own operations (a load, a killed writer, a race of loaders) change the state only by a
  `Frame` step: model files untouched, final cache files replaced by `Own` files.  Every frame step
  preserves `Good`, `RtInv` and (with atomic writes) `NoTorn`; what is left per operation is to
  exhibit the frame and, for loads, to read the outcome off a `Good` state.
-/
namespace OsacaVerif.Cache
open OsacaVerif.Spec

/-- `hash` separates the contents in play (SHA-256: trusted) -/
def HashInj (w : World) : Prop := ∀ a b, w.hash a = w.hash b → a = b

/-- every cache file of the current format version stored under `(…, hash c)` holds `parse c` -/
def Inv (cfg : Cfg) (w : World) (s : St) : Prop :=
  ∀ k v x, s.cache k = .complete v x → v = cfg.version → ∀ c, w.hash c = k.hash → x = w.parse c

/-- every runtime-cache entry was produced from some content -/
def RtInv (w : World) (s : St) : Prop :=
  ∀ d st x, s.rt d st = some x → ∃ c, x = w.parse c

/-- no file under a final cache name is cut -/
def NoTorn (s : St) : Prop := ∀ k, s.cache k ≠ .torn

/-- reads cannot raise: unreadable files are skipped, or there are none and none can appear -/
def ReadSafe (cfg : Cfg) (s : St) : Prop :=
  cfg.tolerantRead = true ∨ (cfg.atomicWrite = true ∧ NoTorn s)

def Good (cfg : Cfg) (w : World) (s : St) : Prop := Inv cfg w s ∧ ReadSafe cfg s

variable {cfg : Cfg} {w : World} {s s' s'' : St}

theorem find_cases (w : World) (s : St) (stem : Stem) :
    (find w s stem = none ∧ CacheSpec.lookup w s.files stem = none) ∨
    ∃ d c, find w s stem = some d ∧ s.files d stem = some c
      ∧ CacheSpec.lookup w s.files stem = some c := by
  unfold find CacheSpec.lookup
  induction w.dirs stem with
  | nil => exact Or.inl ⟨rfl, rfl⟩
  | cons d ds ih =>
    rw [List.find?_cons, List.findSome?_cons]
    cases h : s.files d stem with
    | none => exact ih
    | some c => exact Or.inr ⟨d, c, rfl, h, rfl⟩

theorem readCache_hit {f : CFile} {x : Data} (h : readCache cfg f = .hit x) :
    f = .complete cfg.version x := by
  revert h
  fun_cases readCache cfg f <;> simp_all

theorem readCache_no_error {f : CFile} (h : cfg.tolerantRead = true ∨ f ≠ .torn) :
    readCache cfg f ≠ .error := by
  fun_cases readCache cfg f <;> simp_all

theorem ReadSafe.probe (h : ReadSafe cfg s) (k : Key) : readCache cfg (s.cache k) ≠ .error :=
  readCache_no_error (h.imp id (·.2 k))

theorem Good.probe (hG : Good cfg w s) {k : Key} {c : Content} (hk : k.hash = w.hash c) :
    readCache cfg (s.cache k) = .miss ∨ readCache cfg (s.cache k) = .hit (w.parse c) := by
  cases h : readCache cfg (s.cache k) with
  | error => exact absurd h (hG.2.probe k)
  | miss => exact Or.inl rfl
  | hit x => exact Or.inr (by rw [hG.1 k _ x (readCache_hit h) rfl c hk.symm])

theorem Good.getCached_result (hG : Good cfg w s) (d : Dir) (stem : Stem) (c : Content) :
    (getCached cfg s d stem (w.hash c)).1 = .miss
    ∨ (getCached cfg s d stem (w.hash c)).1 = .hit (w.parse c) := by
  unfold getCached
  rcases hG.probe (k := compKey d stem (w.hash c)) rfl with h1 | h1
  · rcases hG.probe (k := homeKey stem (w.hash c)) rfl with h2 | h2 <;> simp [h1, h2]
  · simp [h1]

/-- what OSACA itself puts under the final name `k`: the pickle of the parse of a content that `k`
    is keyed by, or (writing in place) a file that is still being written -/
def Own (cfg : Cfg) (w : World) (k : Key) (f : CFile) : Prop :=
  (∃ c, k.hash = w.hash c ∧ f = .complete cfg.version (w.parse c))
  ∨ (cfg.atomicWrite = false ∧ f = .torn)

/-- `s'` is `s` after cache writes of OSACA's own: same model files, final cache files kept or
    `Own`, new runtime-cache entries parsed from some content (leftovers are free) -/
structure Frame (cfg : Cfg) (w : World) (s s' : St) : Prop where
  files : s'.files = s.files
  cache : ∀ k, s'.cache k = s.cache k ∨ Own cfg w k (s'.cache k)
  rt : ∀ d st, s'.rt d st = s.rt d st ∨ ∃ c, s'.rt d st = some (w.parse c)

theorem Frame.refl : Frame cfg w s s := ⟨rfl, fun _ => Or.inl rfl, fun _ _ => Or.inl rfl⟩

theorem Frame.trans (h₁ : Frame cfg w s s') (h₂ : Frame cfg w s' s'') : Frame cfg w s s'' where
  files := h₂.files.trans h₁.files
  cache k := (h₂.cache k).elim (fun e => by rw [e]; exact h₁.cache k) Or.inr
  rt d st := (h₂.rt d st).elim (fun e => by rw [e]; exact h₁.rt d st) Or.inr

theorem Frame.of_setCache {k : Key} {f : CFile} (hf : Own cfg w k f) : Frame cfg w s (setCache s k f) where
  files := rfl
  cache k' := by
    simp only [setCache]
    split
    · next e => exact Or.inr (e ▸ hf)
    · exact Or.inl rfl
  rt _ _ := Or.inl rfl

theorem Frame.of_setRt (d : Dir) (st : Stem) (c : Content) : Frame cfg w s (setRt s d st (w.parse c)) where
  files := rfl
  cache _ := Or.inl rfl
  rt d' st' := by
    simp only [setRt]
    split
    · exact Or.inr ⟨c, rfl⟩
    · exact Or.inl rfl

theorem Frame.noTorn (h : Frame cfg w s s') (ha : cfg.atomicWrite = true) (hN : NoTorn s) :
    NoTorn s' := by
  intro k
  rcases h.cache k with e | ⟨c, _, e⟩ | ⟨hna, _⟩
  · rw [e]; exact hN k
  · rw [e]; nofun
  · rw [ha] at hna; cases hna

theorem Frame.good (h : Frame cfg w s s') (hinj : HashInj w) (hG : Good cfg w s) : Good cfg w s' := by
  refine ⟨fun k v x hk hv c hc => ?_, hG.2.imp id fun ⟨ha, hN⟩ => ⟨ha, h.noTorn ha hN⟩⟩
  rcases h.cache k with e | ⟨c', hc', e⟩ | ⟨_, e⟩
  · exact hG.1 k v x (e ▸ hk) hv c hc
  · rw [e] at hk
    injection hk with _ hx
    rw [← hx, hinj c c' (hc.trans hc')]
  · rw [e] at hk; cases hk

theorem Frame.rtInv (h : Frame cfg w s s') (hR : RtInv w s) : RtInv w s' := by
  intro d st x hx
  rcases h.rt d st with e | ⟨c, e⟩
  · exact hR d st x (e ▸ hx)
  · exact ⟨c, Option.some.inj (hx.symm.trans e)⟩

theorem Frame.inv (h : Frame cfg w s s') (hinj : HashInj w) (hI : Good cfg w s ∧ RtInv w s) :
    Good cfg w s' ∧ RtInv w s' :=
  ⟨h.good hinj hI.1, h.rtInv hI.2⟩

theorem writeTarget_hash {d : Dir} {stem : Stem} {h : Hash} {k : Key}
    (hk : writeTarget s d stem h = some k) : k.hash = h := by
  unfold writeTarget at hk
  split at hk
  · exact Option.some.inj hk ▸ rfl
  · split at hk
    · exact Option.some.inj hk ▸ rfl
    · cases hk

theorem Frame.of_writeCache (d : Dir) (stem : Stem) (c : Content) :
    Frame cfg w s (writeCache cfg s d stem (w.hash c) (w.parse c)) := by
  unfold writeCache
  split
  · exact .refl
  · next k hk => exact .of_setCache (Or.inl ⟨c, writeTarget_hash hk, rfl⟩)

theorem good_setCache (hG : Good cfg w s) (k : Key) {f : CFile}
    (hf : ∀ x, f = .complete cfg.version x → ∀ c, w.hash c = k.hash → x = w.parse c)
    (ht : f = .torn → cfg.tolerantRead = true) : Good cfg w (setCache s k f) := by
  refine ⟨fun k' v x hk hv => ?_, ?_⟩
  · simp only [setCache] at hk
    split at hk
    · next e => exact e ▸ hf x (hv ▸ hk)
    · exact hG.1 k' v x hk hv
  · by_cases hft : f = .torn
    · exact Or.inl (ht hft)
    · refine hG.2.imp id (And.imp_right fun hN k' => ?_)
      simp only [setCache]
      split
      · exact hft
      · exact hN k'

theorem noTorn_setCache (h : NoTorn s) (k : Key) {f : CFile} (hf : f ≠ .torn) :
    NoTorn (setCache s k f) := by
  intro k'
  simp only [setCache]
  split
  · exact hf
  · exact h k'

theorem loadFull_spec (hG : Good cfg w s) (stem : Stem) :
    (loadFull cfg w s stem).2.1 = CacheSpec.expected w s.files stem false
    ∧ Frame cfg w s (loadFull cfg w s stem).1 := by
  rcases find_cases w s stem with ⟨hf, hl⟩ | ⟨d, c, hf, hc, hl⟩
  · simp only [loadFull, CacheSpec.expected, hf, hl]
    exact ⟨trivial, .refl⟩
  · have hp := hG.getCached_result d stem c
    rcases hg : getCached cfg s d stem (w.hash c) with ⟨pr, src⟩
    rw [hg] at hp
    rcases hp with rfl | rfl <;> simp only [loadFull, CacheSpec.expected, hf, hc, hl, hg]
    · exact ⟨rfl, (Frame.of_writeCache d stem c).trans (.of_setRt d stem c)⟩
    · exact ⟨rfl, .of_setRt d stem c⟩

theorem loadLazy_spec (w : World) (s : St) (stem : Stem) :
    loadLazy w s stem = CacheSpec.expected w s.files stem true := by
  rcases find_cases w s stem with ⟨hf, hl⟩ | ⟨d, c, hf, hc, hl⟩
  · simp only [loadLazy, CacheSpec.expected, hf, hl]
  · simp only [loadLazy, CacheSpec.expected, hf, hc, hl, if_true]

theorem crashWrite_frame (cfg : Cfg) (w : World) (s : St) (stem : Stem) :
    Frame cfg w s (crashWrite cfg w s stem) := by
  fun_cases crashWrite cfg w s stem
  -- killed while writing atomically: a leftover temporary file only
  case case4 => exact ⟨rfl, fun _ => Or.inl rfl, fun _ _ => Or.inl rfl⟩
  -- killed while writing in place: the final file is cut
  case case5 hna => exact .of_setCache (Or.inr ⟨by simpa using hna, rfl⟩)
  -- nothing to load, a cache hit, or no writable place: nothing happens
  all_goals exact .refl

/-- what is true of a loader of content `c` at every point of its run -/
structure PInv (cfg : Cfg) (w : World) (c : Content) (p : Proc) : Prop where
  target_hash : ∀ k, p.target = some k → k.hash = w.hash c
  tmp_written : p.pc = .written → cfg.atomicWrite = true → p.target ≠ none →
    p.tmp = .complete cfg.version (w.parse c)
  result_ok : p.pc = .done → p.result = some (.ok (w.parse c))

theorem pinv_fresh (cfg : Cfg) (w : World) (c : Content) : PInv cfg w c Proc.fresh :=
  ⟨nofun, nofun, nofun⟩

theorem pstep_frame (d : Dir) (stem : Stem) {c : Content} {sh : St} {p : Proc}
    (hG : Good cfg w sh) (hP : PInv cfg w c p) :
    Frame cfg w sh (pstep cfg w d stem c sh p).1 ∧ PInv cfg w c (pstep cfg w d stem c sh p).2 := by
  obtain ⟨h1, h2, h3⟩ := hP
  unfold pstep
  -- By program counter; `simp only []` reduces the `match` on it.  Each result reads
  -- ⟨frame step, target_hash, tmp_written, result_ok⟩ for the loader's new state.
  cases hpc : p.pc <;> simp only []
  case probeComp =>
    rcases hG.probe (k := compKey d stem (w.hash c)) rfl with h | h <;> simp only [h]
    · exact ⟨.refl, h1, nofun, nofun⟩
    · exact ⟨.refl, h1, nofun, fun _ => rfl⟩
  case probeHome =>
    rcases hG.probe (k := homeKey stem (w.hash c)) rfl with h | h <;> simp only [h]
    · exact ⟨.refl, h1, nofun, nofun⟩
    · exact ⟨.refl, h1, nofun, fun _ => rfl⟩
  case parsed =>
    split
    · exact ⟨.refl, h1, nofun, fun _ => rfl⟩
    · next k hk =>
      have hkh : ∀ k', some k = some k' → k'.hash = w.hash c :=
        fun k' e => Option.some.inj e ▸ writeTarget_hash hk
      split
      · exact ⟨.refl, hkh, nofun, nofun⟩
      · next hna => exact ⟨.of_setCache (Or.inr ⟨by simpa using hna, rfl⟩), hkh, nofun, nofun⟩
  case opened => exact ⟨.refl, h1, nofun, nofun⟩
  case half =>
    split
    · next hn => exact ⟨.refl, h1, fun _ _ hne => absurd hn hne, nofun⟩
    · next k hk =>
      split
      · exact ⟨.refl, h1, fun _ _ _ => rfl, nofun⟩
      · next hna =>
        exact ⟨.of_setCache (Or.inl ⟨c, h1 k hk, rfl⟩), h1, fun _ ha => absurd ha hna, nofun⟩
  case written =>
    split
    · exact ⟨.refl, h1, nofun, fun _ => rfl⟩
    · next k hk =>
      split
      · next ha =>
        rw [h2 hpc ha (by simp [hk])]
        exact ⟨.of_setCache (Or.inl ⟨c, h1 k hk, rfl⟩), h1, nofun, fun _ => rfl⟩
      · exact ⟨.refl, h1, nofun, fun _ => rfl⟩
  case done => exact ⟨.refl, h1, h2, h3⟩

theorem runSched_frame (hinj : HashInj w) (d : Dir) (stem : Stem) (c : Content) (sched : List Nat) :
    ∀ {sh : St} {ps : Procs}, Good cfg w sh → (∀ i, PInv cfg w c (ps i)) →
    Frame cfg w sh (runSched cfg w d stem c sh ps sched).1
    ∧ ∀ i, PInv cfg w c ((runSched cfg w d stem c sh ps sched).2 i) := by
  induction sched with
  | nil => exact fun _ hP => ⟨.refl, hP⟩
  | cons i rest ih =>
    intro sh ps hG hP
    obtain ⟨hF, hPi⟩ := pstep_frame d stem hG (hP i)
    have hP' : ∀ j, PInv cfg w c ((stepAt cfg w d stem c sh ps i).2 j) := fun j => by
      simp only [stepAt]
      split
      · exact hPi
      · exact hP j
    obtain ⟨hF', hP''⟩ := ih (hF.good hinj hG) hP'
    exact ⟨hF.trans hF', hP''⟩

/-- steps left until a loader is certainly finished -/
def rank : PC → Nat
  | .probeComp => 6 | .probeHome => 5 | .parsed => 4 | .opened => 3 | .half => 2 | .written => 1
  | .done => 0

section progress
variable (cfg w) (d : Dir) (stem : Stem) (c : Content)

theorem pstep_rank (sh : St) (p : Proc) :
    rank (pstep cfg w d stem c sh p).2.pc ≤ rank p.pc - 1 := by
  fun_cases pstep cfg w d stem c sh p <;> simp [rank, *]

theorem stepAt_rank (sh : St) (ps : Procs) (i j : Nat) :
    rank ((stepAt cfg w d stem c sh ps i).2 j).pc ≤ rank (ps j).pc - if i == j then 1 else 0 := by
  show rank (if j = i then _ else ps j).pc ≤ _
  cases Nat.decEq j i with
  | isTrue e =>
    -- (`beq_self_eq_true` on `Nat` goes through a classical instance)
    rw [if_pos e, e, if_pos (show (i == i) = true from decide_eq_true rfl)]
    exact pstep_rank cfg w d stem c sh (ps i)
  | isFalse e =>
    rw [if_neg e, beq_false_of_ne (Ne.symm e)]
    exact Nat.le_refl _

theorem runSched_rank (j : Nat) (sched : List Nat) : ∀ (sh : St) (ps : Procs),
    rank ((runSched cfg w d stem c sh ps sched).2 j).pc ≤ rank (ps j).pc - sched.count j := by
  induction sched with
  | nil => exact fun _ _ => Nat.le_refl _
  | cons i rest ih =>
    intro sh ps
    rw [List.count_cons, Nat.add_comm, ← Nat.sub_sub]
    exact Nat.le_trans (ih _ _) (Nat.sub_le_sub_right (stepAt_rank cfg w d stem c sh ps i j) _)

theorem rank_le_six (pc : PC) : rank pc ≤ 6 := by cases pc <;> simp [rank]
theorem rank_zero {pc : PC} (h : rank pc = 0) : pc = .done := by cases pc <;> simp [rank] at h ⊢

/-- a process with six turns in the schedule is finished at its end -/
theorem runSched_done (sh : St) (ps : Procs) {sched : List Nat} {j : Nat} (h : 6 ≤ sched.count j) :
    ((runSched cfg w d stem c sh ps sched).2 j).pc = .done :=
  rank_zero <| Nat.le_zero.mp <| Nat.le_trans (runSched_rank cfg w d stem c j sched sh ps) <|
    Nat.le_of_eq (Nat.sub_eq_zero_of_le (Nat.le_trans (rank_le_six _) h))

end progress

theorem six_le_count_finishSched {n i : Nat} (hi : i < n) : 6 ≤ (finishSched 6 n).count i := by
  induction n with
  | zero => omega
  | succ n ih =>
    rw [finishSched, List.count_append]
    by_cases h : i < n
    · exact Nat.le_trans (ih h) (Nat.le_add_right _ _)
    · obtain rfl : i = n := by omega
      rw [List.count_replicate_self]
      exact Nat.le_add_left _ _

/-- **all interleavings**: whatever the schedule, every loader of the race holds the cache-less
    result and the race as a whole is a frame step -/
theorem race_spec (hinj : HashInj w) (hG : Good cfg w s) (stem : Stem) (n : Nat) (sched : List Nat) :
    (race cfg w s stem n sched).2 = List.replicate n (CacheSpec.expected w s.files stem false)
    ∧ Frame cfg w s (race cfg w s stem n sched).1 := by
  rcases find_cases w s stem with ⟨hf, hl⟩ | ⟨d, c, hf, hc, hl⟩
  · simp only [race, CacheSpec.expected, hf, hl]
    exact ⟨trivial, .refl⟩
  · simp only [race, CacheSpec.expected, hf, hc, hl]
    obtain ⟨hF, hP⟩ := runSched_frame hinj d stem c (sched ++ finishSched 6 n) hG
      fun _ => pinv_fresh cfg w c
    refine ⟨List.eq_replicate_iff.mpr ⟨by simp, fun o ho => ?_⟩, hF⟩
    obtain ⟨i, hi, rfl⟩ := List.mem_map.mp ho
    rw [(hP i).result_ok (runSched_done cfg w d stem c _ _ (by
      rw [List.count_append]
      exact Nat.le_trans (six_le_count_finishSched (List.mem_range.mp hi)) (Nat.le_add_left _ _)))]
    rfl

/-- the one operation that damages a final cache file from outside OSACA -/
def Op.isCorrupt : Op → Bool
  | .corrupt _ => true
  | _ => false

/-- What an operation keeps on the way from `s` to `s'`: goodness; runtime-cache entries that are
    parses; and, for atomic writers, the absence of cut files, provided the operation is not
    damage from outside (`undamaged`). -/
structure Keeps (cfg : Cfg) (w : World) (s s' : St) (undamaged : Prop) : Prop where
  good : Good cfg w s'
  rtInv : RtInv w s → RtInv w s'
  noTorn : cfg.atomicWrite = true → undamaged → NoTorn s → NoTorn s'

theorem Frame.keeps (hF : Frame cfg w s s') (hinj : HashInj w) (hG : Good cfg w s) (P : Prop) :
    Keeps cfg w s s' P :=
  ⟨hF.good hinj hG, hF.rtInv, fun ha _ => hF.noTorn ha⟩

theorem Keeps.trans {P Q : Prop} (h₁ : Keeps cfg w s s' P) (h₂ : Keeps cfg w s' s'' Q) :
    Keeps cfg w s s'' (P ∧ Q) :=
  ⟨h₂.good, h₂.rtInv ∘ h₁.rtInv, fun ha hPQ => h₂.noTorn ha hPQ.2 ∘ h₁.noTorn ha hPQ.1⟩

/-- one operation: the observation and the model files are those of the cache-less machine -/
theorem step_spec (hinj : HashInj w) (hG : Good cfg w s) (op : Op)
    (hop : cfg.tolerantRead = true ∨ op.isCorrupt = false) :
    (step cfg w s op).2 = CacheSpec.obs w s.files op
    ∧ (step cfg w s op).1.files = CacheSpec.stepFiles s.files op
    ∧ Keeps cfg w s (step cfg w s op).1 (op.isCorrupt = false) := by
  -- a file that is not cut is put under a final name from outside
  have put (k : Key) {f : CFile} (hf : ∀ x, f ≠ .complete cfg.version x) (ht : f ≠ .torn) {P : Prop} :
      Keeps cfg w s (setCache s k f) P :=
    ⟨good_setCache hG k (fun x e => absurd e (hf x)) fun e => absurd e ht, id,
      fun _ _ hN => noTorn_setCache hN k ht⟩
  -- below, `hG, id, fun _ _ => id` stands for: cache files and runtime cache are untouched
  cases op with
  | load stem lazy =>
    cases lazy with
    | false =>
      obtain ⟨h1, hF⟩ := loadFull_spec hG stem
      exact ⟨congrArg (· :: []) h1, hF.files, hF.keeps hinj hG _⟩
    | true => exact ⟨congrArg (· :: []) (loadLazy_spec w s stem), rfl, hG, id, fun _ _ => id⟩
  | edit d stem c => exact ⟨rfl, rfl, hG, id, fun _ _ => id⟩
  | crashWrite stem pt =>
    exact ⟨rfl, (crashWrite_frame cfg w s stem).files, (crashWrite_frame cfg w s stem).keeps hinj hG _⟩
  | corrupt k =>
    exact ⟨rfl, rfl, good_setCache hG k nofun fun _ => hop.resolve_right nofun, id, fun _ => nofun⟩
  | drop k => exact ⟨rfl, rfl, put k (f := .absent) nofun nofun⟩
  | «foreign» k ver x =>
    simp only [step]
    split
    · exact ⟨rfl, rfl, hG, id, fun _ _ => id⟩
    · next hne => exact ⟨rfl, rfl, put k (f := .complete ver x) (fun y e => hne (CFile.complete.inj e).1) nofun⟩
  | shipped d stem c =>
    exact ⟨rfl, rfl, (Frame.of_setCache (Or.inl ⟨c, rfl, rfl⟩)).keeps hinj hG _⟩
  | setWritable d b => exact ⟨rfl, rfl, hG, id, fun _ _ => id⟩
  | setHomeWritable b => exact ⟨rfl, rfl, hG, id, fun _ _ => id⟩
  | newProcess => exact ⟨rfl, rfl, hG, fun _ => nofun, fun _ _ => id⟩
  | concurrent stem n sched =>
    obtain ⟨h1, hF⟩ := race_spec hinj hG stem n sched
    exact ⟨h1, hF.files, hF.keeps hinj hG _⟩

theorem run_spec (hinj : HashInj w) (ops : List Op) :
    ∀ {s : St}, Good cfg w s → (cfg.tolerantRead = true ∨ ∀ op ∈ ops, op.isCorrupt = false) →
    (run cfg w s ops).2 = CacheSpec.run w s.files ops
    ∧ (run cfg w s ops).1.files = CacheSpec.filesAfter s.files ops
    ∧ Keeps cfg w s (run cfg w s ops).1 (∀ op ∈ ops, op.isCorrupt = false) := by
  induction ops with
  | nil => exact fun hG _ => ⟨rfl, rfl, hG, id, fun _ _ => id⟩
  | cons op rest ih =>
    intro s hG hops
    obtain ⟨h1, h2, hK⟩ := step_spec hinj hG op (hops.imp id (· op List.mem_cons_self))
    obtain ⟨h3, h4, hK'⟩ := ih hK.good (hops.imp id fun h o ho => h o (List.mem_cons_of_mem _ ho))
    simp only [run, CacheSpec.run, CacheSpec.filesAfter, List.foldl_cons]
    rw [h1, h3, h4, h2]
    exact ⟨rfl, rfl, hK'.good, hK'.rtInv ∘ hK.rtInv, fun ha h =>
      hK'.noTorn ha (fun o ho => h o (List.mem_cons_of_mem _ ho)) ∘ hK.noTorn ha (h op List.mem_cons_self)⟩

theorem good_init (files : Dir → Stem → Option Content) (wr : Dir → Bool)
    (hw : Bool) (h : cfg.tolerantRead = true ∨ cfg.atomicWrite = true) : Good cfg w (init files wr hw) :=
  ⟨nofun, h.imp id (⟨·, nofun⟩)⟩

theorem rtInv_init (files : Dir → Stem → Option Content) (wr : Dir → Bool) (hw : Bool) :
    RtInv w (init files wr hw) := nofun

/-- a history from a fresh installation, under the side condition of the C17 theorems -/
theorem run_init_spec (hinj : HashInj w) (files : Dir → Stem → Option Content) (wr : Dir → Bool)
    (hw : Bool) (ops : List Op)
    (h : cfg.tolerantRead = true ∨ (cfg.atomicWrite = true ∧ ∀ op ∈ ops, op.isCorrupt = false)) :
    (run cfg w (init files wr hw) ops).2 = CacheSpec.run w files ops
    ∧ (run cfg w (init files wr hw) ops).1.files = CacheSpec.filesAfter files ops
    ∧ Good cfg w (run cfg w (init files wr hw) ops).1 ∧ RtInv w (run cfg w (init files wr hw) ops).1 :=
  let ⟨h1, h2, hK⟩ := run_spec hinj ops (good_init files wr hw (h.imp id And.left)) (h.imp id And.right)
  ⟨h1, h2, hK.good, hK.rtInv (rtInv_init files wr hw)⟩

end OsacaVerif.Cache
