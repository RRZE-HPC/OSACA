import OsacaVerif.Lemmas.ReportTable
/-
  C13: a line of the list of loop-carried dependencies is read back (`parseLcdLine` inverts `lcdLine`) and contains
  no line feed; the list shows every dependency (sorting is a permutation).
-/
namespace OsacaVerif.Report
open OsacaVerif.Text OsacaVerif.Fmt OsacaVerif.Spec.Report
open OsacaVerif.Gen.Report

theorem afterLastBar_render (A B : Txt) (hB : 124 ∉ B) : afterLastBar (A ++ 124 :: B) = B := by
  unfold afterLastBar
  have : (A ++ 124 :: B).reverse = B.reverse ++ 124 :: A.reverse := by simp
  rw [this, takeWhile_append_stop _ _ _ (by
    intro c hc
    have : c ∈ B := by simpa using hc
    simp only [bne_iff_ne, ne_eq]
    intro h; subst h; exact hB this) (headNot_cons (by simp))]
  simp

/-! ### `[n1, n2, …]` -/

theorem items_joinWith (ds : List Txt) (hne : ds ≠ []) (h44 : ∀ d ∈ ds, 44 ∉ d)
    (hsp : ∀ d ∈ ds, HeadNot (· == 32) d) :
    (splitOn 44 (joinWith [44, 32] ds)).map skipSpaces = ds := by
  fun_induction joinWith [44, 32] ds with
  | case1 => exact absurd rfl hne
  | case2 a =>
    rw [splitOn_no_sep 44 a (h44 a List.mem_cons_self), List.map_singleton,
      skipSpaces_of_headNot a (hsp a List.mem_cons_self)]
  | case3 a b r ih =>
    have ih := ih (List.cons_ne_nil _ _) (fun d hd => h44 d (List.mem_cons_of_mem _ hd))
      (fun d hd => hsp d (List.mem_cons_of_mem _ hd))
    rw [List.append_assoc, List.cons_append, List.cons_append, List.nil_append,
      splitOn_append_sep 44 a _ (h44 a List.mem_cons_self), splitOn_cons]
    -- the blank after the comma is skipped with the next item
    cases hs : splitOn 44 (joinWith [44, 32] (b :: r)) with
    | nil => exact absurd hs (splitOn_ne_nil _ _)
    | cons x y =>
      rw [hs] at ih
      simp only []  -- reduces the `match` on `x :: y`
      rw [if_neg (by decide), List.map_cons, List.map_cons, skipSpaces_of_headNot a (hsp a List.mem_cons_self),
        skipSpaces, ← List.map_cons, ih]

theorem parseNatList_listRepr (ms : List Nat) : parseNatList (32 :: listRepr ms) = some ms := by
  unfold parseNatList listRepr
  rw [show ∀ X : Txt, skipSpaces (32 :: X) = skipSpaces X from fun X => rfl]
  rw [List.cons_append, skipSpaces_of_headNot _ (headNot_blank_cons (by decide))]
  simp only [List.getLast?_append, List.getLast?_singleton, Option.some_or, if_true, List.dropLast_concat]
  cases ms with
  | nil => simp [joinWith, splitOn, skipSpaces]
  | cons m ms =>
    rw [items_joinWith ((m :: ms).map natDigits) (by simp)
      (List.forall_mem_map.mpr fun n _ => not_mem_digits (natDigits_digits n) (by decide))
      (List.forall_mem_map.mpr fun n _ => by
        simpa using natDigits_headNot_blank n []),
      if_neg fun h : (m :: ms).map natDigits = [[]] => natDigits_ne_nil m (List.cons.inj h).1]
    have := mapM'_map (fun i => match parseNatPre i with | some (n, []) => some n | _ => none) natDigits id
      (m :: ms) fun n _ => by
        have := parseNatPre_natDigits n [] headNot_nil
        rw [List.append_nil] at this
        rw [this]; rfl
    rwa [List.map_id] at this

/-- a character that is no digit, bracket, comma or blank does not occur in `str([n1, n2, …])` -/
theorem not_mem_listRepr (ms : List Nat) {k : Nat} (hd : isDigitC k = false)
    (hk : k ≠ 91 ∧ k ≠ 93 ∧ k ≠ 44 ∧ k ≠ 32) : k ∉ listRepr ms := by
  have hj : ∀ ds : List Txt, (∀ d ∈ ds, k ∉ d) → k ∉ joinWith [44, 32] ds := by
    intro ds h
    fun_induction joinWith [44, 32] ds with
    | case1 => exact List.not_mem_nil
    | case2 a => exact h a List.mem_cons_self
    | case3 a b r ih =>
      simp only [List.mem_append, List.mem_cons, List.not_mem_nil, or_false, not_or]
      exact ⟨⟨h a List.mem_cons_self, hk.2.2.1, hk.2.2.2⟩, ih fun d hd => h d (List.mem_cons_of_mem _ hd)⟩
  have := hj (ms.map natDigits) fun d hm => by
    obtain ⟨n, _, rfl⟩ := List.mem_map.mp hm
    exact not_mem_digits (natDigits_digits n) hd
  simp [listRepr, this, hk]

/-! ### one line, the list -/

/-- a line of the LCD list in normal form is read back, whatever follows the second bar, if the member list
    stands after the last bar -/
theorem parseLcdLine_parts (w1 w2 n : Nat) (s : Shown) (X : Txt) (ms : List Nat)
    (hX : parseNatList (afterLastBar X) = some ms) :
    parseLcdLine (padLeft w1 (natDigits n) ++ (32 :: 124 :: 32 :: (padLeft w2 (renderShown s) ++ (32 :: 124 :: X)))) =
      some ⟨n, s, ms⟩ := by
  rw [parseLcdLine, parseNatPre_padLeft _ _ _ (headNot_cons (by decide))]
  simp only [expectTxt, if_true]
  rw [skipSpaces, skipSpaces_padLeft _ _ _ (renderShown_headNot s _),
    parseNum_renderShown _ _ (numEnd_cons (by decide) (by decide))]
  simp only [if_true, hX, Option.map]

theorem parseLcdLine_render (d : Dep) : parseLcdLine (lcdLine d) = some (lcdView d) := by
  have hX : parseNatList (afterLastBar (32 :: (padRight lcdRootWidth (strip d.root) ++ 124 :: 32 ::
      listRepr (d.members.map (·.1))))) = some (d.members.map (·.1)) := by
    rw [← List.cons_append, afterLastBar_render _ _ (by simp [not_mem_listRepr _ (k := 124) (by decide) (by decide)]),
      parseNatList_listRepr]
  have := parseLcdLine_parts lcdNumWidth lcdLatWidth (keyHead d.key) (shown d.lat lcdLatDecimals) _ _ hX
  simpa only [lcdLine, lcdView, fmtFixed, colSep, List.append_assoc, List.cons_append] using this

theorem lcdLine_ne_nil (d : Dep) : lcdLine d ≠ [] := by
  simp [lcdLine, padLeft, natDigits_ne_nil]

theorem noNL_lcdLine (d : Dep) (hroot : NoNL d.root) : NoNL (lcdLine d) := by
  have h1 : NoNL (listRepr (d.members.map (·.1))) := not_mem_listRepr _ (by decide) (by decide)
  have h2 : NoNL (strip d.root) := fun h => hroot (lstrip_sub _ 10 (rstrip_sub _ 10 h))
  simp [lcdLine, padRight, fmtFixed, show colSep ≠ 10 by decide, h1, h2]

theorem lcdTitle2_lines :
    lcdTitle2 = [[], [], titleLcd, dashes titleLcd.length].flatMap (fun l => l ++ [10]) := by
  decide +kernel

/-! ### sorting shows every dependency -/

theorem insertKey_perm (d : Dep) (l : List Dep) : (insertKey d l).Perm (d :: l) := by
  induction l with
  | nil => exact List.Perm.refl _
  | cons e r ih =>
    simp only [insertKey]
    split
    · exact List.Perm.refl _
    · exact (List.Perm.cons e ih).trans (List.Perm.swap d e r)

theorem sortDeps_perm (ds : List Dep) : (sortDeps ds).Perm ds := by
  induction ds with
  | nil => exact List.Perm.refl _
  | cons d ds ih =>
    show (insertKey d (sortDeps ds)).Perm (d :: ds)
    exact (insertKey_perm d _).trans (List.Perm.cons d ih)

end OsacaVerif.Report
