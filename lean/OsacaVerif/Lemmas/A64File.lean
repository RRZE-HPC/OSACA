import OsacaVerif.Model.ParseA64
import OsacaVerif.Spec.FileLinesA64
/-
  `parse_file`: the model's line splitting and numbering loop against the declarative specification
  `Spec.A64.FileSpec` (∀ file contents, ∀ start offsets).
-/
namespace OsacaVerif.ParseA64
open OsacaVerif.Text OsacaVerif.Spec.A64 OsacaVerif.Gen

theorem splitLines_ne_nil (s : Txt) : splitLines s ≠ [] := by
  induction s with
  | nil => simp [splitLines]
  | cons c s ih =>
    simp only [splitLines]
    split
    · simp
    · split <;> simp

theorem splitLines_no_lf (l : Txt) (h : 10 ∉ l) : splitLines l = [l] := by
  induction l with
  | nil => rfl
  | cons c l ih =>
    have hc : c ≠ 10 := by intro hc; subst hc; simp at h
    have hl : 10 ∉ l := by intro hl; exact h (by simp [hl])
    simp [splitLines, hc, ih hl]

theorem splitLines_append_lf (l s : Txt) (h : 10 ∉ l) : splitLines (l ++ 10 :: s) = l :: splitLines s := by
  induction l with
  | nil => simp [splitLines]
  | cons c l ih =>
    have hc : c ≠ 10 := by intro hc; subst hc; simp at h
    have hl : 10 ∉ l := by intro hl; exact h (by simp [hl])
    simp [splitLines, hc, ih hl]

theorem splitLines_joinLines (ls : List Txt) (hne : ls ≠ []) (h : ∀ l ∈ ls, 10 ∉ l) :
    splitLines (joinLines ls) = ls := by
  induction ls with
  | nil => exact absurd rfl hne
  | cons l ls ih =>
    cases ls with
    | nil => simpa [joinLines] using splitLines_no_lf l (h l (by simp))
    | cons l' r =>
      simp only [joinLines]
      rw [splitLines_append_lf l _ (h l (by simp)), ih (by simp) (fun x hx => h x (by simp [hx]))]

/-- the lines of a text are unique, and `splitLines` computes them -/
theorem isLinesOf_unique (content : Txt) (ls : List Txt) (h : IsLinesOf content ls) : ls = splitLines content := by
  obtain ⟨hne, hj, hno⟩ := h
  rw [← hj, splitLines_joinLines ls hne hno]

theorem isLinesOf_splitLines (content : Txt) : IsLinesOf content (splitLines content) := by
  refine ⟨splitLines_ne_nil content, ?_, ?_⟩
  · induction content with
    | nil => rfl
    | cons c s ih =>
      simp only [splitLines]
      split
      · rename_i hc; simp at hc; subst hc
        cases hs : splitLines s with
        | nil => exact absurd hs (splitLines_ne_nil s)
        | cons l ls => rw [hs] at ih; simp [joinLines, ih]
      · cases hs : splitLines s with
        | nil => exact absurd hs (splitLines_ne_nil s)
        | cons l ls =>
          rw [hs] at ih
          cases ls with
          | nil => simp [joinLines] at ih ⊢; exact ih
          | cons l' r => simp [joinLines] at ih ⊢; exact ih
  · induction content with
    | nil => simp [splitLines]
    | cons c s ih =>
      simp only [splitLines]
      split
      · intro l hl; simp at hl; rcases hl with rfl | hl
        · simp
        · exact ih l hl
      · rename_i hc
        cases hs : splitLines s with
        | nil => exact absurd hs (splitLines_ne_nil s)
        | cons l ls =>
          rw [hs] at ih
          intro x hx; simp at hx
          rcases hx with rfl | hx
          · have := ih l (by simp)
            simp at hc
            simp [this]; exact fun h => hc h.symm
          · exact ih x (by simp [hx])

theorem isPyWs_iff (c : Nat) : isPyWs c = true ↔ c ∈ spaceChars := by
  refine ⟨fun h => ?_, fun h => (by decide +kernel : ∀ c ∈ spaceChars, isPyWs c = true) c h⟩
  -- each interval of `isPyWs` is a run of `spaceChars`
  have run (a b : Nat) (hs : List.range' a (b + 1 - a) ⊆ spaceChars) (h : a ≤ c ∧ c ≤ b) : c ∈ spaceChars :=
    hs (List.mem_range'_1.mpr ⟨h.1, by omega⟩)
  simp only [isPyWs, Bool.or_eq_true, beq_iff_eq, decide_eq_true_eq] at h
  rcases h with (((((((((((rfl | h) | h) | rfl) | rfl) | rfl) | h) | rfl) | rfl) | rfl) | rfl) | rfl)
  any_goals decide +kernel
  · exact run 9 13 (by decide +kernel) h
  · exact run 28 31 (by decide +kernel) h
  · exact run 8192 8202 (by decide +kernel) h

theorem isBlank_iff (l : Txt) : isBlank l = true ↔ blankLine l := by
  simp only [isBlank, blankLine, List.all_eq_true]
  exact ⟨fun h c hc => (isPyWs_iff c).mp (h c hc), fun h c hc => (isPyWs_iff c).mpr (h c hc)⟩

def entry (f : FileLine) : Nat × Txt := (f.lineNo, f.text)

theorem lineBase_eq : A64.lineBase = 1 := by decide

/-- a blank line in front moves the numbers of the others by one -/
theorem fileSpec_skip {ls : List Txt} {n : Nat} {out : List (Nat × Txt)} {l : Txt} (h : FileSpec ls (n + 1) out)
    (hb : blankLine l) : FileSpec (l :: ls) n out := by
  refine ⟨h.sorted, fun e he => ?_, fun j x hj hx => ?_⟩
  · obtain ⟨j, hj, hn, hnb⟩ := h.sound e he
    exact ⟨j + 1, hj, by omega, hnb⟩
  · cases j with
    | zero => cases hj; exact absurd hb hx
    | succ j => rw [show j + 1 + 1 + n = j + 1 + (n + 1) by omega]; exact h.complete j x hj hx

/-- a non-blank line in front gets the first number -/
theorem fileSpec_keep {ls : List Txt} {n : Nat} {out : List (Nat × Txt)} {l : Txt} (h : FileSpec ls (n + 1) out)
    (hb : ¬ blankLine l) : FileSpec (l :: ls) n ((n + 1, l) :: out) := by
  refine ⟨List.pairwise_cons.mpr ⟨fun e he => ?_, h.sorted⟩, fun e he => ?_, fun j x hj hx => ?_⟩
  · obtain ⟨j, -, hn, -⟩ := h.sound e he
    show n + 1 < e.1
    omega
  · rcases List.mem_cons.mp he with rfl | he
    · exact ⟨0, rfl, by omega, hb⟩
    · obtain ⟨j, hj, hn, hnb⟩ := h.sound e he
      exact ⟨j + 1, hj, by omega, hnb⟩
  · cases j with
    | zero => cases hj; rw [show 0 + 1 + n = n + 1 by omega]; exact List.mem_cons_self
    | succ j =>
      rw [show j + 1 + 1 + n = j + 1 + (n + 1) by omega]
      exact List.mem_cons_of_mem _ (h.complete j x hj hx)

/-- the loop of `parse_file` from line index `i` on meets the specification with the offset moved by `i` -/
theorem parseLinesFrom_spec (start : Nat) (ls : List Txt) (i : Nat) :
    FileSpec ls (i + start) ((parseLinesFrom start i ls).map entry) := by
  induction ls generalizing i with
  | nil => exact ⟨List.Pairwise.nil, fun _ he => (nomatch he), fun _ _ hj => (nomatch hj)⟩
  | cons l ls ih =>
    have ih := ih (i + 1)
    rw [show i + 1 + start = i + start + 1 by omega] at ih
    by_cases hb : isBlank l = true
    · simpa only [parseLinesFrom, hb, if_true] using fileSpec_skip ih ((isBlank_iff l).mp hb)
    · have := fileSpec_keep ih (mt (isBlank_iff l).mpr hb)
      simpa only [parseLinesFrom, hb, Bool.false_eq_true, if_false, List.map_cons, entry, lineBase_eq,
        show i + 1 + start = i + start + 1 by omega] using this

theorem parseLinesFrom_out (start : Nat) (ls : List Txt) :
    ∀ i, ∀ f ∈ parseLinesFrom start i ls, f.out = parseLine f.text := by
  induction ls with
  | nil => intro i f hf; simp [parseLinesFrom] at hf
  | cons l ls ih =>
    intro i f hf
    simp only [parseLinesFrom] at hf
    split at hf
    · exact ih (i + 1) f hf
    · simp at hf; rcases hf with rfl | hf
      · rfl
      · exact ih (i + 1) f hf

end OsacaVerif.ParseA64
