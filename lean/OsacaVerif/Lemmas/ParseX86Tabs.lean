import OsacaVerif.Lemmas.ParseX86Line
/-
  C09 — tabs.  `parse_line` expands tabs (`str.expandtabs`) before the grammar runs.  On a rendered
  line this only replaces every tab of the layout by one to eight blanks, i.e. it yields the
  rendering of the *same AST under another layout*; the round trip for all layouts then covers it.

  `Exp t t'`: `t'` is `t` with every tab replaced by a non-empty run of blanks (a relation, so that
  no column arithmetic is needed; `expandTabs col t` is one such `t'` for every start column).
-/
namespace OsacaVerif.ParseX86
open OsacaVerif.Text OsacaVerif.X86 OsacaVerif.Spec.X86R

inductive Exp : Txt → Txt → Prop
  | nil : Exp [] []
  | tab {t t' : Txt} (n : Nat) : Exp t t' → Exp (9 :: t) (List.replicate (n + 1) 32 ++ t')
  | other {t t' : Txt} (c : Nat) : c ≠ 9 → Exp t t' → Exp (c :: t) (c :: t')

theorem exp_expandTabs (t : Txt) : ∀ col, Exp t (expandTabs col t) := by
  induction t with
  | nil => intro _; exact Exp.nil
  | cons c cs ih =>
    intro col
    unfold expandTabs
    by_cases h9 : c = 9
    · subst h9
      simp only [beq_self_eq_true, if_true]
      have : 8 - col % 8 = (7 - col % 8) + 1 := by omega
      rw [this]
      exact Exp.tab _ (ih 0)
    · have h9' : (c == 9) = false := by simp [h9]
      simp only [h9', Bool.false_eq_true, if_false]
      split
      · exact Exp.other c h9 (ih 0)
      · exact Exp.other c h9 (ih (col + 1))

theorem Exp.nil_inv {t' : Txt} (h : Exp [] t') : t' = [] := by cases h; rfl

theorem Exp.cons_inv {c : Nat} {rest t' : Txt} (hc : c ≠ 9) (h : Exp (c :: rest) t') :
    ∃ r', t' = c :: r' ∧ Exp rest r' := by
  cases h with
  | tab n h => exact absurd rfl hc
  | other _ _ h => exact ⟨_, rfl, h⟩

theorem Exp.solid_append {s rest t' : Txt} (hs : 9 ∉ s) (h : Exp (s ++ rest) t') :
    ∃ r', t' = s ++ r' ∧ Exp rest r' := by
  induction s generalizing t' with
  | nil => exact ⟨t', rfl, h⟩
  | cons c cs ih =>
    have hc : c ≠ 9 := by intro e; exact hs (by simp [e])
    obtain ⟨r1, h1, h2⟩ := Exp.cons_inv hc h
    obtain ⟨r2, h3, h4⟩ := ih (fun e => hs (by simp [e])) h2
    exact ⟨r2, by rw [h1, h3]; rfl, h4⟩

theorem Exp.blank_append {w rest t' : Txt} (hw : blank w = true) (h : Exp (w ++ rest) t') :
    ∃ w' r', t' = w' ++ r' ∧ blank w' = true ∧ w'.isEmpty = w.isEmpty ∧ Exp rest r' := by
  induction w generalizing t' with
  | nil => exact ⟨[], t', rfl, rfl, rfl, h⟩
  | cons c cs ih =>
    simp only [blank, List.all_cons, Bool.and_eq_true] at hw
    have hcs : blank cs = true := hw.2
    cases h with
    | tab n h =>
      obtain ⟨w1, r1, h1, h2, _, h4⟩ := ih hcs h
      refine ⟨List.replicate (n + 1) 32 ++ w1, r1, by rw [h1, List.append_assoc], ?_, by simp [List.replicate_succ], h4⟩
      simp only [blank, List.all_append, Bool.and_eq_true] at h2 ⊢
      exact ⟨by simp [isBlankC], h2⟩
    | other _ hc h =>
      obtain ⟨w1, r1, h1, h2, _, h4⟩ := ih hcs h
      refine ⟨c :: w1, r1, by rw [h1]; rfl, ?_, rfl, h4⟩
      simp only [blank, List.all_cons, Bool.and_eq_true] at h2 ⊢
      exact ⟨hw.1, h2⟩

/-! ### no tab inside the tokens of the domain -/

/-- a tab is a white character: a text without white characters has none -/
theorem noTab {t : Txt} (h : ∀ c ∈ t, isWs c = false) : 9 ∉ t :=
  fun hm => absurd (h 9 hm) (by decide)

theorem validReg_noTab {n : Txt} (h : validReg n = true) : 9 ∉ n :=
  noTab fun c hc => alnum_not_ws c ((validReg_spec h).2 c hc)

theorem validIdent_noTab {n : Txt} (h : validIdent n = true) : 9 ∉ n := by
  cases n with
  | nil => exact List.not_mem_nil
  | cons c r =>
    simp only [validIdent, Bool.and_eq_true, List.all_eq_true] at h
    exact noTab fun d hd => (List.mem_cons.mp hd).elim (fun e => e ▸ (spec_idStart c h.1).2.2)
      fun hr => idRest_not_ws d (spec_idChar d (h.2 d hr))

theorem renderInt_noTab (f : NumFmt) (v : Int) : 9 ∉ renderInt f v :=
  noTab fun c hc => idRest_not_ws c (renderInt_idRest f v c hc)

theorem validWord_noTab {w : Txt} (h : validWord w = true) : 9 ∉ w :=
  noTab fun c hc => Bool.eq_false_iff.mpr fun hw => by
    have := (validWord_spec h).2 c hc
    rw [ws_not_print c hw] at this; cases this

theorem validMnemonic_noTab {m : Txt} (h : validMnemonic m = true) : 9 ∉ m := by
  obtain ⟨_, _, rfl, _, hal, _, _⟩ := validMnemonic_spec h
  exact noTab fun c hc => alnum_not_ws c (hal c hc)

theorem validOff_noTab (f : NumFmt) (off : Option Off) (h : validOff off = true) : 9 ∉ renderOff f off := by
  rcases validOff_cases h with rfl | ⟨v, rfl⟩ | ⟨n, rfl, h⟩
  · exact List.not_mem_nil
  · exact renderInt_noTab f v
  · exact validIdent_noTab h

/-! ### an operand under tab expansion: the same operand under another layout -/

/-- what validity of an operand list needs of a re-layout `L'` of `L`: still bare or not, its blanks
    still blanks, `pre` empty iff it was -/
def ReL (L L' : OpLayout) : Prop :=
  L'.bare = L.bare ∧ L'.blanks.all blank = true ∧ L'.pre.isEmpty = L.pre.isEmpty

theorem exp_scale (L : OpLayout) (h6 : blank L.w6 = true) (h7 : blank L.w7 = true) (scale : Nat)
    {rest t' : Txt} (h : Exp (renderScale L scale ++ rest) t') :
    ∃ a b r', blank a = true ∧ blank b = true ∧
      t' = renderScale { L with w6 := a, w7 := b } scale ++ r' ∧ Exp rest r' := by
  unfold renderScale at h ⊢
  cases hsh : (scale != 1 || L.showScale) with
  | false =>
    simp only [hsh, Bool.false_eq_true, if_false, List.nil_append] at h ⊢
    exact ⟨L.w6, L.w7, t', h6, h7, rfl, h⟩
  | true =>
    simp only [hsh, if_true, List.cons_append, List.append_assoc] at h ⊢
    obtain ⟨r1, e1, h1⟩ := Exp.cons_inv (by decide) h
    obtain ⟨a, r2, e2, ha, _, h2⟩ := Exp.blank_append h6 h1
    obtain ⟨r3, e3, h3⟩ := Exp.cons_inv (show 48 + scale ≠ 9 by omega) h2
    obtain ⟨b, r4, e4, hb, _, h4⟩ := Exp.blank_append h7 h3
    exact ⟨a, b, r4, ha, hb, by rw [e1, e2, e3, e4], h4⟩

theorem exp_index (L : OpLayout) (hbl : L.blanks.all blank = true) (index : Option Txt) (scale : Nat)
    (hi : index.all validReg = true) {rest t' : Txt}
    (h : Exp (renderIndex L scale index ++ rest) t') :
    ∃ a4 a5 a6 a7 r', blank a4 = true ∧ blank a5 = true ∧ blank a6 = true ∧ blank a7 = true ∧
      t' = renderIndex { L with w4 := a4, w5 := a5, w6 := a6, w7 := a7 } scale index ++ r' ∧ Exp rest r' := by
  obtain ⟨_, _, _, _, _, h4, h5, h6, h7⟩ := blanks_all hbl
  cases index with
  | none =>
    simp only [renderIndex, List.nil_append] at h ⊢
    exact ⟨L.w4, L.w5, L.w6, L.w7, t', h4, h5, h6, h7, rfl, h⟩
  | some i =>
    simp only [Option.all_some] at hi
    simp only [renderIndex, List.cons_append, List.append_assoc] at h ⊢
    obtain ⟨r1, e1, h1⟩ := Exp.cons_inv (by decide) h
    obtain ⟨a4, r2, e2, ha4, _, h2⟩ := Exp.blank_append h4 h1
    obtain ⟨r3, e3, h3⟩ := Exp.cons_inv (by decide) h2
    obtain ⟨r4, e4, h4'⟩ := Exp.solid_append (validReg_noTab hi) h3
    obtain ⟨a5, r5, e5, ha5, _, h5'⟩ := Exp.blank_append h5 h4'
    obtain ⟨a6, a7, r6, ha6, ha7, e6, h6'⟩ := exp_scale L h6 h7 scale h5'
    refine ⟨a4, a5, a6, a7, r6, ha4, ha5, ha6, ha7, ?_, h6'⟩
    rw [e1, e2, e3, e4, e5, e6]
    simp only [renderScale]

theorem exp_base (L : OpLayout) (h3 : blank L.w3 = true) (base : Option Txt)
    (hb : base.all validReg = true) {rest t' : Txt} (h : Exp (renderBase L base ++ rest) t') :
    ∃ a3 r', blank a3 = true ∧ t' = renderBase { L with w3 := a3 } base ++ r' ∧ Exp rest r' := by
  cases base with
  | none =>
    simp only [renderBase, List.nil_append] at h ⊢
    exact ⟨L.w3, t', h3, rfl, h⟩
  | some b =>
    simp only [Option.all_some] at hb
    simp only [renderBase, List.cons_append, List.append_assoc] at h ⊢
    obtain ⟨r1, e1, h1⟩ := Exp.cons_inv (by decide) h
    obtain ⟨r2, e2, h2⟩ := Exp.solid_append (validReg_noTab hb) h1
    obtain ⟨a3, r3, e3, ha3, _, h3'⟩ := Exp.blank_append h3 h2
    exact ⟨a3, r3, ha3, by rw [e1, e2, e3], h3'⟩

/-- **an operand with its surrounding blanks**: expanding tabs yields the same operand under another
    layout -/
theorem exp_operand (L : OpLayout) (hbl : L.blanks.all blank = true) (o : Operand)
    (hv : validOperand o = true) {rest t' : Txt}
    (h : Exp (L.pre ++ (renderOperand L o ++ (L.post ++ rest))) t') :
    ∃ L' r', ReL L L' ∧ t' = L'.pre ++ (renderOperand L' o ++ (L'.post ++ r')) ∧ Exp rest r' := by
  obtain ⟨hpre, hpost, h1, h2, h3, h4, h5, h6, h7⟩ := blanks_all hbl
  obtain ⟨p', r1, e1, hp', hpe, hr1⟩ := Exp.blank_append hpre h
  -- every case: rebuild the layout from the new blanks
  have finish : ∀ M : OpLayout, M.bare = L.bare → M.blanks.all blank = true →
      (∀ a b, renderOperand { M with pre := a, post := b } o = renderOperand M o) →
      (∃ r2, r1 = renderOperand M o ++ r2 ∧ Exp (L.post ++ rest) r2) →
      ∃ L' r', ReL L L' ∧ t' = L'.pre ++ (renderOperand L' o ++ (L'.post ++ r')) ∧ Exp rest r' := by
    intro M hbr hMb hbody ⟨r2, e2, hr2⟩
    obtain ⟨q', r3, e3, hq', _, hr3⟩ := Exp.blank_append hpost hr2
    obtain ⟨_, _, m1, m2, m3, m4, m5, m6, m7⟩ := blanks_all hMb
    refine ⟨{ M with pre := p', post := q' }, r3, ⟨hbr, ?_, hpe⟩, ?_, hr3⟩
    · simp [OpLayout.blanks, hp', hq', m1, m2, m3, m4, m5, m6, m7]
    · rw [hbody p' q', e1, e2, e3]
  -- an operand without parentheses is one token: it has no tab and does not depend on the blanks
  have solid : 9 ∉ renderOperand L o →
      (∀ a b, renderOperand { L with pre := a, post := b } o = renderOperand L o) →
      ∃ L' r', ReL L L' ∧ t' = L'.pre ++ (renderOperand L' o ++ (L'.post ++ r')) ∧ Exp rest r' :=
    fun hnt hind => finish L rfl hbl hind (Exp.solid_append hnt hr1)
  have cons9 : ∀ {c : Nat} {t : Txt}, c ≠ 9 → 9 ∉ t → 9 ∉ c :: t :=
    fun hc ht h => (List.mem_cons.mp h).elim (fun e => hc e.symm) ht
  cases o with
  | reg n => exact solid (cons9 (by decide) (validReg_noTab hv)) fun _ _ => rfl
  | imm v => exact solid (cons9 (by decide) (renderInt_noTab L.num v)) fun _ _ => rfl
  | ident n =>
    have hn := validIdent_noTab (n := n) hv
    cases hbare : L.bare
    · exact solid (by simpa only [renderOperand, hbare, Bool.false_eq_true, if_false] using cons9 (by decide) hn)
        fun a b => by simp only [renderOperand, hbare]
    · exact solid (by simpa only [renderOperand, hbare, if_true] using hn)
        fun a b => by simp only [renderOperand, hbare]
  | mem off base index scale seg =>
    obtain ⟨_, hoff, hbv, hiv, _, _, ⟨v, rfl, rfl, rfl⟩ | hnn'⟩ := validMem_cases hv
    · exact solid (renderInt_noTab L.num v) fun _ _ => rfl
    · simp only [renderOperand, renderMem, hnn', Bool.false_eq_true, if_false, List.append_assoc,
        List.cons_append, List.nil_append] at hr1
      obtain ⟨s1, f1, g1⟩ := Exp.solid_append (validOff_noTab L.num off hoff) hr1
      obtain ⟨a1, s2, f2, ha1, _, g2⟩ := Exp.blank_append h1 g1
      obtain ⟨s3, f3, g3⟩ := Exp.cons_inv (by decide) g2
      obtain ⟨a2, s4, f4, ha2, _, g4⟩ := Exp.blank_append h2 g3
      obtain ⟨a3, s5, ha3, f5, g5⟩ := exp_base L h3 base hbv g4
      obtain ⟨a4, a5, a6, a7, s6, ha4, ha5, ha6, ha7, f6, g6⟩ :=
        exp_index L hbl index scale hiv g5
      obtain ⟨s7, f7, g7⟩ := Exp.cons_inv (by decide) g6
      refine finish { L with w1 := a1, w2 := a2, w3 := a3, w4 := a4, w5 := a5, w6 := a6, w7 := a7 }
        rfl ?_ (fun a b => rfl) ⟨s7, ?_, g7⟩
      · simp [OpLayout.blanks, hpre, hpost, ha1, ha2, ha3, ha4, ha5, ha6, ha7]
      · rw [f1, f2, f3, f4, f5, f6, f7]
        simp only [renderOperand, renderMem, hnn', Bool.false_eq_true, if_false, List.append_assoc,
          List.cons_append, List.nil_append]
        rfl

/-! ### operand lists, comments, the whole line -/

/-- an operand list: same operands, still valid under the new layouts -/
theorem exp_ops (E : Txt) : ∀ (ops : List (OpLayout × Operand)) (i : Nat), validOps i ops = true →
    ∀ {t' : Txt}, Exp (renderOps ops ++ E) t' →
      ∃ ops' r', validOps i ops' = true ∧ ops'.map (·.2) = ops.map (·.2) ∧
        t' = renderOps ops' ++ r' ∧ Exp E r' := by
  intro ops
  induction ops with
  | nil => intro _ _ t' h; exact ⟨[], t', rfl, rfl, rfl, h⟩
  | cons p ps ih =>
    intro i hv t' h
    obtain ⟨L, o⟩ := p
    simp only [validOps, Bool.and_eq_true] at hv
    obtain ⟨⟨⟨⟨hvo, hbl⟩, hbare⟩, hpre⟩, hps⟩ := hv
    rw [renderOps_cons] at h
    obtain ⟨L', r1, ⟨hb', hbl', hpe⟩, e1, h1⟩ := exp_operand L hbl o hvo h
    have hhead : ∀ ops'', validOps (i + 1) ops'' = true → validOps i ((L', o) :: ops'') = true := by
      intro ops'' h''
      simp only [validOps, Bool.and_eq_true]
      exact ⟨⟨⟨⟨hvo, hbl'⟩, by rw [hb']; exact hbare⟩, by rw [hpe]; exact hpre⟩, h''⟩
    cases ps with
    | nil => exact ⟨[(L', o)], r1, hhead [] rfl, rfl, by rw [renderOps_cons]; exact e1, h1⟩
    | cons q qs =>
      obtain ⟨r2, e2, h2⟩ := Exp.cons_inv (by decide) h1
      obtain ⟨ops'', r3, hv'', hm, e3, h3⟩ := ih (i + 1) hps h2
      cases ops'' with
      | nil => cases hm
      | cons q' qs' =>
        refine ⟨(L', o) :: q' :: qs', r3, hhead _ hv'', by rw [List.map_cons, hm]; rfl, ?_, h3⟩
        rw [renderOps_cons, e1, e2, e3]; rfl

/-- the words of a comment: same words, gaps still blank and empty only where they were -/
theorem exp_words : ∀ (ws : List (Txt × Txt)), validGaps ws = true → ∀ {rest t' : Txt},
    Exp (renderWords ws ++ rest) t' →
    ∃ ws' r', ws'.map (·.2) = ws.map (·.2) ∧
      ws'.all (fun p => !p.1.isEmpty) = ws.all (fun p => !p.1.isEmpty) ∧ validGaps ws' = true ∧
      t' = renderWords ws' ++ r' ∧ Exp rest r' := by
  intro ws
  induction ws with
  | nil => intro _ rest t' h; exact ⟨[], t', rfl, rfl, rfl, rfl, h⟩
  | cons p ps ih =>
    intro hv rest t' h
    obtain ⟨g, w⟩ := p
    simp only [validGaps, Bool.and_eq_true] at hv
    obtain ⟨⟨⟨hg, hw⟩, hne⟩, hps⟩ := hv
    simp only [renderWords, List.append_assoc] at h
    obtain ⟨g', r1, e1, hg', hge, h1⟩ := Exp.blank_append hg h
    obtain ⟨r2, e2, h2⟩ := Exp.solid_append (validWord_noTab hw) h1
    obtain ⟨ws', r3, hm, hall, hv', e3, h3⟩ := ih hps h2
    refine ⟨(g', w) :: ws', r3, by rw [List.map_cons, hm]; rfl, by simp only [List.all_cons, hall, hge],
      ?_, by simp only [renderWords, e1, e2, e3, List.append_assoc], h3⟩
    simp only [validGaps, Bool.and_eq_true]
    exact ⟨⟨⟨hg', hw⟩, by rw [hall]; exact hne⟩, hv'⟩

/-- **a whole instruction line**: expanding its tabs gives the rendering of the same AST under
    another valid layout -/
theorem exp_line (l : Line) (hv : l.valid = true) {t' : Txt} (h : Exp (renderLine l) t') :
    ∃ l' : Line, l'.valid = true ∧ l'.expected = l.expected ∧ t' = renderLine l' := by
  simp only [Line.valid, Bool.and_eq_true, decide_eq_true_eq] at hv
  obtain ⟨⟨⟨⟨⟨hmn, hind⟩, htr⟩, hlen⟩, hops⟩, hcm⟩ := hv
  unfold renderLine at h
  obtain ⟨i', r1, e1, hi', _, h1⟩ := Exp.blank_append hind h
  obtain ⟨r2, e2, h2⟩ := Exp.solid_append (validMnemonic_noTab hmn) h1
  obtain ⟨ops', r3, hvops, hmap, e3, h3⟩ := exp_ops _ l.ops 0 hops h2
  obtain ⟨tr', r4, e4, htr', _, h4⟩ := Exp.blank_append htr h3
  have hlen' : ops'.length = l.ops.length := by simpa using congrArg List.length hmap
  cases hc : l.comment with
  | none =>
    rw [hc] at h4
    have e5 := Exp.nil_inv h4
    refine ⟨{ indent := i', mn := l.mn, ops := ops', trail := tr', comment := none }, ?_, ?_, ?_⟩
    · simp [Line.valid, hmn, hi', htr', hlen', hlen, hvops]
    · simp [Line.expected, hmap, hc]
    · simp [renderLine, e1, e2, e3, e4, e5]
  | some c =>
    rw [hc] at h4 hcm
    simp only [validComment, Bool.and_eq_true] at hcm
    simp only [renderComment] at h4
    have hsym : (9 : Nat) ∉ (if c.slashes then [47, 47] else [35]) := by
      cases c.slashes <;> simp
    obtain ⟨r5, e5, h5⟩ := Exp.solid_append hsym h4
    obtain ⟨ws', r6, hw1, _, hw3, e6, h6⟩ := exp_words c.words hcm.1 h5
    have h6' : Exp (c.last ++ []) r6 := by simpa using h6
    obtain ⟨la', r7, e7, hla', _, h7⟩ := Exp.blank_append hcm.2 h6'
    have e8 := Exp.nil_inv h7
    refine ⟨{ indent := i', mn := l.mn, ops := ops', trail := tr',
              comment := some { slashes := c.slashes, words := ws', last := la' } }, ?_, ?_, ?_⟩
    · simp [Line.valid, hmn, hi', htr', hlen', hlen, hvops, validComment, hw3, hla']
    · simp [Line.expected, hmap, hc, hw1]
    · simp [renderLine, renderComment, e1, e2, e3, e4, e5, e6, e7, e8]

/-- **the round trip through `parse_line`, tabs included** -/
theorem roundtrip_full (l : Line) (hv : l.valid = true) : parseLine (renderLine l) = .ok l.expected := by
  obtain ⟨l', hv', he, ht⟩ := exp_line l hv (exp_expandTabs (renderLine l) 0)
  unfold parseLine
  rw [ht, roundtrip_expanded l' hv', he]

end OsacaVerif.ParseX86
