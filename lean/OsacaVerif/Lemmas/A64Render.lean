import OsacaVerif.Lemmas.A64Line
/-
  From the specification's renderer (`Spec.A64.render`: pieces and a list of gaps) to the shape of a line
  the lemmas of `A64Line` speak about, and the round trip of a whole rendered instruction line for
  operands that are `CoveredOp`.
-/
namespace OsacaVerif.ParseA64
open OsacaVerif.Text OsacaVerif.Spec.A64 OsacaVerif.Gen

/-- pieces of one operand after the first piece, with the gaps in front of them -/
def joinInner : List Piece → List Txt → Txt
  | [], _ => []
  | p :: ps, g :: gs => g ++ (p.1 ++ joinInner ps gs)
  | p :: ps, [] => p.1 ++ joinInner ps []

def InnerOk : List Piece → List Txt → Prop
  | [], gs => gs = []
  | p :: ps, g :: gs => Blank g ∧ (p.2 = 2 → g ≠ []) ∧ InnerOk ps gs
  | _ :: _, [] => False

theorem layoutOk_cons {p : Piece} {ps : List Piece} {gs : List Txt} (h : LayoutOk (p :: ps) gs) :
    ∃ g gs', gs = g :: gs' ∧ Blank g ∧ (p.2 = 2 → g ≠ []) ∧ LayoutOk ps gs' := by
  cases gs with
  | nil => exact absurd h (by simp [LayoutOk])
  | cons g gs' => exact ⟨g, gs', rfl, h.1, h.2.1, h.2.2⟩

/-- splitting a layout at the end of a group of pieces -/
theorem layout_split (ps1 ps2 : List Piece) (gs : List Txt) (h : LayoutOk (ps1 ++ ps2) gs) :
    ∃ gs1 gs2, InnerOk ps1 gs1 ∧ LayoutOk ps2 gs2 ∧
      joinPieces (ps1 ++ ps2) gs = joinInner ps1 gs1 ++ joinPieces ps2 gs2 := by
  induction ps1 generalizing gs with
  | nil => exact ⟨[], gs, rfl, h, rfl⟩
  | cons p ps1 ih =>
    obtain ⟨g, gs', rfl, hg, hk, hrest⟩ := layoutOk_cons h
    obtain ⟨gs1, gs2, hi, hl, hj⟩ := ih gs' hrest
    refine ⟨g :: gs1, gs2, ⟨hg, hk, hi⟩, hl, ?_⟩
    simp [joinPieces, joinInner, hj, List.append_assoc]

/-- an operand kind for which the round trip is proved: its first piece has an unconstrained gap, and
    for every layout of its inner pieces the text is read in its slot (`GoodFirst` for the first operand,
    `GoodRest` for a later one); the post-processing of the raw operand
    gives what the specification expects -/
def CoveredOp (last fst : Bool) (o : OpA) : Prop :=
  ∃ t1 ps raw, opPieces o = (t1, 1) :: ps ∧
    (∀ gs, InnerOk ps gs →
      if fst then GoodFirst last (t1 ++ joinInner ps gs) raw else GoodRest last (t1 ++ joinInner ps gs) raw) ∧
    processOperand raw = .ok (expectOp o)

/-- every operand is covered at its position; only the last one may be of a kind that has to be last,
    and the first one must be of a kind that may stand first (`fst` = the head of the list is the
    first operand of the line) -/
def OpsCovered : Bool → List OpA → Prop
  | _, [] => True
  | fst, o :: os => CoveredOp os.isEmpty fst o ∧ OpsCovered false os

theorem isEmpty_congr {α β : Type} {l : List α} {m : List β} (h : l.length = m.length) :
    l.isEmpty = m.isEmpty := by
  cases l <;> cases m <;> simp_all

/-- the later operands of a rendered line have the shape `restText` -/
theorem rest_ops_form (os : List OpA) (cps : List Piece) (gs : List Txt) (hc : OpsCovered false os)
    (h : LayoutOk (opsPieces false os ++ cps) gs) :
    ∃ (slots : List Slot) (gs' : List Txt), SlotsOk slots ∧ slots.length = os.length ∧ LayoutOk cps gs' ∧
      joinPieces (opsPieces false os ++ cps) gs = restText slots (joinPieces cps gs') ∧
      processOperands (slots.map (·.raw)) = .ok (os.map expectOp).flatten := by
  induction os generalizing gs with
  | nil => exact ⟨[], gs, trivial, rfl, h, rfl, rfl⟩
  | cons o os ih =>
    obtain ⟨⟨t1, ps, raw, hp, hgood, hproc⟩, hrest⟩ := hc
    -- pieces: comma, first piece of the operand, its inner pieces, the rest
    have hshape : opsPieces false (o :: os) ++ cps = ([44], 1) :: (t1, 1) :: (ps ++ (opsPieces false os ++ cps)) := by
      rw [opsPieces, hp]; simp only [List.cons_append, List.append_assoc]
    rw [hshape] at h ⊢
    obtain ⟨g1, gs1, rfl, hg1, _, h1⟩ := layoutOk_cons h
    obtain ⟨g2, gs2, rfl, hg2, _, h2⟩ := layoutOk_cons h1
    obtain ⟨gi, gr, hi, hl, hj⟩ := layout_split ps _ gs2 h2
    obtain ⟨slots, gs', hs, hlen, hl', hj', hpr⟩ := ih gr hrest hl
    refine ⟨⟨g1, g2, t1 ++ joinInner ps gi, raw⟩ :: slots, gs', ⟨hg1, hg2, ?_, hs⟩, congrArg (· + 1) hlen, hl', ?_, ?_⟩
    · rw [isEmpty_congr hlen]; exact hgood gi hi
    · simp only [joinPieces, restText, hj, hj', List.append_assoc, List.cons_append, List.nil_append]
    · simp only [List.map_cons, processOperands, hproc, hpr, List.flatten_cons]

def WordsOk : Option (List Txt) → Prop
  | none => True
  | some ws => ∀ w ∈ ws, IsWord w

theorem comment_words_form (ws : List Txt) (gs : List Txt) (hw : ∀ w ∈ ws, IsWord w)
    (h : LayoutOk (ws.map (fun x => (x, 2))) gs) :
    ∃ (xs : List (Txt × Txt)) (gEnd : Txt), BodyOk xs ∧ FirstGapNe xs ∧ Blank gEnd ∧ xs.map (·.2) = ws ∧
      joinPieces (ws.map (fun x => (x, 2))) gs = commentBody xs gEnd := by
  induction ws generalizing gs with
  | nil =>
    obtain ⟨g, rfl, hg⟩ := h
    exact ⟨[], g, trivial, trivial, hg, rfl, rfl⟩
  | cons w ws ih =>
    obtain ⟨g, gs', rfl, hg, hk, hrest⟩ := layoutOk_cons h
    obtain ⟨xs, gEnd, hb, hf, hgE, hm, hj⟩ := ih gs' (fun x hx => hw x (by simp [hx])) hrest
    refine ⟨(g, w) :: xs, gEnd, ⟨hg, hw w (by simp), hf, hb⟩, hk rfl, hgE, by simp [hm], ?_⟩
    simp [joinPieces, commentBody, hj, List.append_assoc]

/-- the end of a rendered line has the shape `LineTail` -/
theorem comment_form (c : Option (List Txt)) (gs : List Txt) (hw : WordsOk c)
    (h : LayoutOk (commentPieces c) gs) :
    ∃ t : LineTail, t.Ok ∧ joinPieces (commentPieces c) gs = t.text ∧ t.words = c := by
  match c, hw, h with
  | none, _, h =>
    obtain ⟨g, rfl, hg⟩ := h
    exact ⟨⟨g, none⟩, ⟨hg, trivial⟩, rfl, rfl⟩
  | some [], _, h =>
    obtain ⟨g, gs', rfl, hg, _, hrest⟩ := layoutOk_cons h
    obtain ⟨gE, rfl, hgE⟩ := hrest
    exact ⟨⟨g, some ([], gE)⟩, ⟨hg, trivial, hgE⟩, by simp [commentPieces, joinPieces, LineTail.text, commentBody], rfl⟩
  | some (w :: ws), hw, h =>
    obtain ⟨g, gs', rfl, hg, _, hrest⟩ := layoutOk_cons h
    obtain ⟨gw, gs'', rfl, hgw, _, hrest'⟩ := layoutOk_cons hrest
    obtain ⟨xs, gEnd, hb, hf, hgE, hm, hj⟩ :=
      comment_words_form ws gs'' (fun x hx => hw x (by simp [hx])) hrest'
    refine ⟨⟨g, some ((gw, w) :: xs, gEnd)⟩, ⟨hg, ⟨hgw, hw w (by simp), hf, hb⟩, hgE⟩, ?_, ?_⟩
    · simp [commentPieces, joinPieces, LineTail.text, commentBody, hj, List.append_assoc]
    · simp [LineTail.words, hm]

theorem joinSp_eq (l : List Txt) : joinSp l = joinWords l := by
  induction l with
  | nil => rfl
  | cons w ws ih =>
    cases ws with
    | nil => rfl
    | cons v vs => simp only [joinSp, joinWords, ih]

theorem optMap_eq {α β : Type} (f : α → β) (o : Option α) : o.map f = optMap f o := by
  cases o <;> rfl

/-- mnemonic: alphanumerics and dots, not starting with a dot -/
def MnemOk (mn : Txt) : Prop := ∃ m ms, mn = m :: ms ∧ (∀ c ∈ m :: ms, isMnemC c = true) ∧ m ≠ 46

/-- an instruction the round trip speaks about: a mnemonic, as many operands as the grammar has slots
    (`A64.operandSlots`), comment words that are words -/
structure InstrOk (a : InstrA) : Prop where
  mn : MnemOk a.mn
  slots : a.ops.length ≤ 5
  words : WordsOk a.comment

/-- what follows the mnemonic of a rendered line has the shape `afterMnemonic` -/
theorem ops_form (ops : List OpA) (c : Option (List Txt)) (gs : List Txt) (hlen : ops.length ≤ 5)
    (hw : WordsOk c) (hc : OpsCovered true ops) (h : LayoutOk (opsPieces true ops ++ commentPieces c) gs) :
    ∃ (first : Option (Txt × Txt × RawOp)) (slots : List Slot) (t : LineTail), FirstOk first slots ∧ slots.length ≤ 4 ∧ t.Ok ∧ t.words = c ∧
      joinPieces (opsPieces true ops ++ commentPieces c) gs = afterMnemonic first slots t.text ∧
      processOperands (firstRaw first ++ slots.map (·.raw)) = .ok (ops.map expectOp).flatten := by
  cases ops with
  | nil =>
    obtain ⟨t, htok, hj, hwd⟩ := comment_form c gs hw h
    exact ⟨none, [], t, rfl, Nat.zero_le _, htok, hwd, hj, rfl⟩
  | cons o os =>
    obtain ⟨⟨t1, ps, raw, hp, hgood, hproc⟩, hrest⟩ := hc
    have hshape : opsPieces true (o :: os) ++ commentPieces c =
        (t1, 2) :: (ps ++ (opsPieces false os ++ commentPieces c)) := by
      rw [opsPieces, hp]; simp only [List.cons_append, List.append_assoc]
    rw [hshape] at h ⊢
    obtain ⟨g1, gs1, rfl, hg1, hk1, h1⟩ := layoutOk_cons h
    obtain ⟨gi, gr, hi, hl2, hj2⟩ := layout_split ps _ gs1 h1
    obtain ⟨slots, gs', hs, hsl, hl', hj', hpr⟩ := rest_ops_form os _ gr hrest hl2
    obtain ⟨t, htok, hj, hwd⟩ := comment_form c gs' hw hl'
    refine ⟨some (g1, t1 ++ joinInner ps gi, raw), slots, t, ⟨hg1, hk1 rfl, ?_, hs⟩, ?_, htok, hwd, ?_, ?_⟩
    · rw [isEmpty_congr hsl]; exact hgood gi hi
    · rw [hsl]; exact Nat.le_of_succ_le_succ hlen
    · simp only [joinPieces, afterMnemonic, hj2, hj', hj, List.append_assoc]
    · simp only [firstRaw, List.singleton_append, List.map_cons, processOperands, hproc, hpr, List.flatten_cons]

/-- **round trip of a rendered instruction line** for every instruction whose operands are covered:
    ∀ mnemonic, ∀ operand lists that fit the slots, ∀ layout, ∀ trailing comment -/
theorem roundtrip_covered (a : InstrA) (gaps : List Txt) (hok : InstrOk a) (hc : OpsCovered true a.ops)
    (hl : LayoutOk (linePieces a) gaps) : parseLine (render a gaps) = .ok (expectLine a) := by
  obtain ⟨m, ms, hmn, hmc, hm46⟩ := hok.mn
  obtain ⟨g0, gs0, rfl, hg0, _, h0⟩ := layoutOk_cons hl
  obtain ⟨first, slots, t, hfo, hslots, htok, hw, hj, hpr⟩ :=
    ops_form a.ops a.comment gs0 hok.slots hok.words hc h0
  have hline : render a (g0 :: gs0) = g0 ++ (m :: ms ++ afterMnemonic first slots t.text) := by
    rw [← hj, ← hmn, ← List.append_assoc]; rfl
  obtain ⟨c1, c2, c3, c4⟩ := not_other_class g0 m ms first slots t hg0 hmc hm46 hfo htok
  rw [hline, parseLine, c1, c2, c3, c4, instrLine, instrP_line g0 m ms first slots t hg0 hmc hfo hslots htok]
  simp only [hpr]
  rw [expectLine, hmn, ← hw, ← optMap_eq, ← (funext joinSp_eq : joinSp = joinWords)]
end OsacaVerif.ParseA64
