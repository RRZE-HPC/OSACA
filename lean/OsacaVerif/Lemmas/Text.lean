import OsacaVerif.Model.Text
namespace OsacaVerif.Text

@[simp] theorem upperC_upperC (c : Nat) : upperC (upperC c) = upperC c := by
  unfold upperC; grind
@[simp] theorem lowerC_upperC (c : Nat) : lowerC (upperC c) = lowerC c := by
  unfold upperC lowerC; grind
@[simp] theorem upperC_lowerC (c : Nat) : upperC (lowerC c) = upperC c := by
  unfold upperC lowerC; grind
@[simp] theorem lowerC_lowerC (c : Nat) : lowerC (lowerC c) = lowerC c := by
  unfold lowerC; grind
@[simp] theorem isDigitC_upperC (c : Nat) : isDigitC (upperC c) = isDigitC c := by
  unfold upperC isDigitC; grind
@[simp] theorem isDigitC_lowerC (c : Nat) : isDigitC (lowerC c) = isDigitC c := by
  unfold lowerC isDigitC; grind

@[simp] theorem upper_upper (t : Txt) : upper (upper t) = upper t := by
  simp [upper, List.map_map, Function.comp_def]
@[simp] theorem lower_upper (t : Txt) : lower (upper t) = lower t := by
  simp [upper, lower, List.map_map, Function.comp_def]
@[simp] theorem upper_lower (t : Txt) : upper (lower t) = upper t := by
  simp [upper, lower, List.map_map, Function.comp_def]
@[simp] theorem lower_lower (t : Txt) : lower (lower t) = lower t := by
  simp [lower, List.map_map, Function.comp_def]

@[simp] theorem rstripDigits_upper (t : Txt) : rstripDigits (upper t) = upper (rstripDigits t) := by
  induction t with
  | nil => rfl
  | cons c cs ih =>
    simp only [upper, List.map_cons, rstripDigits] at ih ⊢
    rw [ih]
    cases h : rstripDigits cs with
    | nil => simp; split <;> simp
    | cons x xs => simp

@[simp] theorem anyDigit_upper (t : Txt) : anyDigit (upper t) = anyDigit t := by
  simp [anyDigit, upper, List.any_map, Function.comp_def]

theorem rstripDigits_prefix (t : Txt) : ∃ s, t = rstripDigits t ++ s := by
  induction t with
  | nil => exact ⟨[], rfl⟩
  | cons c cs ih =>
    obtain ⟨s, hs⟩ := ih
    unfold rstripDigits
    split
    · split
      · exact ⟨c :: cs, rfl⟩
      · exact ⟨cs, rfl⟩
    · exact ⟨s, by simp [← hs]⟩

theorem startsWith_append (p s : Txt) : startsWith (p ++ s) p = true := by
  induction p with
  | nil => cases s <;> rfl
  | cons c p ih => simpa [startsWith] using ih

theorem spanDigits_of_not_anyDigit (t : Txt) (h : anyDigit t = false) : (spanDigits t).1 = [] := by
  cases t with
  | nil => rfl
  | cons c cs =>
    have hc : isDigitC c = false := by
      simp [anyDigit] at h; exact h.1
    simp [spanDigits, hc]

/-- Python `"c" in s` for a one-character string is membership -/
theorem isInfix_singleton (c : Nat) (s : Txt) : isInfix [c] s = s.contains c := by
  induction s with
  | nil => rfl
  | cons x xs ih => simp only [isInfix, startsWith, ih, List.contains_cons, Bool.and_true, Bool.beq_comm]

end OsacaVerif.Text
