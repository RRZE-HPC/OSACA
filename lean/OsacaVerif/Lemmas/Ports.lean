import OsacaVerif.Spec.Feasible
import Mathlib.Algebra.Order.Field.Rat
import Mathlib.Algebra.BigOperators.Group.List.Basic
import Mathlib.Data.List.GetD
import Mathlib.Tactic.Ring

namespace OsacaVerif.Ports
open OsacaVerif OsacaVerif.Spec

/-! ### vectors are compared entry by entry, through `getD · 0` -/

theorem ext_getD {a b : List Rat} (hl : a.length = b.length)
    (h : ∀ j < a.length, a.getD j 0 = b.getD j 0) : a = b :=
  List.ext_getElem hl fun j h1 h2 => by
    rw [← List.getD_eq_getElem a 0 h1, ← List.getD_eq_getElem b 0 h2]
    exact h j h1

theorem getD_map_range (f : Nat → Rat) (n j : Nat) (hj : j < n) :
    ((List.range n).map f).getD j 0 = f j := by
  rw [List.getD_eq_getElem _ _ (by rwa [List.length_map, List.length_range]), List.getElem_map,
    List.getElem_range]

theorem getD_zeros (n j : Nat) : (zeros n).getD j 0 = 0 := by
  rw [zeros, List.getD_eq_getElem?_getD, List.getElem?_getD_replicate_default_eq]

/-! ### maximum of a list by `foldl max` -/

theorem foldl_max_le_iff (l : List Rat) (m B : Rat) :
    l.foldl max m ≤ B ↔ m ≤ B ∧ ∀ x ∈ l, x ≤ B := by
  induction l generalizing m with
  | nil => simp only [List.foldl_nil, List.not_mem_nil, false_imp_iff, implies_true, and_true]
  | cons a l ih =>
    simp only [List.foldl_cons, ih, max_le_iff, List.mem_cons, forall_eq_or_imp, and_assoc]

theorem le_foldl_max (l : List Rat) (m : Rat) : m ≤ l.foldl max m ∧ ∀ x ∈ l, x ≤ l.foldl max m :=
  (foldl_max_le_iff l m _).mp le_rfl

theorem foldl_max_mem (l : List Rat) (m : Rat) : l.foldl max m = m ∨ l.foldl max m ∈ l := by
  induction l generalizing m with
  | nil => exact .inl rfl
  | cons a l ih =>
    rw [List.foldl_cons]
    rcases ih (max m a) with h | h
    · rw [h]
      exact (max_choice m a).imp_right fun e => by rw [e]; exact List.mem_cons_self
    · exact .inr (List.mem_cons_of_mem _ h)

/-! ### the loops of `average_port_pressure` and their closed form -/

@[simp] theorem length_addAt (v : List Rat) (i : Nat) (x : Rat) : (addAt v i x).length = v.length := by
  induction v generalizing i with
  | nil => rfl
  | cons a as ih => cases i <;> simp only [addAt, List.length_cons, ih]

theorem getD_addAt (v : List Rat) (i j : Nat) (x : Rat) (hi : i < v.length) :
    (addAt v i x).getD j 0 = v.getD j 0 + (if i = j then x else 0) := by
  induction v generalizing i j with
  | nil => exact absurd hi (Nat.not_lt_zero _)
  | cons a as ih =>
    cases i with
    | zero =>
      cases j <;> simp only [addAt, List.getD_cons_zero, List.getD_cons_succ, reduceIte,
        (Nat.succ_ne_zero _).symm, add_zero]
    | succ i =>
      cases j with
      | zero => simp only [addAt, List.getD_cons_zero, reduceIte, Nat.succ_ne_zero, add_zero]
      | succ j =>
        simp only [addAt, List.getD_cons_succ, ih i j (Nat.lt_of_succ_lt_succ hi),
          Nat.add_right_cancel_iff]

@[simp] theorem length_addPorts (v : List Rat) (c : Rat) (ps : List Nat) :
    (addPorts v c ps).length = v.length := by
  induction ps generalizing v with
  | nil => rfl
  | cons p ps ih => rw [addPorts, ih, length_addAt]

theorem getD_addPorts (v : List Rat) (c : Rat) (ps : List Nat) (j : Nat)
    (h : ∀ p ∈ ps, p < v.length) :
    (addPorts v c ps).getD j 0 = v.getD j 0 + (ps.count j : Rat) * c := by
  induction ps generalizing v with
  | nil => rw [addPorts, List.count_nil, Nat.cast_zero, zero_mul, add_zero]
  | cons p ps ih =>
    rw [addPorts, ih _ fun q hq => (length_addAt v p c).symm ▸ h q (List.mem_cons_of_mem _ hq),
      getD_addAt v p j c (h p List.mem_cons_self), List.count_cons]
    simp only [beq_iff_eq]
    split_ifs <;> push_cast <;> ring

@[simp] theorem length_accumulate (v : List Rat) (us : List Uop) :
    (accumulate v us).length = v.length := by
  induction us generalizing v with
  | nil => rfl
  | cons u us ih => rw [accumulate, ih, length_addPorts]

theorem getD_accumulate (v : List Rat) (us : List Uop) (j : Nat)
    (h : ∀ u ∈ us, ∀ p ∈ u.ports, p < v.length) :
    (accumulate v us).getD j 0 = v.getD j 0 + (us.map (share · j)).sum := by
  induction us generalizing v with
  | nil => rw [accumulate, List.map_nil, List.sum_nil, add_zero]
  | cons u us ih =>
    rw [accumulate, List.map_cons, List.sum_cons,
      ih _ fun u' hu' p hp => (length_addPorts v _ _).symm ▸ h u' (List.mem_cons_of_mem _ hu') p hp,
      getD_addPorts _ _ _ _ (h u List.mem_cons_self), add_assoc]
    rfl

theorem length_uniform (n : Nat) (us : List Uop) : (uniform n us).length = n := by
  rw [uniform, List.length_map, List.length_range]

theorem getD_uniform (n : Nat) (us : List Uop) (j : Nat) (hj : j < n) :
    (uniform n us).getD j 0 = (us.map (share · j)).sum :=
  getD_map_range _ n j hj

theorem uniform_nil (n : Nat) : uniform n [] = zeros n := by
  simp [uniform, zeros, List.map_const']

/-- **The loop of `average_port_pressure` computes the closed form** (∀ micro-op lists). -/
theorem average_eq_uniform (n : Nat) (us : List Uop) (h : ∀ u ∈ us, ∀ p ∈ u.ports, p < n) :
    average n us = uniform n us := by
  have hz : (zeros n).length = n := List.length_replicate
  refine ext_getD (by rw [average, length_accumulate, hz, length_uniform]) fun j hj => ?_
  rw [average, length_accumulate, hz] at hj
  rw [average, getD_accumulate _ us j (by rwa [hz]), getD_zeros, zero_add, getD_uniform n us j hj]

end OsacaVerif.Ports
