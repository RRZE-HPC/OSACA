import OsacaVerif.Model.Workers
/-
  Lemmas about the static partition, about interleavings, and about the poll loop and the waiting
  part (C16, C19).  Core Lean only.
-/
namespace OsacaVerif.Workers

/-! ### the scheduling expressions, unfolded (these break when the source expressions change) -/

theorem workload_eq (klen n : Nat) : workload klen n = (klen - 1) / n + 1 := rfl
theorem start_eq (klen n t : Nat) : start klen n t = t * workload klen n := rfl
theorem stop_eq (klen n t : Nat) : stop klen n t = min ((t + 1) * workload klen n) klen := rfl

theorem workload_pos (klen n : Nat) : 0 < workload klen n := by
  rw [workload_eq]; exact Nat.succ_pos _

/-- the workers' capacity reaches the end of the kernel -/
theorem le_mul_workload (klen n : Nat) (hn : 1 ≤ n) : klen ≤ n * workload klen n := by
  have := Nat.lt_mul_div_succ (klen - 1) hn
  rw [workload_eq]
  omega

/-! ### the slices handed to the workers -/

theorem slices_eq (kernel : List α) (n : Nat) :
    slices kernel n = (List.range n).map fun t =>
      pySlice kernel (start kernel.length n t) (stop kernel.length n t) := by
  simp [slices, partition, List.zip_map', List.map_map, Function.comp_def]

theorem take_append_slice (l : List α) (a b : Nat) (h : a ≤ b) :
    l.take a ++ pySlice l a b = l.take b := by
  unfold pySlice
  have : l.take a = (l.take b).take a := by rw [List.take_take, Nat.min_eq_left h]
  rw [this, List.take_append_drop]

theorem flatten_slices_prefix (l : List α) (w m : Nat) :
    ((List.range m).map fun t => pySlice l (t * w) (min ((t + 1) * w) l.length)).flatten
      = l.take (m * w) := by
  induction m with
  | zero => simp
  | succ m ih =>
    rw [List.range_succ, List.map_append, List.flatten_append, ih]
    simp only [List.map_cons, List.map_nil, List.flatten_cons, List.flatten_nil, List.append_nil]
    -- cutting the slice at the end of the kernel or not makes no difference
    rw [pySlice, ← List.take_take, List.take_length, ← pySlice,
      take_append_slice l _ _ (Nat.mul_le_mul_right w (Nat.le_succ m))]

/-! ### arrival orders: interleavings of the workers' queues -/

theorem flatten_set_perm {β : Type} (qs : List (List β)) (i : Nat) (x : β) (rest : List β)
    (h : qs[i]? = some (x :: rest)) : qs.flatten.Perm (x :: (qs.set i rest).flatten) := by
  induction qs generalizing i with
  | nil => simp at h
  | cons q qs ih =>
    cases i with
    | zero =>
      obtain rfl : q = x :: rest := Option.some.inj h
      exact List.Perm.refl _
    | succ i => exact (List.Perm.append_left q (ih i h)).trans List.perm_middle

theorem Interleave.perm {β : Type} {qs : List (List β)} {out : List β} (h : Interleave qs out) :
    out.Perm qs.flatten := by
  induction h with
  | done hnil => rw [List.flatten_eq_nil_iff.mpr hnil]
  | step i x rest hget _ ih =>
    exact (List.Perm.cons x ih).trans (flatten_set_perm _ i x rest hget).symm

theorem Interleave.cons_nil {β : Type} {qs : List (List β)} {out : List β} (h : Interleave qs out) :
    Interleave ([] :: qs) out := by
  induction h with
  | done hnil =>
    exact Interleave.done (List.forall_mem_cons.mpr ⟨rfl, hnil⟩)
  | step i x rest hget _ ih =>
    exact Interleave.step (i + 1) x rest (by simpa using hget) (by simpa using ih)

theorem Interleave.cons_queue {β : Type} {qs : List (List β)} {out : List β} (q : List β)
    (h : Interleave qs out) : Interleave (q :: qs) (q ++ out) := by
  induction q with
  | nil => exact h.cons_nil
  | cons x q ih => exact Interleave.step 0 x q (by simp) (by simpa using ih)

theorem interleave_flatten {β : Type} (qs : List (List β)) : Interleave qs qs.flatten := by
  induction qs with
  | nil => exact Interleave.done (by simp)
  | cons q qs ih => simpa using ih.cons_queue q

theorem merge_interleave {β : Type} (sched : List Nat) (qs : List (List β)) :
    Interleave qs (merge sched qs) := by
  induction sched generalizing qs with
  | nil => exact interleave_flatten qs
  | cons i sched ih =>
    unfold merge
    split
    · next x rest h => exact Interleave.step i x rest h (ih _)
    · exact ih qs

/-! ### the poll loop and the waiting part -/

/-- How the loop is left: all earlier readings were within the timeout; the last one is beyond it
    (`else`) or within it with no worker alive (`break`). -/
theorem poll_eq_some {start timeout : Rat} {ws : List (Worker β)} {ticks : List Rat} {t : Rat} {b : Bool}
    (h : poll start timeout ws ticks = some (t, b)) :
    ∃ pre post, ticks = pre ++ t :: post ∧ (∀ x ∈ pre, withinTimeout start timeout x = true)
      ∧ withinTimeout start timeout t = !b ∧ (b = false → ∀ w ∈ ws, w.alive t = false) := by
  fun_induction poll start timeout ws ticks with
  | case1 => cases h
  | case2 x xs hw _ ih =>
    obtain ⟨pre, post, e, hpre, ht⟩ := ih h
    exact ⟨x :: pre, post, by rw [e]; rfl, List.forall_mem_cons.mpr ⟨hw, hpre⟩, ht⟩
  | case3 x xs hw ha =>
    cases h
    exact ⟨[], xs, rfl, nofun, hw,
      fun _ w hm => by simpa using mt (List.any_eq_true.mpr ⟨w, hm, ·⟩) ha⟩
  | case4 x xs hw =>
    cases h
    exact ⟨[], xs, rfl, nofun, by simpa using hw, nofun⟩

/-- The two ways the waiting part ends: complete (timeout switched off, or the loop left through
    `break`), or every worker cut at a time of its own, the flag set as `flagFix` says. -/
theorem run_some {flagFix : Bool} {timeout start : Rat} {ticks kd : List Rat} {ws : List (Worker β)}
    {o : Outcome β} (h : run flagFix timeout start ticks kd ws = some o) :
    (((timeout = (Gen.noTimeoutValue : Int) ∧ o.leftAt = none)
        ∨ ∃ t, poll start timeout ws ticks = some (t, false) ∧ o.leftAt = some t)
      ∧ o.timedOut = false ∧ o.killed = ws.map (fun _ => false) ∧ o.delivered = ws.map allBatches)
    ∨ (timeout ≠ (Gen.noTimeoutValue : Int)
      ∧ (∃ t, poll start timeout ws ticks = some (t, true) ∧ o.leftAt = some t)
      ∧ ∃ cut : List Rat, cut.length = ws.length
        ∧ o.killed = (ws.zip cut).map (fun wc => wc.1.alive wc.2)
        ∧ o.delivered = (ws.zip cut).map
            (fun wc => if wc.1.alive wc.2 then deliveredUntil wc.1 wc.2 else allBatches wc.1)
        ∧ o.timedOut = if flagFix then o.killed.any id else true) := by
  revert h
  fun_cases run flagFix timeout start ticks kd ws
  -- timeout switched off: plain joins
  case case1 e =>
    rintro ⟨⟩
    exact Or.inl ⟨Or.inl ⟨e, rfl⟩, rfl, rfl, rfl⟩
  -- the clock readings run out while polling: no outcome
  case case2 => nofun
  -- the loop is left through `break` at reading `t`
  case case3 hne t e =>
    rintro ⟨⟩
    exact Or.inl ⟨Or.inr ⟨t, e, rfl⟩, rfl, rfl, rfl⟩
  -- the loop is left through `else` at reading `t`: worker `i` is cut at `t + kd[i]`
  case case4 hne t e _ _ _ =>
    rintro ⟨⟩
    exact Or.inr ⟨hne, ⟨t, e, rfl⟩, _, by rw [List.length_map, List.length_range], rfl, rfl, rfl⟩

/-! ### clock arithmetic for the bounds on the poll loop -/

/-- a reading `x` at most `g` after a reading `p` that was within `T` of the start `s` is within
    `T + g` of it -/
theorem sub_le_of_gap {x p s T g : Rat} (h1 : x - p ≤ g) (h2 : p - s ≤ T) : x - s ≤ T + g := by
  rw [show x - s = p - s + (x - p) by grind]
  exact Rat.le_trans (Rat.add_le_add_left.mpr h1) (Rat.add_le_add_right.mpr h2)

/-- if `n + 1` more sleeps of `i` after reading `p` pass the timeout `T`, and the next reading `x`
    comes at least `i` later, then `n` more sleeps after `x` pass it too -/
theorem sleeps_pass_timeout_step {p i x s T : Rat} {n : Nat} (hx : p + i ≤ x)
    (h : T < p - s + ((n + 1 : Nat) : Rat) * i) : T < x - s + (n : Rat) * i := by
  rw [Rat.natCast_add] at h
  grind

end OsacaVerif.Workers
