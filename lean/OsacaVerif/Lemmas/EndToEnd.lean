import OsacaVerif.Lemmas.EndToEndFile
/-
  An analysis in terms of the fields of its result (`Analysed`): the parsed lines, the kernel selected from them
  (a sublist), no exception on a kernel line, analysis, report and text of the kernel.  At the end three small
  facts the end-to-end theorems use: an unknown mnemonic, a property of all lines but one, numbers name lines.
-/
namespace OsacaVerif.EndToEnd
open OsacaVerif OsacaVerif.Text OsacaVerif.ParseX86 OsacaVerif.Pipeline

theorem run_nil (c : Pipeline.Cfg) (mode : Mode) (file : List PLine) (h : select mode file = .ok []) :
    Pipeline.run c mode file = .emptyKernel := by
  unfold Pipeline.run
  rw [h]

theorem run_cons (c : Pipeline.Cfg) (mode : Mode) (file : List PLine) (x : PLine) (xs : List PLine)
    (h : select mode file = .ok (x :: xs)) : Pipeline.run c mode file = .ok (analyze c (x :: xs)) := by
  unfold Pipeline.run
  rw [h]

/-- an analysis `r` of the lines `lines`, field by field (what `assemble … = .ok r` implies; `Analysed.eq_resultOf`:
    these fields determine `r`) -/
structure Analysed (isa : Operand.Isa) (m : Model) (o : Opts) (lines : List Line) (r : Result) : Prop where
  parsed : r.parsed = lines.map (·.pl)
  select : select o.mode r.parsed = .ok r.kernel
  ne : r.kernel ≠ []
  noErr : firstErr lines r.kernel = none
  analysis : r.analysis = analyze (cfgOf isa m o) r.kernel
  report : r.report = toReport o.repr m.mm.ports o.ignoreUnknown m.mm.ports.length r.kernel r.analysis
  text : r.text = Report.fullAnalysis o.version o.file o.arch o.stamp (Report.archWarningFlag o.archGiven)
    (Report.lengthWarningFlag (linesGiven o.mode) r.kernel.length r.parsed.length) false r.report

theorem assemble_analysed (isa : Operand.Isa) (m : Model) (o : Opts) (lines : List Line) (r : Result)
    (h : assemble isa m o lines = .ok r) : Analysed isa m o lines r := by
  unfold assemble at h
  cases hs : select o.mode (lines.map (·.pl)) with
  | ok k =>
    simp only [hs] at h
    cases he : firstErr lines k with
    | some ne => obtain ⟨n, e⟩ := ne; simp [he] at h
    | none =>
      simp only [he] at h
      cases k with
      | nil => rw [run_nil _ _ _ hs] at h; simp at h
      | cons x xs =>
        rw [run_cons _ _ _ _ _ hs] at h
        cases h
        -- `r` is `resultOf …` now; with `resultOf` unfolded the fields `parsed`, `analysis`, `report`, `text` hold by
        -- reflexivity (closed by `simp only`), the other three are `hs`, `x :: xs ≠ []`, `he`
        refine { parsed := ?_, select := ?_, ne := ?_, noErr := ?_, analysis := ?_, report := ?_, text := ?_ }
        all_goals simp only [resultOf]
        exacts [hs, List.cons_ne_nil x xs, he]
  | _ => simp [hs] at h

theorem Analysed.rows {isa : Operand.Isa} {m : Model} {o : Opts} {lines : List Line} {r : Result}
    (h : Analysed isa m o lines r) : r.analysis.rows = r.kernel.map (rowOf m.mm.ports.length) := by
  rw [h.analysis]
  rfl

theorem Analysed.eq_resultOf {isa : Operand.Isa} {m : Model} {o : Opts} {lines : List Line} {r : Result}
    (h : Analysed isa m o lines r) :
    r = resultOf m o r.parsed r.kernel (analyze (cfgOf isa m o) r.kernel) := by
  obtain ⟨p, k, a, rep, t⟩ := r
  obtain ⟨_, _, _, _, ha, hr, ht⟩ := h
  simp only at ha hr ht
  -- by rewriting only: a closing `rfl` would unfold `analyze`
  simp only [resultOf, ht, hr, ha]

/-- the file parses, and `r` is an analysis of its parsed lines -/
theorem analyse_collect (isa : Operand.Isa) (m : Model) (o : Opts) (file : Txt) (r : Result)
    (h : analyse isa m o file = .ok r) :
    ∃ fs, collect (parseFileOf isa file) = .ok fs ∧ Analysed isa m o (linesOf isa m fs) r := by
  unfold analyse at h
  cases hc : collect (parseFileOf isa file) with
  | error ne => obtain ⟨n, e⟩ := ne; simp [hc] at h
  | ok fs =>
    rw [hc] at h
    exact ⟨fs, rfl, assemble_analysed isa m o _ r h⟩

/-- the lines are those of the file, each computed from its text -/
theorem analyse_analysed (isa : Operand.Isa) (m : Model) (o : Opts) (file : Txt) (r : Result)
    (h : analyse isa m o file = .ok r) : Analysed isa m o (textLines isa m (splitLines file)) r := by
  obtain ⟨fs, hc, A⟩ := analyse_collect isa m o file r h
  rw [← linesOf_file isa m _ fs hc]
  exact A

/-! ### the kernel is a sublist of the file -/

theorem sliceOf_sublist {α : Type} (xs : List α) (se : Option Nat × Option Nat) : (sliceOf xs se).Sublist xs :=
  (List.drop_sublist _ _).trans (List.take_sublist _ _)

/-- with `--lines` the selection looks at the line numbers only -/
theorem select_lines_eq (spec : Txt) (file k : List PLine) (h : select (.lines spec) file = .ok k) :
    ∃ r, Marker.getLineRange spec = some r ∧ k = file.filter fun l => r.contains (l.num : Int) := by
  simp only [select] at h
  cases hr : Marker.getLineRange spec with
  | none => simp [hr] at h
  | some r =>
    simp only [hr] at h
    cases h
    exact ⟨r, rfl, rfl⟩

theorem select_sublist (mode : Mode) (file k : List PLine) (h : select mode file = .ok k) : k.Sublist file := by
  cases mode with
  | lines spec =>
    obtain ⟨r, _, rfl⟩ := select_lines_eq spec file k h
    exact List.filter_sublist
  | markers isa =>
    simp only [select, selectMarkers] at h
    split at h
    · cases h
    · split at h
      · next k' hw =>
        cases h
        obtain ⟨se, _, rfl⟩ := Option.map_eq_some_iff.mp hw
        exact sliceOf_sublist file se
      · cases h

theorem err_none_of_firstErr_none (lines : List Line) (k : List PLine) (h : firstErr lines k = none)
    (l : Line) (hl : l ∈ lines) (p : PLine) (hp : p ∈ k) (e : p.num = l.pl.num) : l.err = none := by
  unfold firstErr at h
  rw [List.findSome?_eq_none_iff] at h
  have := h l (List.mem_filter.mpr ⟨hl, List.any_eq_true.mpr ⟨p, hp, by rw [e]; exact beq_self_eq_true _⟩⟩)
  cases he : l.err with
  | none => rfl
  | some x => rw [he] at this; cases this

theorem Analysed.sublist {isa : Operand.Isa} {m : Model} {o : Opts} {lines : List Line} {r : Result}
    (h : Analysed isa m o lines r) : r.kernel.Sublist (lines.map (·.pl)) :=
  h.parsed ▸ select_sublist _ _ _ h.select

theorem Analysed.kernel_line {isa : Operand.Isa} {m : Model} {o : Opts} {lines : List Line} {r : Result}
    (h : Analysed isa m o lines r) (p : PLine) (hp : p ∈ r.kernel) : ∃ l ∈ lines, p = l.pl ∧ l.err = none := by
  obtain ⟨l, hl, rfl⟩ := List.mem_map.mp (h.sublist.subset hp)
  exact ⟨l, hl, rfl, err_none_of_firstErr_none _ _ h.noErr l hl _ hp rfl⟩

/-- the same with the file given by its lines (the empty file has no analysis: its kernel would be empty) -/
theorem analyse_lines_analysed (isa : Operand.Isa) (m : Model) (o : Opts) (ls : List Txt)
    (hnl : ∀ l ∈ ls, 10 ∉ l) (r : Result) (h : analyse isa m o (Spec.X86R.joinLines ls) = .ok r) :
    Analysed isa m o (textLines isa m ls) r := by
  have A := analyse_analysed isa m o _ r h
  cases ls with
  | nil =>
    have e : textLines isa m (splitLines (Spec.X86R.joinLines [])) = [] := rfl
    rw [e] at A
    exact absurd (List.sublist_nil.mp A.sublist) A.ne
  | cons l ls => rwa [splitLines_joinLines _ (List.cons_ne_nil l ls) hnl] at A

/-- **every kernel line of an analysis is a line of the file**, computed from its text, without exception -/
theorem kernel_line_of_file (isa : Operand.Isa) (m : Model) (o : Opts) (file : Txt) (r : Result)
    (h : analyse isa m o file = .ok r) (l : PLine) (hl : l ∈ r.kernel) :
    ∃ t ∈ splitLines file, l = (lineOfText isa m l.num t).pl ∧ (lineOfText isa m l.num t).err = none := by
  obtain ⟨x, hx, rfl, he⟩ := (analyse_analysed isa m o file r h).kernel_line l hl
  obtain ⟨q, hq, rfl⟩ := List.mem_map.mp hx
  rw [lineOfText_pl_num]
  exact ⟨q.2, (numbered_mem 0 0 _ _ hq).2.2, rfl, he⟩

/-! ### three small facts the end-to-end theorems use -/

/-- a mnemonic that names no entry of the model and has no fall-back spelling is unknown, whatever the operands -/
theorem lookupWithFallbacks_none (isa : Operand.Isa) (db : List Operand.Entry) (name : Txt)
    (hname : db.all (fun e => e.name != upper name) = true) (hfb : Match.fallbackName isa name = none)
    (ops : List Operand.POperand) : Match.lookupWithFallbacks isa db name ops = none := by
  have h : Match.getInstruction isa db name ops = none := by
    refine List.find?_eq_none.mpr fun e he => ?_
    have hne : (e.name == upper name) = false := by simpa using List.all_eq_true.mp hname e he
    simp [Match.entryMatches, hne]
  simp only [Match.lookupWithFallbacks, h, hfb]

theorem forall_mem_replace {α : Type} {p : α → Prop} {xs ys : List α} {a b : α} (h : ∀ t ∈ xs ++ a :: ys, p t)
    (hb : p b) : ∀ t ∈ xs ++ b :: ys, p t := by
  simp only [List.forall_mem_append, List.forall_mem_cons] at h ⊢
  exact ⟨h.1, hb, h.2.2⟩

theorem forall_mem_remove {α : Type} {p : α → Prop} {xs ys : List α} {a : α} (h : ∀ t ∈ xs ++ a :: ys, p t) :
    ∀ t ∈ xs ++ ys, p t := by
  simp only [List.forall_mem_append, List.forall_mem_cons] at h ⊢
  exact ⟨h.1, h.2.2⟩

theorem increasing_unique (k : List PLine) (h : Increasing k) (a b : PLine) (ha : a ∈ k) (hb : b ∈ k)
    (e : a.num = b.num) : a = b := by
  unfold Increasing at h
  induction k with
  | nil => cases ha
  | cons x xs ih =>
    simp only [List.map_cons, List.pairwise_cons] at h
    rcases List.mem_cons.mp ha with ha' | ha' <;> rcases List.mem_cons.mp hb with hb' | hb'
    · rw [ha', hb']
    · subst ha'
      have := h.1 b.num (List.mem_map.mpr ⟨b, hb', rfl⟩)
      omega
    · subst hb'
      have := h.1 a.num (List.mem_map.mpr ⟨a, ha', rfl⟩)
      omega
    · exact ih h.2 ha' hb'

end OsacaVerif.EndToEnd
