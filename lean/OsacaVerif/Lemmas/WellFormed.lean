import OsacaVerif.Spec.WellFormed
import OsacaVerif.Lemmas.Balance
/-
  Well-formed raw YAML micro-op lists (`Spec.wfPPY`) resolve without error to well-formed micro-ops,
  so they can be costed and the result is the feasible uniform split.
-/

namespace OsacaVerif.Spec
open OsacaVerif OsacaVerif.Text OsacaVerif.Ports

theorem mapE_ok {α β : Type} (f : α → Except Err β) (P : β → Prop) (l : List α)
    (h : ∀ x ∈ l, ∃ y, f x = .ok y ∧ P y) :
    ∃ ys, mapE f l = .ok ys ∧ ys.length = l.length ∧ ∀ y ∈ ys, P y := by
  induction l with
  | nil => exact ⟨[], rfl, rfl, by simp⟩
  | cons x xs ih =>
    obtain ⟨y, hy, hp⟩ := h x List.mem_cons_self
    obtain ⟨ys, hys, hl, hps⟩ := ih (fun x' hx' => h x' (List.mem_cons_of_mem _ hx'))
    refine ⟨y :: ys, by simp [mapE, hy, hys], by simp [hl], ?_⟩
    intro z hz
    rcases List.mem_cons.mp hz with rfl | hz
    · exact hp
    · exact hps z hz

theorem indexOf_of_contains (ports : List Txt) (t : Txt) (h : ports.contains t = true) :
    ∃ i, indexOf ports t = some i ∧ i < ports.length := by
  unfold indexOf
  have hm : t ∈ ports := by simpa using h
  have : ports.findIdx (· == t) < ports.length := by
    apply List.findIdx_lt_length_of_exists
    exact ⟨t, hm, by simp⟩
  exact ⟨_, by simp [this], this⟩

theorem resolvePort_ok (ports : List Txt) (t : Txt) (h : ports.contains t = true) :
    ∃ i, resolvePort ports (.str t) = .ok i ∧ i < ports.length := by
  obtain ⟨i, hi, hlt⟩ := indexOf_of_contains ports t h
  exact ⟨i, by simp [resolvePort, hi], hlt⟩

theorem wfPortsY_items (ports : List Txt) (p : Y) (h : wfPortsY ports p = true) :
    ∃ items, portItems p = .ok items ∧ items ≠ [] ∧
      ∀ x ∈ items, ∃ i, resolvePort ports x = .ok i ∧ i < ports.length := by
  match p, h with
  | .str t, h =>
    simp only [wfPortsY, Bool.and_eq_true, Bool.not_eq_true', List.isEmpty_eq_false_iff,
      List.all_eq_true] at h
    refine ⟨_, rfl, mt List.map_eq_nil_iff.mp h.1, fun x hx => ?_⟩
    obtain ⟨c, hc, rfl⟩ := List.mem_map.mp hx
    exact resolvePort_ok ports [c] (h.2 c hc)
  | .list l, h =>
    simp only [wfPortsY, Bool.and_eq_true, Bool.not_eq_true', List.isEmpty_eq_false_iff,
      List.all_eq_true] at h
    refine ⟨l, rfl, h.1, fun x hx => ?_⟩
    match x, h.2 x hx with
    | .str t, ht => exact resolvePort_ok ports t ht

theorem resolveUop_ok (ports : List Txt) (y : Y) (h : wfUopY ports y = true) :
    ∃ u, resolveUop ports y = .ok u ∧ 0 ≤ u.cycles ∧ u.mult = 1 ∧ u.ports ≠ [] ∧
      ∀ p ∈ u.ports, p < ports.length := by
  match y, h with
  | .list [.num c, p], h =>
    simp only [wfUopY, Bool.and_eq_true, decide_eq_true_eq] at h
    obtain ⟨items, hitems, hne, hres⟩ := wfPortsY_items ports p h.2
    obtain ⟨idx, hidx, hlen, hlt⟩ := mapE_ok (resolvePort ports) (· < ports.length) items hres
    refine ⟨{ cycles := c, ports := idx }, by simp only [resolveUop, hitems, hidx], h.1, rfl,
      fun he => hne ?_, hlt⟩
    rw [← List.length_eq_zero_iff, ← hlen]
    exact List.length_eq_zero_iff.mpr he

theorem resolve_uops_ok (ports : List Txt) (l : List Y) (h : l.all (wfUopY ports) = true) :
    ∃ us, mapE (resolveUop ports) l = .ok us ∧ WFUops ports.length us := by
  obtain ⟨us, hus, _, hP⟩ := mapE_ok (resolveUop ports)
    (fun u => 0 ≤ u.cycles ∧ u.mult = 1 ∧ u.ports ≠ [] ∧ ∀ p ∈ u.ports, p < ports.length) l (by
      intro x hx
      exact resolveUop_ok ports x (List.all_eq_true.mp h x hx))
  refine ⟨us, hus, ?_⟩
  intro u hu
  obtain ⟨h1, h2, h3, h4⟩ := hP u hu
  exact ⟨h1, by rw [h2]; decide, h3, h4⟩

/-- **C15 core** (∀ port lists, ∀ raw YAML micro-op lists): a well-formed list can be costed —
    `average_port_pressure` does not raise, and what it returns is the exactly feasible uniform split. -/
theorem wf_costable (ports : List Txt) (l : List Y) (h : wfPPY ports (.list l) = true) :
    ∃ us, resolveList ports (.list l) = .ok us ∧ WFUops ports.length us ∧
      averageY ports (.list l) = .ok (uniform ports.length us) ∧
      Feasible 0 ports.length us (uniform ports.length us) := by
  obtain ⟨us, hus, hw⟩ := resolve_uops_ok ports l h
  have hr : resolveList ports (.list l) = .ok us := hus
  refine ⟨us, hr, hw, ?_, uniform_feasible _ us hw⟩
  simp only [averageY, hr]
  rw [average_eq_uniform ports.length us fun u hu => (hw u hu).2.2.2]

theorem wf_alternatives (ports : List Txt) (kv : List (Y × Y)) (h : wfPPY ports (.map kv) = true) :
    ∀ e ∈ kv, ∃ l, e.2 = .list l ∧ wfPPY ports (.list l) = true := by
  intro e he
  simp only [wfPPY, Bool.and_eq_true, List.all_eq_true] at h
  have := (h.2 e he).2
  match h2 : e.2, this with
  -- `wfUopListY ports (.list l)` and `wfPPY ports (.list l)` unfold to the same test
  | .list l, this => exact ⟨l, rfl, this⟩

end OsacaVerif.Spec
