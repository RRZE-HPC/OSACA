import OsacaVerif.Model.Compose
import OsacaVerif.Spec.Composed
import OsacaVerif.Props.C01
/-
  Helper lemmas of C08: what a successful `averageY` returns, bounds of resolved micro-ops, sums of
  uniform splits.
-/
namespace OsacaVerif.Lemmas.Compose
open OsacaVerif OsacaVerif.Text OsacaVerif.Ports OsacaVerif.Spec

theorem bind_ok {ε α β : Type} (x : Except ε α) (f : α → Except ε β) (r : β) :
    (x >>= f) = .ok r ↔ ∃ a, x = .ok a ∧ f a = .ok r := by
  cases x with
  | error e => exact ⟨(nomatch ·), fun ⟨_, h, _⟩ => nomatch h⟩
  | ok a => exact ⟨fun h => ⟨a, rfl, h⟩, fun ⟨_, h, h'⟩ => Except.ok.inj h ▸ h'⟩

theorem mapE_mem {α β : Type} (f : α → Except Err β) (l : List α) (ys : List β) (h : mapE f l = .ok ys) :
    ∀ y ∈ ys, ∃ x ∈ l, f x = .ok y := by
  induction l generalizing ys with
  | nil => cases h; exact fun y hy => nomatch hy
  | cons x xs ih =>
    unfold mapE at h
    split at h
    · cases h
    · rename_i y0 hx
      split at h
      · cases h
      · rename_i ys0 hxs
        cases h
        intro y hy
        rcases List.mem_cons.mp hy with rfl | hy
        · exact ⟨x, List.mem_cons_self, hx⟩
        · obtain ⟨x', hx', hf⟩ := ih ys0 hxs y hy
          exact ⟨x', List.mem_cons_of_mem _ hx', hf⟩

theorem indexOf_lt (ports : List Txt) (t : Txt) (i : Nat) (h : indexOf ports t = some i) : i < ports.length := by
  simp only [indexOf] at h
  split at h
  · rename_i hlt
    cases h
    exact hlt
  · cases h

theorem resolvePort_lt (ports : List Txt) (y : Y) (i : Nat) (h : resolvePort ports y = .ok i) : i < ports.length := by
  unfold resolvePort at h
  split at h
  · split at h
    · rename_i j hi
      cases h
      exact indexOf_lt ports _ _ hi
    · cases h
  · cases h

theorem resolveUop_bound (ports : List Txt) (y : Y) (u : Uop) (h : resolveUop ports y = .ok u) :
    (∀ p ∈ u.ports, p < ports.length) ∧ u.mult = 1 := by
  unfold resolveUop at h
  split at h
  · split at h
    · cases h
    · rename_i items _
      split at h
      · cases h
      · rename_i idx hm
        have hb : ∀ q ∈ idx, q < ports.length := fun q hq =>
          have ⟨x, _, hx⟩ := mapE_mem _ items idx hm q hq
          resolvePort_lt ports x q hx
        split at h
        · cases h
          exact ⟨hb, rfl⟩
        · split at h
          · cases h
            exact ⟨nofun, rfl⟩
          · cases h
  · cases h
  · split at h <;> cases h
  · cases h

theorem resolveList_bound (ports : List Txt) (y : Y) (us : List Uop) (h : resolveList ports y = .ok us) :
    ∀ u ∈ us, (∀ p ∈ u.ports, p < ports.length) ∧ u.mult = 1 := by
  intro u hu
  unfold resolveList at h
  split at h
  · obtain ⟨x, _, hx⟩ := mapE_mem _ _ us h u hu
    exact resolveUop_bound ports x u hx
  · split at h
    · obtain ⟨x, _, hx⟩ := mapE_mem _ _ us h u hu
      exact resolveUop_bound ports x u hx
    · simp at h
    · simp at h
  · simp at h

/-- a successful `average_port_pressure` is the uniform split of the resolved micro-ops -/
theorem averageY_ok (ports : List Txt) (y : Y) (v : List Rat) (h : averageY ports y = .ok v) :
    ∃ us, resolveList ports y = .ok us ∧ v = uniform ports.length us ∧
      ∀ u ∈ us, (∀ p ∈ u.ports, p < ports.length) ∧ u.mult = 1 := by
  unfold averageY at h
  cases hr : resolveList ports y with
  | error e => simp [hr] at h
  | ok us =>
    simp only [hr, Except.ok.injEq] at h
    have hb := resolveList_bound ports y us hr
    refine ⟨us, rfl, ?_, hb⟩
    rw [← h]
    exact average_eq_uniform _ us (fun u hu => (hb u hu).1)

theorem addVec_uniform (n : Nat) (a b : List Uop) :
    addVec (uniform n a) (uniform n b) = uniform n (a ++ b) := by
  have hl : (uniform n a).length = (uniform n b).length := by rw [length_uniform, length_uniform]
  refine ext_getD (by rw [Props.C01.length_addVec _ _ hl, length_uniform, length_uniform])
    fun j hj => ?_
  rw [Props.C01.length_addVec _ _ hl, length_uniform] at hj
  rw [Props.C01.getD_addVec _ _ hl, getD_uniform n a j hj, getD_uniform n b j hj,
    getD_uniform n (a ++ b) j hj, List.map_append, List.sum_append]

theorem uniform_append_comm (n : Nat) (a b : List Uop) : uniform n (a ++ b) = uniform n (b ++ a) :=
  List.map_congr_left fun p _ => by
    rw [List.map_append, List.map_append, List.sum_append, List.sum_append, add_comm]

theorem maxList_ok (l : List Rat) (r : Rat) (h : OsacaVerif.Compose.maxList l = .ok r) : r = maxOf l := by
  cases l with
  | nil => simp [OsacaVerif.Compose.maxList] at h
  | cons x xs =>
    simp only [OsacaVerif.Compose.maxList, Except.ok.injEq] at h
    rw [← h]; rfl

end OsacaVerif.Lemmas.Compose
