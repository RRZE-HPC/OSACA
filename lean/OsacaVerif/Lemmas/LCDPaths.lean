import OsacaVerif.Model.LCD
/-
  Helper development for C05: what a "simple path" of the LCD search is (`IsSimplePath`), and that
  the depth-first enumeration `LCD.pathsFrom` returns exactly the simple paths (`mem_pathsFrom`, for
  every edge list, every fuel and every visited set; induction on the fuel).

  A path is represented as the code represents it: the list of `(source vertex, edge weight)` of its
  edges; the vertex an edge leads to is the source of the next element, the last edge leads to `tgt`.
-/
namespace OsacaVerif.LCD
open OsacaVerif OsacaVerif.DG

/-- the vertex the edge in front of `rest` leads to: the source of the next edge, `tgt` at the end -/
def nextV (tgt : Nat) : List (Nat × Rat) → Nat
  | [] => tgt
  | x :: _ => x.1

/-- consecutive elements are edges of `es` (instruction node → instruction node, `LCD.succs`) with
    the recorded weight; the last edge enters `tgt` -/
def IsWalk (es : List Edge) (tgt : Nat) : List (Nat × Rat) → Prop
  | [] => True
  | x :: rest => (nextV tgt rest, x.2) ∈ succs es x.1 ∧ IsWalk es tgt rest

def decIsWalk (es : List Edge) (tgt : Nat) : (p : List (Nat × Rat)) → Decidable (IsWalk es tgt p)
  | [] => isTrue trivial
  | _ :: rest =>
    have := decIsWalk es tgt rest
    inferInstanceAs (Decidable (_ ∧ _))

instance (es : List Edge) (tgt : Nat) (p : List (Nat × Rat)) : Decidable (IsWalk es tgt p) := decIsWalk es tgt p

/-- the source vertices of a path -/
def verts (p : List (Nat × Rat)) : List Nat := p.map (·.1)

@[simp] theorem verts_nil : verts [] = [] := rfl
@[simp] theorem verts_cons (x : Nat × Rat) (p : List (Nat × Rat)) : verts (x :: p) = x.1 :: verts p := rfl
@[simp] theorem length_verts (p : List (Nat × Rat)) : (verts p).length = p.length := List.length_map _

/-- a path with a head: its vertex list is a `cons` -/
theorem verts_of_head {p : List (Nat × Rat)} {c : Nat} (h : (verts p).head? = some c) : ∃ t, verts p = c :: t := by
  cases hv : verts p with
  | nil => rw [hv] at h; cases h
  | cons a t => rw [hv] at h; exact ⟨t, by rw [Option.some.inj h]⟩

/-- `p` is a simple path `src ⇝ tgt` in `es`: it is non-empty and starts at `src`, consecutive
    pairs are edges with the recorded weights and the last edge enters `tgt`, no vertex is repeated,
    and `tgt` is not passed through on the way (vertices after the first differ from `tgt`). -/
def IsSimplePath (es : List Edge) (src tgt : Nat) (p : List (Nat × Rat)) : Prop :=
  (verts p).head? = some src ∧ IsWalk es tgt p ∧ (verts p).Nodup ∧ ∀ v ∈ (verts p).tail, v ≠ tgt

instance (es : List Edge) (src tgt : Nat) (p : List (Nat × Rat)) : Decidable (IsSimplePath es src tgt p) := by
  unfold IsSimplePath; infer_instance

/-- the path does not enter a vertex of `visited` (its start may be in `visited`) -/
def Avoids (visited : List Nat) (p : List (Nat × Rat)) : Prop := ∀ v ∈ (verts p).tail, v ∉ visited

instance (visited : List Nat) (p : List (Nat × Rat)) : Decidable (Avoids visited p) := by
  unfold Avoids; infer_instance

theorem walk_mem_succs (es : List Edge) (tgt : Nat) (q : List (Nat × Rat)) (h : IsWalk es tgt q) :
    ∀ y ∈ q, ∃ m w, (m, w) ∈ succs es y.1 := by
  induction q with
  | nil => exact fun _ hy => nomatch hy
  | cons z zs ih =>
    intro y hy
    rcases List.mem_cons.mp hy with rfl | hy
    · exact ⟨_, _, h.1⟩
    · exact ih h.2 y hy

theorem avoids_src {es : List Edge} {src tgt : Nat} {p : List (Nat × Rat)} (h : IsSimplePath es src tgt p) :
    Avoids [src] p := by
  obtain ⟨h1, _, h3, _⟩ := h
  intro v hv hc
  obtain ⟨t, hp⟩ := verts_of_head h1
  rw [hp] at h3 hv
  exact (List.nodup_cons.mp h3).1 (List.mem_singleton.mp hc ▸ hv)

/-- one step of the search: an edge `cur → nxt`, then `nxt = tgt`, or a path from a new vertex `nxt` -/
theorem mem_pathsFrom_succ (es : List Edge) (tgt fuel cur : Nat) (visited : List Nat) (p : List (Nat × Rat)) :
    p ∈ pathsFrom es tgt (fuel + 1) cur visited ↔ ∃ nxt w, (nxt, w) ∈ succs es cur ∧
      ((nxt = tgt ∧ p = [(cur, w)]) ∨ (nxt ≠ tgt ∧ nxt ∉ visited ∧
        ∃ q ∈ pathsFrom es tgt fuel nxt (nxt :: visited), p = (cur, w) :: q)) := by
  rw [pathsFrom, List.mem_flatMap]
  constructor
  · rintro ⟨⟨nxt, w⟩, hs, hp⟩
    refine ⟨nxt, w, hs, ?_⟩
    dsimp only at hp
    split at hp
    · exact Or.inl ⟨beq_iff_eq.mp ‹_›, List.mem_singleton.mp hp⟩
    · split at hp
      · cases hp
      · obtain ⟨q, hq, rfl⟩ := List.mem_map.mp hp
        exact Or.inr ⟨fun h => ‹¬ _› (beq_iff_eq.mpr h), fun h => ‹¬ _› (List.contains_iff_mem.mpr h), q, hq, rfl⟩
  · rintro ⟨nxt, w, hs, ⟨rfl, rfl⟩ | ⟨hne, hnv, q, hq, rfl⟩⟩
    · refine ⟨(nxt, w), hs, ?_⟩
      dsimp only
      rw [if_pos (beq_self_eq_true _)]
      exact List.mem_singleton_self _
    · refine ⟨(nxt, w), hs, ?_⟩
      dsimp only
      rw [if_neg (fun h => hne (beq_iff_eq.mp h)), if_neg (fun h => hnv (List.contains_iff_mem.mp h))]
      exact List.mem_map_of_mem hq

/-- **what the search returns**, whatever `visited` is: the walks `cur ⇝ tgt` of at most `fuel` edges whose
    vertices after the first are distinct, differ from `tgt` and are not in `visited` -/
theorem mem_pathsFrom (es : List Edge) (tgt fuel cur : Nat) (visited : List Nat) (p : List (Nat × Rat)) :
    p ∈ pathsFrom es tgt fuel cur visited ↔
      (verts p).head? = some cur ∧ IsWalk es tgt p ∧ (verts p).tail.Nodup ∧
      (∀ v ∈ (verts p).tail, v ≠ tgt ∧ v ∉ visited) ∧ p.length ≤ fuel := by
  induction fuel generalizing cur visited p with
  | zero =>
    refine iff_of_false List.not_mem_nil fun ⟨h1, _, _, _, h5⟩ => ?_
    rw [List.eq_nil_of_length_eq_zero (Nat.le_zero.mp h5)] at h1
    cases h1
  | succ fuel ih =>
    rw [mem_pathsFrom_succ]
    constructor
    · rintro ⟨nxt, w, hs, ⟨rfl, rfl⟩ | ⟨hne, hnv, q, hq, rfl⟩⟩
      · exact ⟨rfl, ⟨hs, trivial⟩, List.nodup_nil, fun _ h => (List.not_mem_nil h).elim, Nat.le_add_left 1 fuel⟩
      · obtain ⟨q1, q2, q3, q4, q5⟩ := (ih nxt (nxt :: visited) q).mp hq
        cases q with
        | nil => cases q1
        | cons x xs =>
          obtain rfl : x.1 = nxt := Option.some.inj q1
          refine ⟨rfl, ⟨hs, q2⟩, List.nodup_cons.mpr ⟨fun hm => (q4 _ hm).2 List.mem_cons_self, q3⟩, ?_,
            Nat.succ_le_succ q5⟩
          intro v hv
          rcases List.mem_cons.mp hv with rfl | hv
          · exact ⟨hne, hnv⟩
          · exact ⟨(q4 v hv).1, fun h => (q4 v hv).2 (List.mem_cons_of_mem _ h)⟩
    · rintro ⟨h1, h2, h3, h4, h5⟩
      cases p with
      | nil => cases h1
      | cons x rest =>
        obtain ⟨a, w⟩ := x
        obtain rfl : a = cur := Option.some.inj h1
        refine ⟨nextV tgt rest, w, h2.1, ?_⟩
        cases rest with
        | nil => exact Or.inl ⟨rfl, rfl⟩
        | cons y rest' =>
          obtain ⟨hy, hn⟩ := List.nodup_cons.mp h3
          refine Or.inr ⟨(h4 y.1 List.mem_cons_self).1, (h4 y.1 List.mem_cons_self).2, y :: rest',
            (ih y.1 (y.1 :: visited) _).mpr ⟨rfl, h2.2, hn, fun v hv => ?_, Nat.le_of_succ_le_succ h5⟩, rfl⟩
          have := h4 v (List.mem_cons_of_mem _ hv)
          refine ⟨this.1, fun hc => ?_⟩
          rcases List.mem_cons.mp hc with rfl | hc
          · exact hy hv
          · exact this.2 hc
end OsacaVerif.LCD
