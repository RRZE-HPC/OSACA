import OsacaVerif.Lemmas.ImportTextL
/-
  The importer's control flow (C20): the vocabulary in which `Props/C20` states its theorems, then facts
  about the insertion-ordered dict, entry creation, the ibench loop, the asmbench block loop and the
  insertion into the machine model.  Core Lean only.
-/
namespace OsacaVerif.Import
open OsacaVerif.Text OsacaVerif.ImportText OsacaVerif.Gen.Import

/-! ### vocabulary of the statements in `Props/C20` -/

def keys (acc : Acc) : List Txt := acc.map (·.1)

def keyL (l : ILine) : Txt := keyOf l.instr
/-- the validated measurement of a line (`none` also when the number does not parse) -/
def valTp (l : ILine) : Option Rat := l.meas.toOption.bind validateTp
def valLt (l : ILine) : Option Rat := l.meas.toOption.bind validateLt
/-- `l` is a throughput (latency) line of the form with key `k` -/
def relTP (k : Txt) (l : ILine) : Bool := !l.skip && decide (keyL l = k) && isTP l
def relLT (k : Txt) (l : ILine) : Bool := !l.skip && decide (keyL l = k) && isLT l

/-- value after the lines `ls`: that of the LAST relevant line, else the initial one -/
def afterG (p : ILine → Bool) (v : ILine → Option Rat) (init : Option Rat) (ls : List ILine) : Option Rat :=
  match (ls.filter p).getLast? with
  | none => init
  | some l => v l

/-- a block the loop accepts: full length, blank last line -/
def GoodShape (b : List Txt) : Prop := b.length = abStep ∧ strip (b.getD abBlank []) = []
/-- what makes the loop stop: end of file, a short block, or a non-blank fourth line -/
def BadStart (rest : List Txt) : Prop := rest.length ≤ abBlank ∨ strip (rest.getD abBlank []) ≠ []

/-- the entries of a list of blocks, in order, later blocks of the same name overwriting -/
def foldBlocks (isa : Isa) : List (List Txt) → Acc → Res Acc
  | [], acc => .ok acc
  | b :: bs, acc =>
    match blockEntry isa b with
    | .err e => .err e
    | .ok (k, e) => foldBlocks isa bs (upsert k e acc)

/-- the (index key, operand count) pair `K, a` would be found by the look-up of `e` -/
def Collide (K : Txt) (a : Nat) (e : Entry) : Prop := K = upper e.mnemonic ∧ a = e.operands.length

/-! ### results -/

theorem Res.bind_eq_ok {α β} {r : Res α} {f : α → Res β} {b : β} :
    r.bind f = .ok b ↔ ∃ a, r = .ok a ∧ f a = .ok b := by
  cases r <;> simp [Res.bind]

theorem Res.map_eq_ok {α β} {f : α → β} {r : Res α} {b : β} : r.map f = .ok b ↔ ∃ a, r = .ok a ∧ f a = b := by
  cases r <;> simp [Res.map]

/-! ### the insertion-ordered dict -/

theorem lookup_upsert_self (k : Txt) (e : Entry) (acc : Acc) : lookup k (upsert k e acc) = some e := by
  induction acc with
  | nil => simp [upsert, lookup]
  | cons x r ih => by_cases h : x.1 = k <;> simp [upsert, lookup, h, ih]

theorem lookup_upsert_ne (k k' : Txt) (e : Entry) (acc : Acc) (h : k' ≠ k) :
    lookup k' (upsert k e acc) = lookup k' acc := by
  induction acc with
  | nil => simp [upsert, lookup, h.symm]
  | cons x r ih =>
    by_cases h2 : x.1 = k
    · simp [upsert, lookup, h2, h.symm]
    · by_cases h3 : x.1 = k' <;> simp [upsert, lookup, h2, h3, ih, h]

theorem lookup_isSome_iff (k : Txt) (acc : Acc) : (lookup k acc).isSome = true ↔ k ∈ keys acc := by
  induction acc with
  | nil => simp [lookup, keys]
  | cons x r ih =>
    by_cases h : x.1 = k
    · simp [lookup, keys, h]
    · simp only [lookup, h, if_false, ih, keys, List.map_cons, List.mem_cons]
      exact ⟨.inr, fun hm => hm.resolve_left (h ·.symm)⟩

theorem mem_of_lookup (k : Txt) (e : Entry) (acc : Acc) (h : lookup k acc = some e) : (k, e) ∈ acc := by
  induction acc with
  | nil => cases h
  | cons x r ih =>
    unfold lookup at h
    split at h
    · rename_i hk; cases h; cases hk; exact List.mem_cons_self
    · exact List.mem_cons_of_mem _ (ih h)

theorem mem_iff_lookup (acc : Acc) (h : (keys acc).Nodup) (k : Txt) (e : Entry) :
    (k, e) ∈ acc ↔ lookup k acc = some e := by
  refine ⟨fun hm => ?_, mem_of_lookup k e acc⟩
  induction acc with
  | nil => cases hm
  | cons x r ih =>
    obtain ⟨hx, hr⟩ := List.nodup_cons.mp h
    rcases List.mem_cons.mp hm with rfl | hm
    · simp [lookup]
    · have : x.1 ≠ k := fun c => hx (List.mem_map.mpr ⟨(k, e), hm, c.symm⟩)
      simp [lookup, this, ih hr hm]

theorem mem_upsert (k : Txt) (e : Entry) (acc : Acc) (p : Txt × Entry) (h : p ∈ upsert k e acc) :
    p = (k, e) ∨ p ∈ acc := by
  induction acc with
  | nil => exact .inl (List.mem_singleton.mp h)
  | cons x r ih =>
    unfold upsert at h
    split at h
    · exact (List.mem_cons.mp h).imp_right (List.mem_cons_of_mem _)
    · rcases List.mem_cons.mp h with h | h
      · exact .inr (h ▸ List.mem_cons_self)
      · exact (ih h).imp_right (List.mem_cons_of_mem _)

theorem keys_upsert (k : Txt) (e : Entry) (acc : Acc) :
    keys (upsert k e acc) = if k ∈ keys acc then keys acc else keys acc ++ [k] := by
  induction acc with
  | nil => rfl
  | cons x r ih =>
    unfold keys at ih ⊢
    by_cases h : x.1 = k
    · simp [upsert, h]
    · by_cases hm : k ∈ r.map (·.1) <;> simp [upsert, h, ih, hm, Ne.symm h]

theorem nodup_keys_upsert (k : Txt) (e : Entry) (acc : Acc) (h : (keys acc).Nodup) :
    (keys (upsert k e acc)).Nodup := by
  rw [keys_upsert]
  split
  · exact h
  · rename_i hm
    exact List.nodup_append.mpr ⟨h, by simp, fun a ha b hb => by cases List.mem_singleton.mp hb; exact fun hab => hm (hab ▸ ha)⟩

/-! ### entries: `newEntry`, `blockEntry` -/

/-- a successfully created entry: the decoded second `-` field, no measurement yet -/
theorem newEntry_ok {isa : Isa} {n : Txt} {e : Entry} (h : newEntry isa n = .ok e) :
    ∃ ops ds, decodeAll isa (splitOn ibUnder ops) = .ok ds ∧
      e = { mnemonic := (splitOn ibDash n).headD [], operands := ds, tp := none, lt := none } := by
  unfold newEntry at h
  simp only [] at h
  split at h
  · cases h
  · obtain ⟨ds, hd, he⟩ := Res.map_eq_ok.mp h
    exact ⟨_, ds, hd, he.symm⟩

theorem decodeAll_length (isa : Isa) (cs : List Txt) (ds : List Dict) (h : decodeAll isa cs = .ok ds) :
    ds.length = cs.length := by
  induction cs generalizing ds with
  | nil => cases Res.ok.inj h; rfl
  | cons c cs ih =>
    simp only [decodeAll] at h
    split at h
    · cases h
    · split at h
      · injection h with h; subst h; simp [ih _ ‹_›]
      · cases h

theorem newEntry_operands_ne (isa : Isa) (n : Txt) (e : Entry) (h : newEntry isa n = .ok e) :
    e.operands ≠ [] := by
  obtain ⟨ops, ds, hd, rfl⟩ := newEntry_ok h
  intro hc
  have hl := decodeAll_length isa _ ds hd
  rw [show ds = [] from hc] at hl
  exact splitOn_ne_nil ibUnder ops (List.eq_nil_of_length_eq_zero hl.symm)

theorem blockEntry_ok {isa : Isa} {blk : List Txt} {k : Txt} {e : Entry} (h : blockEntry isa blk = .ok (k, e)) :
    ∃ e0 t l, newEntry isa (strip (blk.getD abName [])) = .ok e0 ∧ measurement abTok (blk.getD abTp []) = .ok t ∧
      measurement abTok (blk.getD abLat []) = .ok l ∧ k = strip (blk.getD abName []) ∧
      e = { e0 with tp := validateTp t, lt := validateLt l } := by
  simp only [blockEntry, Res.bind_eq_ok, Res.map_eq_ok, Prod.mk.injEq] at h
  obtain ⟨e0, hn, t, ht, l, hl, hk, he⟩ := h
  exact ⟨e0, t, l, hn, ht, hl, hk.symm, he.symm⟩

theorem blockEntry_operands_ne (isa : Isa) (blk : List Txt) (k : Txt) (e : Entry)
    (h : blockEntry isa blk = .ok (k, e)) : e.operands ≠ [] := by
  obtain ⟨e0, _, _, hn, _, _, _, rfl⟩ := blockEntry_ok h
  exact newEntry_operands_ne isa _ e0 hn

/-! ### `_get_ibench_output` -/

theorem afterG_nil (p v init) : afterG p v init [] = init := rfl

theorem afterG_cons (p : ILine → Bool) (v init) (l : ILine) (ls : List ILine) :
    afterG p v init (l :: ls) = afterG p v (if p l then v l else init) ls := by
  unfold afterG
  by_cases h : p l = true
  · simp only [List.filter_cons, h, if_true, List.getLast?_cons]
    cases (ls.filter p).getLast? <;> simp
  · simp [h]

theorem step_ok (isa : Isa) (acc a : Acc) (l : ILine) (h : step isa acc l = .ok a) :
    (l.skip = true ∧ a = acc) ∨
    (l.skip = false ∧ ∃ e e' : Entry,
      (lookup (keyL l) acc = some e ∨ (lookup (keyL l) acc = none ∧ newEntry isa l.instr = .ok e)) ∧
      a = upsert (keyL l) e' acc ∧ e'.mnemonic = e.mnemonic ∧ e'.operands = e.operands ∧
      e'.tp = (if isTP l then valTp l else e.tp) ∧ e'.lt = (if isLT l then valLt l else e.lt)) := by
  unfold step at h
  cases hs : l.skip with
  | true => rw [hs, if_pos rfl] at h; exact .inl ⟨rfl, (Res.ok.inj h).symm⟩
  | false =>
    simp only [hs, Bool.false_eq_true, if_false, Res.bind_eq_ok, Res.map_eq_ok] at h
    obtain ⟨e, he, e', he', ha⟩ := h
    refine .inr ⟨rfl, e, e', ?_, ha.symm, ?_⟩
    · cases hl : lookup (keyOf l.instr) acc with
      | some e0 => rw [hl] at he; exact .inl (hl.trans (congrArg some (Res.ok.inj he)))
      | none => rw [hl] at he; exact .inr ⟨hl, he⟩
    · -- `isLT` excludes `isTP`, so at most one of the two measurements is replaced
      cases htp : isTP l with
      | true =>
        rw [htp, if_pos rfl, Res.map_eq_ok] at he'
        obtain ⟨m, hm, rfl⟩ := he'
        simp [isLT, htp, valTp, hm, Res.toOption]
      | false =>
        rw [htp] at he'
        cases hlt : isLT l with
        | true =>
          rw [hlt, if_neg Bool.false_ne_true, if_pos rfl, Res.map_eq_ok] at he'
          obtain ⟨m, hm, rfl⟩ := he'
          simp [valLt, hm, Res.toOption]
        | false =>
          rw [hlt, if_neg Bool.false_ne_true, if_neg Bool.false_ne_true] at he'
          cases Res.ok.inj he'
          simp

theorem run_cons {isa : Isa} {l : ILine} {ls : List ILine} {acc acc' : Acc} :
    run isa (l :: ls) acc = .ok acc' ↔ ∃ a, step isa acc l = .ok a ∧ run isa ls a = .ok acc' := by
  rw [run]
  cases step isa acc l <;> simp

theorem run_preserves (isa : Isa) (P : Acc → Prop) (hstep : ∀ acc a l, step isa acc l = .ok a → P acc → P a)
    (ls : List ILine) : ∀ acc acc', run isa ls acc = .ok acc' → P acc → P acc' := by
  induction ls with
  | nil => intro acc acc' h hp; exact Res.ok.inj h ▸ hp
  | cons l ls ih =>
    intro acc acc' h hp
    obtain ⟨a, hst, h⟩ := run_cons.mp h
    exact ih a acc' h (hstep acc a l hst hp)

theorem rel_of_irrelevant (k : Txt) (l : ILine) (h : l.skip = true ∨ keyL l ≠ k) :
    relTP k l = false ∧ relLT k l = false := by
  rcases h with h | h <;> simp [relTP, relLT, h]

theorem rel_self (l : ILine) (h : l.skip = false) : relTP (keyL l) l = isTP l ∧ relLT (keyL l) l = isLT l := by
  simp [relTP, relLT, h]

/-- What the lines `ls` do to key `k` between the accumulators `acc` and `acc'`.  If `k` had an entry, it still
    has one, with the same mnemonic and operands and the measurements of the last relevant lines (else the old
    ones).  If it had none, either it still has none and no line concerns it, or it has one whose measurements
    come from the lines alone and whose mnemonic and operands are those `newEntry` gives for a line of `k`. -/
def Evolves (isa : Isa) (k : Txt) (ls : List ILine) (acc acc' : Acc) : Prop :=
  (∀ e, lookup k acc = some e → ∃ e', lookup k acc' = some e' ∧ e'.mnemonic = e.mnemonic ∧
      e'.operands = e.operands ∧ e'.tp = afterG (relTP k) valTp e.tp ls ∧ e'.lt = afterG (relLT k) valLt e.lt ls) ∧
  (lookup k acc = none →
    (lookup k acc' = none ∧ ∀ l ∈ ls, l.skip = true ∨ keyL l ≠ k) ∨
    (∃ e', lookup k acc' = some e' ∧ e'.tp = afterG (relTP k) valTp none ls ∧
      e'.lt = afterG (relLT k) valLt none ls ∧
      ∃ l ∈ ls, l.skip = false ∧ keyL l = k ∧ ∃ e0, newEntry isa l.instr = .ok e0 ∧
        e'.mnemonic = e0.mnemonic ∧ e'.operands = e0.operands))

/-- **loop invariant of `_get_ibench_output`**, for every key, every accumulator, every sequence -/
theorem run_evolves (isa : Isa) (ls : List ILine) :
    ∀ acc acc', run isa ls acc = .ok acc' → ∀ k, Evolves isa k ls acc acc' := by
  induction ls with
  | nil =>
    intro acc acc' h k
    cases Res.ok.inj h
    exact ⟨fun e he => ⟨e, he, rfl, rfl, rfl, rfl⟩, fun hn => Or.inl ⟨hn, by simp⟩⟩
  | cons l ls ih =>
    intro acc acc' h k
    obtain ⟨a, hst, h⟩ := run_cons.mp h
    have IH := ih a acc' h k
    -- a line that does not concern `k` leaves the entry of `k` alone
    have pass : lookup k a = lookup k acc → (l.skip = true ∨ keyL l ≠ k) → Evolves isa k (l :: ls) acc acc' := by
      intro hl hirr
      obtain ⟨h1, h2⟩ := rel_of_irrelevant k l hirr
      unfold Evolves at IH ⊢
      rw [hl] at IH
      simp only [afterG_cons, h1, h2, Bool.false_eq_true, if_false]
      exact ⟨IH.1, fun hn => (IH.2 hn).imp
        (fun ⟨b1, b2⟩ => ⟨b1, fun x hx => (List.mem_cons.mp hx).elim (· ▸ hirr) (b2 x)⟩)
        (fun ⟨e', b1, b2, b3, l', hl', b4⟩ => ⟨e', b1, b2, b3, l', List.mem_cons_of_mem _ hl', b4⟩)⟩
    rcases step_ok isa acc a l hst with ⟨hs, ha⟩ | ⟨hs, e, e', hsrc, ha, hm, ho, htp, hlt⟩
    · subst ha
      exact pass rfl (Or.inl hs)
    · by_cases hk : keyL l = k
      · subst hk
        have hla : lookup (keyL l) a = some e' := by rw [ha]; exact lookup_upsert_self _ _ _
        obtain ⟨e'', c1, c2, c3, c4, c5⟩ := IH.1 e' hla
        obtain ⟨r1, r2⟩ := rel_self l hs
        have t4 : e''.tp = afterG (relTP (keyL l)) valTp e.tp (l :: ls) := by rw [afterG_cons, r1, c4, htp]
        have t5 : e''.lt = afterG (relLT (keyL l)) valLt e.lt (l :: ls) := by rw [afterG_cons, r2, c5, hlt]
        rcases hsrc with hsome | ⟨hnone, hnew⟩
        · refine ⟨fun e1 he1 => ?_, fun hn => ?_⟩
          · cases hsome.symm.trans he1
            exact ⟨e'', c1, c2.trans hm, c3.trans ho, t4, t5⟩
          · rw [hsome] at hn; cases hn
        · refine ⟨fun e1 he1 => ?_, fun _ => .inr ?_⟩
          · rw [hnone] at he1; cases he1
          · obtain ⟨_, _, _, he⟩ := newEntry_ok hnew
            refine ⟨e'', c1, ?_, ?_, l, List.mem_cons_self, hs, rfl, e, hnew, c2.trans hm, c3.trans ho⟩
            · rw [t4, he]
            · rw [t5, he]
      · have hl : lookup k a = lookup k acc := by
          rw [ha]; exact lookup_upsert_ne _ _ _ _ (fun c => hk c.symm)
        exact pass hl (Or.inr hk)

theorem run_nodup (isa : Isa) (ls : List ILine) :
    ∀ acc acc', run isa ls acc = .ok acc' → (keys acc).Nodup → (keys acc').Nodup := by
  refine run_preserves isa (fun acc => (keys acc).Nodup) (fun acc a l hst hn => ?_) ls
  rcases step_ok isa acc a l hst with ⟨_, ha⟩ | ⟨_, e, e', _, ha, _⟩
  · exact ha ▸ hn
  · exact ha ▸ nodup_keys_upsert _ _ _ hn

theorem run_operands_ne (isa : Isa) (ls : List ILine) :
    ∀ acc acc', run isa ls acc = .ok acc' → (∀ p ∈ acc, p.2.operands ≠ []) → ∀ p ∈ acc', p.2.operands ≠ [] := by
  refine run_preserves isa (fun acc => ∀ p ∈ acc, p.2.operands ≠ []) (fun acc a l hst hn => ?_) ls
  rcases step_ok isa acc a l hst with ⟨_, ha⟩ | ⟨_, e, e', hsrc, ha, _, ho, _⟩
  · exact ha ▸ hn
  · intro p hp
    rcases mem_upsert _ _ _ _ (ha ▸ hp) with rfl | hp
    · rw [show (keyL l, e').2.operands = e.operands from ho]
      rcases hsrc with hs | ⟨_, hnew⟩
      · exact hn _ (mem_of_lookup _ _ _ hs)
      · exact newEntry_operands_ne isa _ e hnew
    · exact hn p hp

/-! ### `_get_asmbench_output` -/

/-- The condition is `BadStart lines` written out: `BadStart` is a `Prop`-valued `def` and has no
    `Decidable` instance for the `if`; `if_pos`/`if_neg` with a proof of `BadStart …` still apply. -/
theorem asmGo_succ (isa : Isa) (f : Nat) (lines : List Txt) (acc : Acc) :
    asmGo isa (f + 1) lines acc =
      if lines.length ≤ abBlank ∨ strip (lines.getD abBlank []) ≠ [] then .ok acc
      else (blockEntry isa (lines.take abStep)).bind fun p => asmGo isa f (lines.drop abStep) (upsert p.1 p.2 acc) := by
  rw [asmGo]
  by_cases hl : lines.length ≤ abBlank
  · rw [if_pos (Or.inl hl), if_pos hl]
    cases lines <;> rfl
  · have he : lines.isEmpty = false := by
      cases lines with
      | nil => exact absurd (Nat.zero_le _) hl
      | cons _ _ => rfl
    rw [he, if_neg Bool.false_ne_true, if_neg hl]
    cases hs : strip (lines.getD abBlank []) with
    | nil => rw [if_neg (not_or.mpr ⟨hl, fun h => h rfl⟩)]; cases blockEntry isa (lines.take abStep) <;> rfl
    | cons _ _ => rw [if_pos (Or.inr (List.cons_ne_nil _ _))]; rfl

theorem asmGo_stop (isa : Isa) (fuel : Nat) (rest : List Txt) (acc : Acc) (hb : BadStart rest) :
    asmGo isa fuel rest acc = .ok acc := by
  cases fuel with
  | zero => rfl
  | succ f => exact (asmGo_succ isa f rest acc).trans (if_pos hb)

theorem asmGo_blocks (isa : Isa) (bs : List (List Txt)) :
    ∀ (rest : List Txt) (acc : Acc) (fuel : Nat), (bs.flatten ++ rest).length ≤ fuel →
      (∀ b ∈ bs, GoodShape b) → BadStart rest →
      asmGo isa fuel (bs.flatten ++ rest) acc = foldBlocks isa bs acc := by
  induction bs with
  | nil => intro rest acc fuel _ _ hb; exact asmGo_stop isa fuel rest acc hb
  | cons b bs ih =>
    intro rest acc fuel hf hg hb
    obtain ⟨hlen, hblank⟩ := hg b List.mem_cons_self
    have hlen4 : b.length = 4 := hlen   -- `abStep`; below `abBlank = 3 < 4` places the blank line inside `b`
    simp only [List.flatten_cons, List.append_assoc, List.length_append, hlen4] at hf ⊢
    cases fuel with
    | zero => omega
    | succ f =>
      -- the first block is well-shaped, so the loop consumes it
      have hgo : ¬ ((b ++ (bs.flatten ++ rest)).length ≤ abBlank ∨ strip ((b ++ (bs.flatten ++ rest)).getD abBlank []) ≠ []) := by
        rw [List.getD_eq_getElem?_getD, List.getElem?_append_left (by simp [hlen4, abBlank]), ← List.getD_eq_getElem?_getD]
        exact not_or.mpr ⟨by simp only [List.length_append, hlen4, abBlank]; omega, fun h => h hblank⟩
      rw [asmGo_succ, if_neg hgo, List.take_left' hlen, List.drop_left' hlen, foldBlocks]
      cases blockEntry isa b with
      | err x => rfl
      | ok ke =>
        exact ih rest _ f (by simp only [List.length_append]; omega) (fun b' hb' => hg b' (List.mem_cons_of_mem _ hb')) hb

theorem asmGo_operands_ne (isa : Isa) (fuel : Nat) :
    ∀ lines acc acc', asmGo isa fuel lines acc = .ok acc' → (∀ p ∈ acc, p.2.operands ≠ []) →
      ∀ p ∈ acc', p.2.operands ≠ [] := by
  induction fuel with
  | zero => intro lines acc acc' h hn; exact Res.ok.inj h ▸ hn
  | succ f ih =>
    intro lines acc acc' h hn
    rw [asmGo_succ] at h
    split at h
    · exact Res.ok.inj h ▸ hn
    · obtain ⟨⟨k, e⟩, hbe, h⟩ := Res.bind_eq_ok.mp h
      refine ih _ _ acc' h fun p hp => ?_
      rcases mem_upsert _ _ _ _ hp with rfl | hp
      · exact blockEntry_operands_ne isa _ k e hbe
      · exact hn p hp

/-! ### `set_instruction_entry` / `dump` -/

theorem matchArity_eq (isa : Isa) (a b : Nat) (h : matchArity isa a b = true) : a = b := by
  simp only [matchArity, Bool.and_eq_true, beq_iff_eq] at h; exact h.1

theorem matchArity_a64 (a b : Nat) (hb : b ≠ 0) : matchArity .a64 a b = false := by
  unfold matchArity
  by_cases h : a = b
  · subst h; simp [hb]
  · simp [h]

theorem findAdded_none (isa : Isa) (K : Txt) (ar : Nat) (l : List (Txt × Entry))
    (h : ∀ y ∈ l, ¬ (y.1 = K ∧ matchArity isa y.2.operands.length ar = true)) (j : Nat) :
    findAdded isa K ar l j = none := by
  induction l generalizing j with
  | nil => rfl
  | cons y r ih =>
    obtain ⟨k, e⟩ := y
    unfold findAdded
    have h1 := h (k, e) List.mem_cons_self
    simp only [] at h1
    rw [if_neg h1]
    exact ih (fun y hy => h y (List.mem_cons_of_mem _ hy)) (j + 1)

theorem lookupIdx_miss (isa : Isa) (st : MState) (name : Txt) (ar : Nat)
    (h1 : ∀ x ∈ st.existing, ¬ (x.1 = upper name ∧ matchArity isa x.2 ar = true))
    (h2 : ∀ y ∈ st.added, ¬ (y.1 = upper name ∧ matchArity isa y.2.operands.length ar = true)) :
    lookupIdx isa st name ar = .miss := by
  unfold lookupIdx
  have : (st.existing.any fun x => decide (x.1 = upper name ∧ matchArity isa x.2 ar = true)) = false := by
    rw [List.any_eq_false]
    intro x hx; simpa using h1 x hx
  simp only [this, Bool.false_eq_true, if_false, findAdded_none isa (upper name) ar st.added h2 0]

/-- a form of the target model with the same (upper-cased) mnemonic and operand count swallows the
    imported form on x86: the state `dump` reads is unchanged (defect D11, for every state) -/
theorem insert_x86_existing_invisible (st : MState) (e : Entry)
    (h : ∃ x ∈ st.existing, Collide x.1 x.2 e) : insert .x86 st e = st := by
  obtain ⟨x, hx, h1, h2⟩ := h
  unfold insert lookupIdx
  have : (st.existing.any fun x => decide (x.1 = upper e.mnemonic ∧ matchArity .x86 x.2 e.operands.length = true)) = true := by
    rw [List.any_eq_true]
    exact ⟨x, hx, by simp [h1, h2, matchArity]⟩
  rw [if_pos this]

/-- entries whose look-up misses in the state reached before them are all appended, in order -/
theorem insertAll_of_miss (isa : Isa) (es : List Entry) : ∀ st : MState,
    (∀ pre e post, es = pre ++ e :: post →
      lookupIdx isa { st with added := st.added ++ pre.map fun e => (e.mnemonic, e) } e.mnemonic e.operands.length = .miss) →
    (insertAll isa st es).added = st.added ++ es.map fun e => (e.mnemonic, e) := by
  induction es with
  | nil => intro st _; simp [insertAll]
  | cons e es ih =>
    intro st h
    have h0 := h [] e es rfl
    rw [List.map_nil, List.append_nil] at h0
    have hi : insert isa st e = { st with added := st.added ++ [(e.mnemonic, e)] } := by unfold insert; rw [h0]
    have := ih { st with added := st.added ++ [(e.mnemonic, e)] } fun pre e' post hes => by
      have := h (e :: pre) e' post (by rw [hes]; rfl)
      rwa [List.map_cons, List.append_cons] at this
    rw [← hi] at this
    exact this.trans (by rw [hi]; simp)

theorem insertAll_no_collision (isa : Isa) (es : List Entry) (st : MState)
    (h1 : ∀ e ∈ es, ∀ x ∈ st.existing, ¬ Collide x.1 x.2 e)
    (h2 : ∀ e ∈ es, ∀ y ∈ st.added, ¬ Collide y.1 y.2.operands.length e)
    (h3 : es.Pairwise (fun e1 e2 => ¬ Collide e1.mnemonic e1.operands.length e2)) :
    (insertAll isa st es).added = st.added ++ es.map (fun e => (e.mnemonic, e)) := by
  refine insertAll_of_miss isa es st fun pre e post hes => ?_
  have he : e ∈ es := hes ▸ List.mem_append_right _ List.mem_cons_self
  refine lookupIdx_miss _ _ _ _ (fun x hx c => h1 e he x hx ⟨c.1, matchArity_eq isa _ _ c.2⟩) fun y hy c => ?_
  have hp := List.pairwise_append.mp (hes ▸ h3)
  rcases List.mem_append.mp hy with hy | hy
  · exact h2 e he y hy ⟨c.1, matchArity_eq isa _ _ c.2⟩
  · obtain ⟨e', he', rfl⟩ := List.mem_map.mp hy
    exact hp.2.2 e' he' e List.mem_cons_self ⟨c.1, matchArity_eq isa _ _ c.2⟩

/-- AArch64: DB-format operands never match, so every imported form is appended -/
theorem insertAll_a64 (es : List Entry) (st : MState) (h : ∀ e ∈ es, e.operands ≠ []) :
    (insertAll .a64 st es).added = st.added ++ es.map (fun e => (e.mnemonic, e)) := by
  refine insertAll_of_miss .a64 es st fun pre e post hes => ?_
  have hne : e.operands.length ≠ 0 :=
    fun c => h e (hes ▸ List.mem_append_right _ List.mem_cons_self) (List.eq_nil_of_length_eq_zero c)
  exact lookupIdx_miss _ _ _ _ (fun x _ c => by rw [matchArity_a64 _ _ hne] at c; cases c.2)
    (fun y _ c => by rw [matchArity_a64 _ _ hne] at c; cases c.2)

end OsacaVerif.Import
