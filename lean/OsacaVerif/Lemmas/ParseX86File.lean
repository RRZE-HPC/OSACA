import OsacaVerif.Model.ParseX86
import OsacaVerif.Spec.X86Render
/-
  C09 — `parse_file`: line splitting and the numbering loop.
-/
namespace OsacaVerif.ParseX86
open OsacaVerif.Text OsacaVerif.X86 OsacaVerif.Spec.X86R

theorem splitLines_lf (cs : Txt) : splitLines (10 :: cs) = [] :: splitLines cs := rfl

theorem splitLines_cons_ne {c : Nat} {cs l : Txt} {ls : List Txt} (hc : c ≠ 10) (h : splitLines cs = l :: ls) :
    splitLines (c :: cs) = (c :: l) :: ls := by
  simp [splitLines, hc, h]

theorem joinLines_cons_cons (d : Nat) (l : Txt) (rest : List Txt) :
    joinLines ((d :: l) :: rest) = d :: joinLines (l :: rest) := by
  cases rest <;> rfl

/-- `split("\n")`: the pieces contain no line feed and joining them gives the text back -/
theorem splitLines_spec (t : Txt) : IsSplit t (splitLines t) := by
  induction t with
  | nil => exact ⟨List.cons_ne_nil _ _, fun l hl => by rw [List.mem_singleton.mp hl]; exact List.not_mem_nil, rfl⟩
  | cons c cs ih =>
    obtain ⟨hne, hno, hj⟩ := ih
    obtain ⟨l0, ls, h0⟩ := List.exists_cons_of_ne_nil hne
    rw [h0] at hno hj
    by_cases hc : c = 10
    · rw [hc, splitLines_lf, h0]
      exact ⟨List.cons_ne_nil _ _, fun l hl => (List.mem_cons.mp hl).elim (fun e => e ▸ List.not_mem_nil) (hno l),
        congrArg (10 :: ·) hj⟩
    · rw [splitLines_cons_ne hc h0]
      refine ⟨List.cons_ne_nil _ _, fun l hl => ?_, by rw [joinLines_cons_cons, hj]⟩
      rcases List.mem_cons.mp hl with rfl | h
      · exact fun hm => (List.mem_cons.mp hm).elim (fun e => hc e.symm) (hno l0 (by simp))
      · exact hno l (by simp [h])

/-- the split is unique: the declarative description determines the lines -/
theorem split_unique (t : Txt) (ls : List Txt) (h : IsSplit t ls) : ls = splitLines t := by
  obtain ⟨hne, hno, hj⟩ := h
  induction t generalizing ls with
  | nil =>
    match ls, hne, hj with
    | [[]], _, _ => rfl
    | [] :: _ :: _, _, hj => cases hj
    | (d :: l) :: rest, _, hj => rw [joinLines_cons_cons] at hj; cases hj
  | cons c cs ih =>
    match ls, hne, hno, hj with
    | [[]], _, _, hj => cases hj
    | [] :: a :: as, _, hno, hj =>
      -- the text starts with the line feed that ends the empty first line
      obtain ⟨rfl, hj'⟩ := List.cons.inj hj
      rw [splitLines_lf, ← ih (a :: as) (List.cons_ne_nil _ _) (fun l hl => hno l (by simp [hl])) hj']
    | (d :: l) :: rest, _, hno, hj =>
      rw [joinLines_cons_cons] at hj
      obtain ⟨rfl, hj'⟩ := List.cons.inj hj
      have hd : d ≠ 10 := fun e => hno (d :: l) (by simp) (by simp [e])
      have := ih (l :: rest) (List.cons_ne_nil _ _) (fun x hx => by
        rcases List.mem_cons.mp hx with rfl | h
        · exact fun hm => hno (d :: x) (by simp) (by simp [hm])
        · exact hno x (by simp [h])) hj'
      rw [splitLines_cons_ne hd this.symm]

/-- **the numbering loop**: one element per non-blank line, in order, numbered `index + 1 + start`,
    text verbatim, parsed by the given line parser -/
theorem fileLoop_spec (p : Txt → Res) (s : Nat) (ls : List Txt) (i : Nat) :
    fileLoop p s i ls =
      ((ls.zipIdx i).filter (fun q => !isBlank q.1)).map (fun q => ⟨q.2 + 1 + s, q.1, p q.1⟩) := by
  induction ls generalizing i with
  | nil => rfl
  | cons l ls ih =>
    simp only [fileLoop, List.zipIdx_cons, List.filter_cons]
    cases h : isBlank l <;> simp [ih (i + 1)]

theorem fileLoop_lineNo_ge (p : Txt → Res) (s : Nat) (ls : List Txt) (i : Nat) :
    ∀ x ∈ fileLoop p s i ls, i + 1 + s ≤ x.lineNo := by
  induction ls generalizing i with
  | nil => intro x hx; cases hx
  | cons l ls ih =>
    intro x hx
    simp only [fileLoop] at hx
    split at hx
    · have := ih (i + 1) x hx; omega
    · rcases List.mem_cons.mp hx with h | h
      · subst h; exact Nat.le_refl _
      · have := ih (i + 1) x h; omega

theorem fileLoop_sorted (p : Txt → Res) (s : Nat) (ls : List Txt) (i : Nat) :
    (fileLoop p s i ls).Pairwise (fun a b => a.lineNo < b.lineNo) := by
  induction ls generalizing i with
  | nil => exact List.Pairwise.nil
  | cons l ls ih =>
    simp only [fileLoop]
    split
    · exact ih (i + 1)
    · refine List.Pairwise.cons ?_ (ih (i + 1))
      intro x hx
      have := fileLoop_lineNo_ge p s ls (i + 1) x hx
      show i + 1 + s < x.lineNo
      omega

end OsacaVerif.ParseX86
