import OsacaVerif.Lemmas.A64Ident
/-
  Floating-point immediates `#1.5`, `-0.25e-3`, `#2.0f`, `1.0E+2F`.
-/
namespace OsacaVerif.ParseA64
open OsacaVerif.Text OsacaVerif.Spec.A64 OsacaVerif.Gen

/-- a non-empty string of decimal digits -/
def Digits (t : Txt) : Prop := t ≠ [] ∧ ∀ c ∈ t, isDigitC c = true

theorem Digits.cons {t : Txt} (h : Digits t) : ∃ d ds, t = d :: ds ∧ ∀ c ∈ d :: ds, isDigitC c = true := by
  obtain ⟨hne, hall⟩ := h
  cases t with
  | nil => exact absurd rfl hne
  | cons d ds => exact ⟨d, ds, rfl, hall⟩

theorem mantissaNS_text (ip fp R : Txt) (hip : Digits ip) (hfp : Digits fp) (hR : StopsAt isDigitC R) :
    mantissaNS (ip ++ 46 :: (fp ++ R)) = some (ip ++ 46 :: fp, R) := by
  obtain ⟨a, as, rfl, ha⟩ := hip.cons
  obtain ⟨b, bs, rfl, hb⟩ := hfp.cons
  have h46 : StopsAt isDigitC (46 :: (b :: bs ++ R)) := stopsAt_head _ 46 _ (by decide)
  have h1 := wordNS_append isDigitC a as _ ha h46
  have h2 := wordNS_append isDigitC b bs R hb hR
  simp only [List.cons_append] at h1 h2 ⊢
  simp only [mantissaNS, h1, h2, mapR_some]
  rfl

theorem mantissa_text (neg : Bool) (ip fp R : Txt) (hip : Digits ip) (hfp : Digits fp) (hR : StopsAt isDigitC R) :
    mantissa (optNeg neg ++ (ip ++ 46 :: (fp ++ R))) = some (optNeg neg ++ (ip ++ 46 :: fp), R) := by
  obtain ⟨a, as, hipe, ha⟩ := hip.cons
  have haws := digit_not_ws a (ha a (by simp))
  have hab := digit_bounds a (ha a (by simp))
  cases neg with
  | true =>
    simp only [optNeg, if_true, List.cons_append, List.nil_append, mantissa, skipWs_cons 45 _ (by decide : isWs 45 = false),
      mantissaNS_text ip fp R hip hfp hR, mapR_some]
  | false =>
    simp only [optNeg, Bool.false_eq_true, if_false, List.nil_append, mantissa]
    rw [hipe, List.cons_append, skipWs_cons a _ haws]
    split
    · rename_i r h; simp at h; omega
    · rw [← List.cons_append, ← hipe]; exact mantissaNS_text ip fp R hip hfp hR

/-- exponent part as written: letter, sign, digits -/
def expText (e : Option (Nat × Nat × Txt)) : Txt :=
  match e with
  | some x => x.1 :: x.2.1 :: x.2.2
  | none => []

def ExpOk (e : Option (Nat × Nat × Txt)) : Prop :=
  ∀ x, e = some x → lowerC x.1 = 101 ∧ isSignC x.2.1 = true ∧ Digits x.2.2

def expTok (e : Option (Nat × Nat × Txt)) : Option (Txt × Txt) :=
  match e with
  | some x => some ([x.2.1], x.2.2)
  | none => none

theorem sign_cases (c : Nat) (h : isSignC c = true) : c = 43 ∨ c = 45 := by
  simpa [isSignC] using h

theorem exponent_text (x : Nat × Nat × Txt) (R : Txt) (he : lowerC x.1 = 101) (hs : isSignC x.2.1 = true)
    (hd : Digits x.2.2) (hR : StopsAt isDigitC R) :
    exponent (x.1 :: x.2.1 :: (x.2.2 ++ R)) = some (([x.2.1], x.2.2), R) := by
  obtain ⟨d, ds, hde, hdall⟩ := hd.cons
  have hews : isWs x.1 = false := alpha_not_ws x.1 (alpha_of_lowerC_alpha x.1 (by rw [he]; decide))
  have hsws : isWs x.2.1 = false := by
    rcases sign_cases _ hs with h | h <;> rw [h] <;> decide
  have hdws := digit_not_ws d (hdall d (by simp))
  have hcl : clit true [101] (x.1 :: x.2.1 :: (x.2.2 ++ R)) = some (x.2.1 :: (x.2.2 ++ R)) := by
    rw [← List.nil_append (x.1 :: _), clit_char 101 [] x.1 _ blank_nil hews, if_pos he]
  have hsg : word true isSignC (x.2.1 :: (x.2.2 ++ R)) = some ([x.2.1], x.2.2 ++ R) := by
    simp only [word, sk_true, skipWs_cons x.2.1 _ hsws]
    have hstop : StopsAt isSignC (x.2.2 ++ R) := by
      rw [hde]
      refine stopsAt_head _ d _ ?_
      cases hsd : isSignC d with
      | false => rfl
      | true =>
        have hd := hdall d (by simp)
        rcases sign_cases d hsd with rfl | rfl <;> exact absurd hd (by decide)
    have := wordNS_append isSignC x.2.1 [] _ (by simpa using hs) hstop
    simpa using this
  have hdg : word true isDigitC (x.2.2 ++ R) = some (x.2.2, R) := by
    simp only [word, sk_true]
    rw [hde, List.cons_append, skipWs_cons d _ hdws]
    exact wordNS_append isDigitC d ds R hdall hR
  simp only [exponent, hcl, hsg, hdg, mapR_some]

theorem clit_none_follow (l : Txt) (a : Nat) (rest : Txt) (hf : Follow rest) (ha : a ≠ 44 ∧ a ≠ 47 ∧ a ≠ 93) :
    clit true (a :: l) rest = none := by
  simp only [clit, sk_true]
  cases hs : skipWs rest with
  | nil => rfl
  | cons c r =>
    have : lowerC c ≠ a := by
      rcases hf.next c r hs with rfl | rfl | rfl <;> simp [lowerC] <;> omega
    simp [dropPrefixCI, this]

/-- suffix letter `f`/`F` as written -/
def fText (f : Option Nat) : Txt :=
  match f with
  | some c => [c]
  | none => []

def FOk (f : Option Nat) : Prop := ∀ c, f = some c → lowerC c = 102

/-- the part of the text behind `#` -/
def fltBody (neg : Bool) (ip fp : Txt) (e : Option (Nat × Nat × Txt)) (f : Option Nat) : Txt :=
  optNeg neg ++ (ip ++ 46 :: (fp ++ (expText e ++ fText f)))

def fltTok (neg : Bool) (ip fp : Txt) (e : Option (Nat × Nat × Txt)) (f : Option Nat) : ImmTok :=
  .flt f.isNone (optNeg neg ++ (ip ++ 46 :: fp)) (expTok e)

/-- exponent (if written) and what is left in front of the optional `f` -/
theorem optP_exponent (e : Option (Nat × Nat × Txt)) (he : ExpOk e) (F : Txt)
    (hF : StopsAt isDigitC F) (hFe : clit true [101] F = none) :
    ∃ r, optP true exponent (expText e ++ F) = (expTok e, r) ∧ skipWs r = skipWs F ∧
      (r = F ∨ r = skipWs F) := by
  cases e with
  | none =>
    refine ⟨skipWs F, ?_, skipWs_idem F, Or.inr rfl⟩
    simp [expText, expTok, optP_none true exponent _ (by simp [exponent, hFe] : exponent F = none), sk_true]
  | some x =>
    obtain ⟨h1, h2, h3⟩ := he x rfl
    refine ⟨F, ?_, rfl, Or.inl rfl⟩
    have := exponent_text x F h1 h2 h3 hF
    simp only [expText, expTok, List.cons_append]
    rw [optP_some true exponent _ _ _ this]

structure FltOk (ip fp : Txt) (e : Option (Nat × Nat × Txt)) (f : Option Nat) : Prop where
  ip : Digits ip
  fp : Digits fp
  e : ExpOk e
  f : FOk f

theorem lowerC_ef_alpha (c : Nat) (h : lowerC c = 101 ∨ lowerC c = 102) : isAlphaC c = true ∧ isDigitC c = false := by
  have hal : isAlphaC c = true := alpha_of_lowerC_alpha c (by rcases h with h | h <;> rw [h] <;> decide)
  exact ⟨hal, alpha_not_digit c hal⟩

/-- **floating-point immediate** as the grammar reads it -/
theorem immediate_flt (g : Txt) (hash neg : Bool) (ip fp : Txt) (e : Option (Nat × Nat × Txt)) (f : Option Nat)
    (rest : Txt) (hg : Blank g) (hok : FltOk ip fp e f) (hf : Follow rest) :
    ∃ r', immediate (g ++ (optHash hash ++ (fltBody neg ip fp e f ++ rest))) = some (fltTok neg ip fp e f, r') ∧
      skipWs r' = skipWs rest := by
  obtain ⟨a, as, hipe, ha⟩ := hok.ip.cons
  have hab := digit_bounds a (ha a (by simp))
  have haws := digit_not_ws a (ha a (by simp))
  have hFstop : StopsAt isDigitC (fText f ++ rest) := by
    cases f with
    | none => simpa [fText] using hf.stops isDigitC rest (by decide)
    | some c => exact stopsAt_head _ c _ (lowerC_ef_alpha c (Or.inr (hok.f c rfl))).2
  have hFe : clit true [101] (fText f ++ rest) = none := by
    cases f with
    | none => simpa [fText] using clit_none_follow [] 101 rest hf (by omega)
    | some c =>
      have hcws := alpha_not_ws c (lowerC_ef_alpha c (Or.inr (hok.f c rfl))).1
      have : lowerC c ≠ 101 := by rw [hok.f c rfl]; omega
      simp [fText, clit, sk_true, skipWs_cons c _ hcws, dropPrefixCI, this]
  have hRstop : StopsAt isDigitC (expText e ++ (fText f ++ rest)) := by
    cases e with
    | none => simpa [expText] using hFstop
    | some x => exact stopsAt_head _ x.1 _ (lowerC_ef_alpha x.1 (Or.inl (hok.e x rfl).1)).2
  obtain ⟨rE, hexp, hskE, hrE⟩ := optP_exponent e hok.e (fText f ++ rest) hFstop hFe
  have hX : fltBody neg ip fp e f ++ rest = optNeg neg ++ (ip ++ 46 :: (fp ++ (expText e ++ (fText f ++ rest)))) := by
    simp [fltBody, List.append_assoc]
  rw [hX]
  have hmant := mantissa_text neg ip fp _ hok.ip hok.fp hRstop
  have hhead : ∃ c t, optNeg neg ++ (ip ++ 46 :: (fp ++ (expText e ++ (fText f ++ rest)))) = c :: t ∧ isWs c = false ∧ c ≠ 35 := by
    cases neg with
    | true => exact ⟨45, ip ++ 46 :: (fp ++ (expText e ++ (fText f ++ rest))), by simp [optNeg], by decide, by decide⟩
    | false => exact ⟨a, as ++ 46 :: (fp ++ (expText e ++ (fText f ++ rest))), by simp [optNeg, hipe], haws, by omega⟩
  obtain ⟨c0, t0, hc0, hc0ws, hc035⟩ := hhead
  have hopt : optLit true A64.immSym (g ++ (optHash hash ++ (optNeg neg ++ (ip ++ 46 :: (fp ++ (expText e ++ (fText f ++ rest))))))) =
      optNeg neg ++ (ip ++ 46 :: (fp ++ (expText e ++ (fText f ++ rest)))) := by
    rw [hc0]; exact optLit_hash g hash c0 t0 hg hc0ws hc035
  have hs46 : StopsAt (fun c => c == 48 || c == 120) (46 :: (fp ++ (expText e ++ (fText f ++ rest)))) :=
    stopsAt_head _ 46 _ (by decide)
  have hd46 : StopsAt isDigitC (46 :: (fp ++ (expText e ++ (fText f ++ rest)))) := stopsAt_head _ 46 _ (by decide)
  have hhex : hexNum (optNeg neg ++ (ip ++ 46 :: (fp ++ (expText e ++ (fText f ++ rest))))) = none := by
    rw [hipe]; exact hexNum_digits neg a as _ ha hs46
  have hdec : decNum (optNeg neg ++ (ip ++ 46 :: (fp ++ (expText e ++ (fText f ++ rest))))) =
      some (optNeg neg ++ ip, 46 :: (fp ++ (expText e ++ (fText f ++ rest)))) := by
    rw [hipe]; exact decNum_digits neg a as _ ha hd46
  have hdouble : doubleP (optNeg neg ++ (ip ++ 46 :: (fp ++ (expText e ++ (fText f ++ rest))))) =
      some (.flt true (optNeg neg ++ (ip ++ 46 :: fp)) (expTok e), rE) := by
    simp only [doubleP, hmant, hexp]
  have hlenE : rE.length ≤ (fText f ++ rest).length := by
    rcases hrE with h | h <;> rw [h]
    · exact Nat.le_refl _
    · exact skipWs_length_le _
  have hdeclen : (fText f ++ rest).length < (46 :: (fp ++ (expText e ++ (fText f ++ rest)))).length := by
    simp; omega
  cases f with
  | none =>
    have hfl : floatP (optNeg neg ++ (ip ++ 46 :: (fp ++ (expText e ++ (fText none ++ rest))))) = none := by
      have : clit true [102] rE = none := by
        rw [← clit_skip, hskE, clit_skip]
        simpa [fText] using clit_none_follow [] 102 rest hf (by omega)
      simp only [floatP, hmant, hexp, this]
    refine ⟨rE, ?_, by simpa [fText] using hskE⟩
    simp only [immediate, hopt, hhex, hdec, hfl, hdouble, mapR_none, mapR_some, better_none_left, better_none_right]
    -- without `f`: hex and float fail, the decimal reading stops at the point, the double reads further
    rw [better_some_lt _ _ _ _ (Nat.lt_of_le_of_lt hlenE hdeclen)]
    simp [fltTok]
  | some c =>
    have hcal := (lowerC_ef_alpha c (Or.inr (hok.f c rfl))).1
    have hcws := alpha_not_ws c hcal
    have hrEeq : rE = c :: rest := by
      rcases hrE with h | h
      · simpa [fText] using h
      · rw [h]; simp [fText, skipWs_cons c _ hcws]
    have hfl : floatP (optNeg neg ++ (ip ++ 46 :: (fp ++ (expText e ++ (fText (some c) ++ rest))))) =
        some (.flt false (optNeg neg ++ (ip ++ 46 :: fp)) (expTok e), rest) := by
      have : clit true [102] rE = some rest := by
        rw [hrEeq, ← List.nil_append (c :: rest), clit_char 102 [] c rest blank_nil hcws, if_pos (hok.f c rfl)]
      simp only [floatP, hmant, hexp, this]
    refine ⟨rest, ?_, rfl⟩
    have h1 : rest.length < (46 :: (fp ++ (expText e ++ (fText (some c) ++ rest)))).length := by
      simp [fText]; omega
    have h2 : rest.length ≤ rE.length := by rw [hrEeq]; simp
    simp only [immediate, hopt, hhex, hdec, hfl, hdouble, mapR_none, mapR_some, better_none_left]
    -- with `f`: the float reads past the decimal reading, and the double (which stops at `f`) no further
    rw [better_some_lt _ _ _ _ h1, better_some_ge _ _ _ _ h2]
    simp [fltTok]

def fltText (hash neg : Bool) (ip fp : Txt) (e : Option (Nat × Nat × Txt)) (f : Option Nat) : Txt :=
  optHash hash ++ fltBody neg ip fp e f

theorem fltText_head (hash neg : Bool) (ip fp : Txt) (e : Option (Nat × Nat × Txt)) (f : Option Nat)
    (hip : Digits ip) :
    ∃ c t, fltText hash neg ip fp e f = c :: t ∧ isWs c = false ∧ isAlphaC c = false ∧
      c ≠ 58 ∧ c ≠ 43 ∧ c ≠ 123 ∧ c ≠ 91 ∧ isIdFirstC c = false := by
  obtain ⟨a, as, hipe, ha⟩ := hip.cons
  -- the head is `#`, `-` or the first digit
  have key : ∀ c t, fltText hash neg ip fp e f = c :: t → (c = 35 ∨ c = 45 ∨ isDigitC c = true) →
      ∃ c t, fltText hash neg ip fp e f = c :: t ∧ isWs c = false ∧ isAlphaC c = false ∧
        c ≠ 58 ∧ c ≠ 43 ∧ c ≠ 123 ∧ c ≠ 91 ∧ isIdFirstC c = false := fun c t h hc =>
    let ⟨hws, hal, hidf, h123, h91, h58, h43⟩ := numHead_facts c hc
    ⟨c, t, h, hws, hal, h58, h43, h123, h91, hidf⟩
  cases hash with
  | true => exact key 35 (fltBody neg ip fp e f) (by simp [fltText, optHash]) (Or.inl rfl)
  | false =>
    cases neg with
    | true =>
      exact key 45 (ip ++ 46 :: (fp ++ (expText e ++ fText f))) (by simp [fltText, optHash, fltBody, optNeg])
        (Or.inr (Or.inl rfl))
    | false =>
      exact key a (as ++ 46 :: (fp ++ (expText e ++ fText f))) (by simp [fltText, optHash, fltBody, optNeg, hipe])
        (Or.inr (Or.inr (ha a (by simp))))

/-- **floating-point immediate** in any operand slot -/
theorem goodOp_flt (hash neg : Bool) (ip fp : Txt) (e : Option (Nat × Nat × Txt)) (f : Option Nat)
    (hok : FltOk ip fp e f) :
    GoodOp false true (fltText hash neg ip fp e f) (.imm (fltTok neg ip fp e f)) := by
  obtain ⟨c, t, hct, hws, ha, h58, h43, h123, h91, hidf⟩ := fltText_head hash neg ip fp e f hok.ip
  refine goodOp_imm hct hws h91 h123 hidf h58 h43 (fun g rest hg hf => ?_)
  rw [fltText, List.append_assoc]
  exact immediate_flt g hash neg ip fp e f rest hg hok hf

theorem covered_flt (last fst : Bool) (hash neg : Bool) (ip fp : Txt) (e : Option (Nat × Nat × Txt)) (f : Option Nat)
    (hok : FltOk ip fp e f) : CoveredOp last fst (.flt hash neg ip fp e f) := by
  refine (goodOp_flt hash neg ip fp e f hok).covered ?_ ?_
  · cases e <;> cases f <;> simp [opPieces, fltText, fltBody, expText, fText, List.append_assoc]
  · cases e <;> cases f <;> simp [processOperand, processImmediate, fltTok, expectOp, expTok, optMap, List.append_assoc]

end OsacaVerif.ParseA64
