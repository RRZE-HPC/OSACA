import OsacaVerif.Lemmas.LCDNorm
/-
  Helper development for C05 (`winding1_sorted`): a path with strictly increasing vertices from
  `i` to `i + off` splits into the part in the first kernel copy (`< off`) followed by the part in the
  second copy (`≥ off`); mapped back modulo `off` and sorted it is the second part followed by the
  first — strictly ascending, every instruction at most once.
-/
namespace OsacaVerif.LCD
open OsacaVerif OsacaVerif.DG

/-- the part of a path inside the first kernel copy -/
def firstCopy (off : Nat) (p : List (Nat × Rat)) : List (Nat × Rat) := p.filter (fun x => x.1 < off)
/-- the part of a path inside the second kernel copy -/
def secondCopy (off : Nat) (p : List (Nat × Rat)) : List (Nat × Rat) := p.filter (fun x => off ≤ x.1)

theorem mem_firstCopy {off : Nat} {p : List (Nat × Rat)} {x : Nat × Rat} : x ∈ firstCopy off p ↔ x ∈ p ∧ x.1 < off := by
  simp [firstCopy]

theorem mem_secondCopy {off : Nat} {p : List (Nat × Rat)} {x : Nat × Rat} :
    x ∈ secondCopy off p ↔ x ∈ p ∧ off ≤ x.1 := by
  simp [secondCopy]

/-- an increasing path crosses the copy boundary at most once: first-copy part, then second-copy part -/
theorem split_increasing (off : Nat) (p : List (Nat × Rat)) (h : p.Pairwise (fun a b => a.1 < b.1)) :
    p = firstCopy off p ++ secondCopy off p := by
  induction p with
  | nil => rfl
  | cons x xs ih =>
    obtain ⟨hx, hxs⟩ := List.pairwise_cons.mp h
    unfold firstCopy secondCopy at *
    by_cases hlt : x.1 < off
    · rw [List.filter_cons, if_pos (decide_eq_true hlt), List.filter_cons, if_neg (by rw [decide_eq_true_eq]; exact Nat.not_le.mpr hlt),
        List.cons_append, ← ih hxs]
    · -- beyond the boundary nothing of the rest is in the first copy
      have hge := Nat.le_of_not_lt hlt
      have e1 : xs.filter (fun x => decide (x.1 < off)) = [] :=
        List.filter_eq_nil_iff.mpr fun a ha => by
          rw [decide_eq_true_eq]; exact Nat.not_lt.mpr (Nat.le_trans hge (Nat.le_of_lt (hx a ha)))
      have e2 : xs.filter (fun x => decide (off ≤ x.1)) = xs :=
        List.filter_eq_self.mpr fun a ha => decide_eq_true (Nat.le_trans hge (Nat.le_of_lt (hx a ha)))
      rw [List.filter_cons, if_neg (by rw [decide_eq_true_eq]; exact hlt), List.filter_cons, if_pos (decide_eq_true hge), e1, e2]
      rfl

theorem winding_bounds (off i : Nat) (p : List (Nat × Rat))
    (hinc : (verts p ++ [i + off]).Pairwise (· < ·)) (hhead : (verts p).head? = some i) :
    p.Pairwise (fun a b => a.1 < b.1) ∧ ∀ x ∈ p, i ≤ x.1 ∧ x.1 < i + off := by
  obtain ⟨h1, _, h2⟩ := List.pairwise_append.mp hinc
  have hpw : p.Pairwise (fun a b => a.1 < b.1) := List.pairwise_map.mp h1
  refine ⟨hpw, fun x hx => ⟨?_, h2 x.1 (List.mem_map_of_mem hx) _ List.mem_cons_self⟩⟩
  cases p with
  | nil => cases hx
  | cons y ys =>
    obtain rfl : y.1 = i := Option.some.inj hhead
    rcases List.mem_cons.mp hx with rfl | hx
    · exact Nat.le_refl _
    · exact Nat.le_of_lt ((List.pairwise_cons.mp hpw).1 x hx)

/-- mapped back, the second-copy part of such a path lies below its start -/
theorem back_second_lt {off i : Nat} {p : List (Nat × Rat)} (hb : ∀ x ∈ p, i ≤ x.1 ∧ x.1 < i + off) {x : Nat × Rat}
    (hx : x ∈ secondCopy off p) : (back off x).1 < i := by
  obtain ⟨h1, hoff⟩ := mem_secondCopy.mp hx
  rw [back_of_le off x hoff]
  exact Nat.sub_lt_left_of_lt_add hoff (Nat.add_comm i off ▸ (hb x h1).2)

/-- **the normal form of a winding-1 path is a rotation of the path**: if the vertices of `p`
    increase strictly and lie in `[i, i + off)`, then mapping back and sorting gives the
    second-copy part (mapped back) followed by the first-copy part, and its lines are strictly
    ascending (no instruction occurs twice modulo `off`). -/
theorem winding_norm (off i : Nat) (p : List (Nat × Rat)) (hpw : p.Pairwise (fun a b => a.1 < b.1))
    (hb : ∀ x ∈ p, i ≤ x.1 ∧ x.1 < i + off) :
    p = firstCopy off p ++ secondCopy off p ∧
    normPath off p = (secondCopy off p).map (back off) ++ firstCopy off p ∧
    ((normPath off p).map (·.1)).Pairwise (· < ·) := by
  have hsplit := split_increasing off p hpw
  have hstrict : ((secondCopy off p).map (back off) ++ firstCopy off p).Pairwise (fun a b => a.1 < b.1) := by
    rw [List.pairwise_append]
    refine ⟨?_, hpw.filter _, ?_⟩
    · rw [List.pairwise_map]
      refine (hpw.filter _).imp_of_mem ?_
      intro a b ha hb hab
      have ha' := (mem_secondCopy.mp ha).2
      have hb' := (mem_secondCopy.mp hb).2
      rw [back_of_le off a ha', back_of_le off b hb']
      exact Nat.sub_lt_sub_right ha' hab
    · intro a ha b hb'
      obtain ⟨a', ha', rfl⟩ := List.mem_map.mp ha
      exact Nat.lt_of_lt_of_le (back_second_lt hb ha') (hb b (mem_firstCopy.mp hb').1).1
  have hnorm : normPath off p = (secondCopy off p).map (back off) ++ firstCopy off p := by
    refine sortPairs_unique _ _ (hstrict.imp Or.inl) ?_
    have e : p.map (back off) = firstCopy off p ++ (secondCopy off p).map (back off) := by
      conv => lhs; rw [hsplit]
      rw [List.map_append, map_eq_self fun x hx => back_of_lt off x (mem_firstCopy.mp hx).2]
    rw [e]
    exact List.perm_append_comm
  refine ⟨hsplit, hnorm, ?_⟩
  rw [hnorm, List.pairwise_map]
  exact hstrict

theorem filter_append_split (A B : List Nat) (i : Nat) (hA : ∀ a ∈ A, a < i) (hB : ∀ b ∈ B, i ≤ b) :
    (A ++ B).filter (fun l => i ≤ l) = B ∧ (A ++ B).filter (fun l => l < i) = A := by
  have a1 : A.filter (fun l => decide (i ≤ l)) = [] :=
    List.filter_eq_nil_iff.mpr fun a ha => by rw [decide_eq_true_eq]; exact Nat.not_le.mpr (hA a ha)
  have a2 : B.filter (fun l => decide (i ≤ l)) = B := List.filter_eq_self.mpr fun b hb => decide_eq_true (hB b hb)
  have a3 : A.filter (fun l => decide (l < i)) = A := List.filter_eq_self.mpr fun a ha => decide_eq_true (hA a ha)
  have a4 : B.filter (fun l => decide (l < i)) = [] :=
    List.filter_eq_nil_iff.mpr fun b hb => by rw [decide_eq_true_eq]; exact Nat.not_lt.mpr (hB b hb)
  rw [List.filter_append, List.filter_append, a1, a2, a3, a4, List.append_nil]
  exact ⟨rfl, rfl⟩

/-- a path from `i` with winding number 1 is determined by its start and its member set: the
    vertices are the members `≥ i` followed by the members `< i` in the next iteration -/
theorem verts_of_lines (off i : Nat) (p : List (Nat × Rat)) (hpw : p.Pairwise (fun a b => a.1 < b.1))
    (hb : ∀ x ∈ p, i ≤ x.1 ∧ x.1 < i + off) :
    verts p = ((normPath off p).map (·.1)).filter (fun l => i ≤ l) ++
      (((normPath off p).map (·.1)).filter (fun l => l < i)).map (· + off) := by
  obtain ⟨hsplit, hnorm, _⟩ := winding_norm off i p hpw hb
  have hA : ∀ a ∈ ((secondCopy off p).map (back off)).map (·.1), a < i := by
    intro a ha
    obtain ⟨_, hx', rfl⟩ := List.mem_map.mp ha
    obtain ⟨x, hx, rfl⟩ := List.mem_map.mp hx'
    exact back_second_lt hb hx
  have hB : ∀ b ∈ (firstCopy off p).map (·.1), i ≤ b := by
    intro b hb'
    obtain ⟨x, hx, rfl⟩ := List.mem_map.mp hb'
    exact (hb x (mem_firstCopy.mp hx).1).1
  -- the normal form is (second copy, mapped back: all `< i`) ++ (first copy: all `≥ i`), so the two filters
  -- pick exactly these parts; raising the first by `off` restores the second copy
  obtain ⟨e1, e2⟩ := filter_append_split _ _ i hA hB
  rw [hnorm, List.map_append, e1, e2, List.map_map, List.map_map]
  have e3 : (secondCopy off p).map (((· + off) ∘ (·.1)) ∘ back off) = (secondCopy off p).map (·.1) :=
    List.map_congr_left fun x hx => by
      have hoff := (mem_secondCopy.mp hx).2
      rw [Function.comp_apply, Function.comp_apply, back_of_le off x hoff]
      exact Nat.sub_add_cancel hoff
  rw [e3, ← List.map_append, ← hsplit, verts]

end OsacaVerif.LCD
