import OsacaVerif.Model.Import
import OsacaVerif.Spec.ImportSpec
import OsacaVerif.Lemmas.Text
import OsacaVerif.Lemmas.TextLit
/-
  Operand-code decoding (C20): what the interpreter of the generated if/elif tables returns on memory
  codes (for every flag string) and on the one- and two-letter register codes of AArch64; last, the
  step by which `Props/C20` walks through a documented table.
-/
namespace OsacaVerif.Import
open OsacaVerif.Text OsacaVerif.Gen.Import OsacaVerif.Spec.Import

theorem decode_x86_mem (fl : Txt) :
    createDbOperand .x86 (109 :: fl) =
      some [(t "class", .s (t "memory")), (t "base", optS (fl.contains 98) "gpr"),
            (t "offset", optS (fl.contains 111) "imd"), (t "index", optS (fl.contains 105) "gpr"),
            (t "scale", .n (if fl.contains 115 then 8 else 1))] := by
  -- the head `m` alone selects the last rule and every field tests one letter of `fl`: both sides are
  -- functions of the flag booleans, compared for all their values in one evaluation (the string literals
  -- are opened first, see `ofString_ofList`)
  simp only [createDbOperand, rulesOf, x86Rules, decode, evalTest, startsWith, isInfix, evalFields, evalV,
    isInfix_singleton, List.map, List.isEmpty_cons, List.cons_beq_cons, Nat.reduceBEq,
    Bool.false_and, Bool.or_self, Bool.false_or, Bool.true_and, Bool.false_eq_true, if_true, if_false, t]
  repeat rw [ofString_ofList]
  generalize fl.contains 98 = b
  generalize fl.contains 111 = o
  generalize fl.contains 105 = i
  generalize fl.contains 115 = s
  revert b o i s
  decide +kernel

theorem decode_a64_mem (fl : Txt) :
    createDbOperand .a64 (109 :: fl) =
      some [(t "class", .s (t "memory")), (t "base", optS (fl.contains 98) "x"),
            (t "offset", optS (fl.contains 111) "imd"), (t "index", optS (fl.contains 105) "gpr"),
            (t "scale", .n (if fl.contains 115 then 8 else 1)),
            (t "pre_indexed", .b (fl.contains 114)), (t "post_indexed", .b (fl.contains 112))] := by
  -- as for x86, with six flags
  simp only [createDbOperand, rulesOf, a64Rules, decode, evalTest, startsWith, isInfix, evalFields, evalV,
    isInfix_singleton, List.map, List.isEmpty_cons, List.cons_beq_cons, Nat.reduceBEq,
    Bool.false_and, Bool.or_self, Bool.false_or, Bool.true_and, Bool.false_eq_true, if_true, if_false, t]
  repeat rw [ofString_ofList]
  generalize fl.contains 98 = b
  generalize fl.contains 111 = o
  generalize fl.contains 105 = i
  generalize fl.contains 115 = s
  generalize fl.contains 114 = r
  generalize fl.contains 112 = p
  revert b o i s r p
  decide +kernel

theorem decode_a64_reg : ∀ c ∈ t "wxbhsdq",
    createDbOperand .a64 [c] = some [(t "class", .s (t "register")), (t "prefix", .s [c])] := by
  simp only [t]
  repeat rw [ofString_ofList]
  decide +kernel

theorem decode_a64_vec : ∀ l ∈ t "bhsd",
    createDbOperand .a64 [118, l] = some [(t "class", .s (t "register")), (t "prefix", .s (t "v")), (t "shape", .s [l])] := by
  simp only [t]
  repeat rw [ofString_ofList]
  decide +kernel

/-- one branch of a documented if-chain: the code `a` is checked by evaluation, any other code goes on -/
theorem of_ite_some {α β : Type} {f : α → Option β} {c a : α} [Decidable (c = a)] {x d : β} {rest : Option β}
    (ha : f a = some x) (hr : rest = some d → f c = some d) :
    (if c = a then some x else rest) = some d → f c = some d := by
  split
  · rename_i e; rw [e, ha]; exact id
  · exact hr

end OsacaVerif.Import
