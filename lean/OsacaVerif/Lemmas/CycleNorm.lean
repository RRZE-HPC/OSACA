import OsacaVerif.Lemmas.StreamCycles
import OsacaVerif.Lemmas.Winding
/-
  Helper development for C05 / C14, for an arbitrary `n`-periodic relation `D` between stream positions:
  a winding-1 cycle is determined by its position list (the weights are values of the relation); its
  sorted normal form is again a cycle, the rotation that starts at its smallest member (`cycle_normal`,
  behind the collision-freeness of the dictionary key); and a cycle of a relation that is `D` seen from
  `s` positions later is a cycle of `D`, re-anchored inside the first iteration (`cycle_transport`,
  behind the invariance under rotation of the loop body).
-/
namespace OsacaVerif.LCD
open OsacaVerif OsacaVerif.DG

theorem nextV_append (tgt : Nat) (u v : List (Nat × Rat)) : nextV tgt (u ++ v) = nextV (nextV tgt v) u := by
  cases u <;> simp [nextV]

theorem chain_append (D : Nat → Nat → Option Rat) (tgt : Nat) (u v : List (Nat × Rat)) :
    Chain D tgt (u ++ v) ↔ Chain D (nextV tgt v) u ∧ Chain D tgt v := by
  induction u with
  | nil => simp [Chain]
  | cons x u ih =>
    simp only [List.cons_append, Chain, nextV_append, ih, and_assoc]

theorem chain_determined {D : Nat → Nat → Option Rat} {tgt : Nat} {b b' : List (Nat × Rat)}
    (h : Chain D tgt b) (h' : Chain D tgt b') (hv : verts b = verts b') : b = b' := by
  induction b generalizing b' with
  | nil => cases b' with
    | nil => rfl
    | cons y r' => cases hv
  | cons x r ih =>
    cases b' with
    | nil => cases hv
    | cons x' r' =>
      rw [verts_cons, verts_cons, List.cons.injEq] at hv
      have hr : r = r' := ih h.2.2 h'.2.2 hv.2
      subst hr
      have h1 := h.2.1
      have h2 := h'.2.1
      rw [← hv.1, h1] at h2
      simp only [Option.some.injEq] at h2
      rw [Prod.ext hv.1 h2]

theorem cycle_determined {D : Nat → Nat → Option Rat} {n : Nat} {b b' : List (Nat × Rat)}
    (h : IsStreamCycle D n b) (h' : IsStreamCycle D n b') (hv : verts b = verts b') : b = b' := by
  obtain ⟨x, r, rfl, hc⟩ := h.cons
  obtain ⟨x', r', rfl, hc'⟩ := h'.cons
  have hx : x.1 = x'.1 := (List.cons.inj hv).1
  rw [← hx] at hc'
  exact chain_determined hc hc' hv

theorem map_inj_on {α β : Type} (f : α → β) (l1 l2 : List α)
    (hinj : ∀ x ∈ l1, ∀ y ∈ l2, f x = f y → x = y) (h : l1.map f = l2.map f) : l1 = l2 := by
  induction l1 generalizing l2 with
  | nil => cases l2 with
    | nil => rfl
    | cons y r => simp at h
  | cons x r ih =>
    cases l2 with
    | nil => simp at h
    | cons y r' =>
      simp only [List.map_cons, List.cons.injEq] at h
      rw [hinj x List.mem_cons_self y List.mem_cons_self h.1,
        ih r' (fun a ha b hb => hinj a (List.mem_cons_of_mem _ ha) b (List.mem_cons_of_mem _ hb)) h.2]

theorem shiftPos_back (n : Nat) (l : List (Nat × Rat)) (h : ∀ z ∈ l, n ≤ z.1) : shiftPos n (l.map (back n)) = l := by
  rw [shiftPos, List.map_map]
  refine map_eq_self fun z hz => ?_
  rw [Function.comp_apply, back_of_le n z (h z hz)]
  exact Prod.ext (Nat.sub_add_cancel (h z hz)) rfl

/-- **cycle_normal**: for a winding-1 cycle of an `n`-periodic relation that starts inside the first
    iteration, its normal form (positions modulo `n`, sorted) is itself such a cycle — the rotation
    that starts at the smallest member — and all its positions are below `n`, strictly ascending. -/
theorem cycle_normal (D : Nat → Nat → Option Rat) (n : Nat) (hper : ∀ x y, D (x + n) (y + n) = D x y)
    (a : List (Nat × Rat)) (hc : IsStreamCycle D n a) (hst : StartsBelow n a) :
    IsStreamCycle D n (normPath n a) ∧ (∀ y ∈ normPath n a, y.1 < n) ∧
    (verts (normPath n a)).Pairwise (· < ·) := by
  have hbelow : ∀ y ∈ normPath n a, y.1 < n := fun y hy => by
    obtain ⟨z, hz, rfl⟩ := List.mem_map.mp ((normPath_perm n a).mem_iff.mp hy)
    exact backLine_lt n z.1 (cycle_lt_two hc hst z hz)
  obtain ⟨x, rest, rfl, hch⟩ := hc.cons
  have hx : x.1 < n := hst
  obtain ⟨hsplit, hnorm, hlines⟩ := winding_norm n x.1 (x :: rest)
    (List.pairwise_map.mp (cycle_increasing hc)) (cycle_bounds hc)
  refine ⟨?_, hbelow, hlines⟩
  -- the path is its first-copy part, which starts with `x`, followed by its second-copy part
  have h1 : firstCopy n (x :: rest) = x :: firstCopy n rest := by
    rw [firstCopy, List.filter_cons, if_pos (decide_eq_true hx)]; rfl
  rw [hsplit, chain_append, h1] at hch
  obtain ⟨hc1, hc2⟩ := hch
  rw [hnorm, h1]
  cases hs : secondCopy n (x :: rest) with
  | nil => rw [hs] at hc1; exact hc1
  | cons y a2 =>
    rw [hs] at hc1 hc2
    have hge : ∀ z ∈ y :: a2, n ≤ z.1 := fun z hz => (mem_secondCopy.mp (hs ▸ hz)).2
    -- the rotated cycle starts at `y` moved down; one period later it is back at `y`
    show Chain D ((back n y).1 + n) ((y :: a2).map (back n) ++ x :: firstCopy n rest)
    rw [back_of_le n y (hge y List.mem_cons_self), Nat.sub_add_cancel (hge y List.mem_cons_self), chain_append]
    -- by periodicity the second-copy part, moved one iteration down, is a chain into `x`
    refine ⟨?_, hc1⟩
    show Chain D x.1 ((y :: a2).map (back n))
    rwa [chain_shift D D n (fun a b => (hper a b).symm), shiftPos_back n _ hge]

/-- **cycle_transport**: if `D'` is `D` seen from `s ≤ n` positions later and `D` is `n`-periodic, then
    every `D'`-cycle starting inside the first iteration yields a `D`-cycle starting inside the
    first iteration with the same latencies, whose members (positions modulo `n`) are the old members
    shifted by `s` modulo `n`. -/
theorem cycle_transport (D D' : Nat → Nat → Option Rat) (n s : Nat) (hs : s ≤ n)
    (hD : ∀ x y, D' x y = D (x + s) (y + s)) (hper : ∀ x y, D (x + n) (y + n) = D x y)
    (a' : List (Nat × Rat)) (hc : IsStreamCycle D' n a') (hst : StartsBelow n a') :
    ∃ a, IsStreamCycle D n a ∧ StartsBelow n a ∧
      a.map (fun x => (x.1 % n, x.2)) = a'.map (fun x => ((x.1 + s) % n, x.2)) := by
  have hb := (cycle_shift D D' s n hD a').mp hc
  have hmap : (shiftPos s a').map (fun x => (x.1 % n, x.2)) = a'.map (fun x => ((x.1 + s) % n, x.2)) :=
    List.map_map
  obtain ⟨x, rest, rfl, _⟩ := hc.cons
  have hx : x.1 < n := hst
  by_cases hlt : x.1 + s < n
  · exact ⟨_, hb, hlt, hmap⟩
  · -- the shifted cycle lies beyond the first iteration: move it one iteration down
    have hn := Nat.le_of_not_lt hlt
    have hge : ∀ y ∈ shiftPos s (x :: rest), n ≤ y.1 := fun y hy =>
      Nat.le_trans hn (cycle_bounds hb y hy).1
    refine ⟨(shiftPos s (x :: rest)).map (back n), ?_, ?_, ?_⟩
    · rw [cycle_shift D D n n (fun x y => (hper x y).symm), shiftPos_back n _ hge]
      exact hb
    · show (back n (x.1 + s, x.2)).1 < n
      rw [back_of_le n _ hn]
      exact Nat.sub_lt_left_of_lt_add hn (Nat.add_lt_add_of_lt_of_le hx hs)
    · rw [← hmap, List.map_map]
      refine List.map_congr_left fun y hy => ?_
      rw [Function.comp_apply, back_of_le n y (hge y hy)]
      exact Prod.ext (Nat.mod_eq_sub_mod (hge y hy)).symm rfl

end OsacaVerif.LCD
