import OsacaVerif.Lemmas.A64Pred
import OsacaVerif.Lemmas.A64Prf
import OsacaVerif.Lemmas.A64Shimm
import OsacaVerif.Lemmas.A64Float
import OsacaVerif.Lemmas.A64List
import OsacaVerif.Model.A64Domain
/-
  The executable domain test `Domain.*B` implies the well-formedness predicates of the lemmas.
  `Model/A64Domain.lean` must not import the lemma library, so it has its own copies `aliasTextsB`, `scaleOpsB`,
  `condLitsB`, `prfWordsB`, `regLettersB`, `regLikeB`, `aliasLikeB`, `hexDigitB` of the lemmas' `aliasTexts`, …;
  they are the same terms letter for letter, and the proofs below (and `opOkB_sound` in `Props/C10.lean`) use a
  hypothesis about the one as a hypothesis about the other by unfolding.  Only `ciPrefixB` needs a proof
  (`ciPrefixB_eq`): it is a separate recursion.
-/
namespace OsacaVerif.ParseA64
open OsacaVerif.Text OsacaVerif.Spec.A64 OsacaVerif.Gen OsacaVerif.ParseA64.Domain

/-- the Boolean form of "non-empty, and every character in the class" -/
theorem nonempty_all {t : Txt} {p : Nat → Bool} (h : (!t.isEmpty && t.all p) = true) :
    t ≠ [] ∧ ∀ c ∈ t, p c = true := by
  simp only [Bool.and_eq_true] at h
  exact ⟨by intro e; subst e; simp at h, fun c hc => List.all_eq_true.mp h.2 c hc⟩

theorem lanesOkB_sound (l : Option Txt) (h : lanesOkB l = true) : LanesOk l := by
  intro x hx; subst hx
  exact nonempty_all h

theorem shapeOkB_sound (s : Option Nat) (h : shapeOkB s = true) : ShapeOk s := by
  intro x hx; subst hx; exact h

theorem elemOkB_sound (e : ElemA) (h : elemOkB e = true) : ElemOk e := by
  cases e with
  | scalar p n => exact .scalar p n h
  | vec p n lanes shape =>
    simp only [elemOkB, Bool.and_eq_true] at h
    exact .vec p n lanes shape h.1.1 (lanesOkB_sound _ h.1.2) (shapeOkB_sound _ h.2)

theorem predTailOkB_sound (t : PredTail) (h : predTailOkB t = true) : PredTailOk t := by
  cases t with
  | none => trivial
  | pred c => exact h
  | shape l s =>
    simp only [predTailOkB, Bool.and_eq_true] at h
    exact ⟨lanesOkB_sound _ h.1, h.2⟩

theorem digitsB_sound (t : Txt) (h : digitsB t = true) : Digits t := nonempty_all h

theorem expOkB_sound (e : Option (Nat × Nat × Txt)) (h : expOkB e = true) : ExpOk e := by
  intro x hx; subst hx
  simp only [expOkB, Bool.and_eq_true, beq_iff_eq] at h
  exact ⟨h.1.1, h.1.2, digitsB_sound _ h.2⟩

theorem fOkB_sound (f : Option Nat) (h : fOkB f = true) : FOk f := by
  intro c hc; subst hc
  simpa [fOkB] using h

theorem ciPrefixB_eq (l w : Txt) : ciPrefixB l w = ciPrefix l w := by
  induction l generalizing w with
  | nil => rfl
  | cons a l ih =>
    cases w with
    | nil => rfl
    | cons c w => simp [ciPrefixB, ciPrefix, ih]

theorem nameShapeB_sound (name : Txt) (h : nameShapeB name = true) : NameShape name := by
  cases name with
  | nil => simp [nameShapeB] at h
  | cons c w =>
    simp only [nameShapeB, Bool.and_eq_true] at h
    exact ⟨c, w, rfl, h.1, fun d hd => List.all_eq_true.mp h.2 d hd⟩

theorem identNameOkB_sound (name : Txt) (h : identNameOkB name = true) : IdentNameOk name := by
  simp only [identNameOkB, Bool.and_eq_true, Bool.not_eq_true'] at h
  obtain ⟨⟨⟨⟨⟨h1, h2⟩, h3⟩, h4⟩, h5⟩, h6⟩ := h
  refine ⟨nameShapeB_sound name h1, h2, h3, h4, ?_, ?_⟩
  · exact h5
  · rw [List.all_eq_true] at h6 ⊢
    intro sw hsw; have := h6 sw hsw; rw [ciPrefixB_eq] at this; exact this

theorem hexDigitB_eq : hexDigitB = hexDigit := rfl

theorem offOkB_sound (o : Option Txt) (h : offOkB o = true) : OffOk o := by
  intro x hx; subst hx
  simp only [offOkB, Bool.or_eq_true, beq_iff_eq] at h
  rcases h with h | h
  · exact Or.inl ⟨_, h⟩
  · split at h
    · simp only [Bool.or_eq_true, beq_iff_eq] at h
      rcases h with h | h
      · exact Or.inr ⟨false, _, by rw [showHex, ← hexDigitB_eq, ← h]⟩
      · exact Or.inr ⟨true, _, by rw [showHex, ← hexDigitB_eq, ← h]⟩
    · cases h

theorem relocOkB_sound (r : Option Txt) (h : relocOkB r = true) : RelocOk r := by
  intro x hx; subst hx
  exact nonempty_all h

theorem identOkB_sound (i : IdentA) (h : identOkB i = true) : IdentOk i := by
  simp only [identOkB, Bool.and_eq_true, Bool.or_eq_true] at h
  obtain ⟨⟨⟨h1, h2⟩, h3⟩, h4⟩ := h
  refine ⟨nameShapeB_sound _ h1, relocOkB_sound _ h2, offOkB_sound _ h3, ?_⟩
  intro hh hr
  rcases h4 with (h4 | h4) | h4
  · rw [hh] at h4; cases h4
  · rw [hr] at h4; cases h4
  · exact identNameOkB_sound _ h4

theorem memRegOkB_sound (r : RegA) (h : memRegOkB r = true) : MemRegOk r := by
  cases r with
  | scalar p n => exact .scalar p n h
  | alias t => exact .alias t (List.contains_iff_mem.mp h)
  | vec => simp [memRegOkB] at h
  | pred => simp [memRegOkB] at h

theorem midOkB_sound (m : MemMidA) (h : midOkB m = true) : MidOk m := by
  match m, h with
  | .none, _ => trivial
  | .off (.int _), _ => trivial
  | .off (.ident i), h => exact identOkB_sound i h
  | .idx r s, h =>
    simp only [midOkB, Bool.and_eq_true] at h
    refine ⟨memRegOkB_sound r h.1, ?_⟩
    intro x hx; subst hx
    exact List.contains_iff_mem.mp h.2

theorem memOkB_sound (m : MemA) (h : memOkB m = true) : MemOk m := by
  simp only [memOkB, Bool.and_eq_true, Bool.or_eq_true, Bool.not_eq_true'] at h
  refine ⟨memRegOkB_sound _ h.1.1, midOkB_sound _ h.1.2, ?_⟩
  intro hp
  rcases h.2 with h2 | h2
  · rw [hp] at h2; cases h2
  · cases hpo : m.post with
    | none => rfl
    | some x => rw [hpo] at h2; cases h2

end OsacaVerif.ParseA64
