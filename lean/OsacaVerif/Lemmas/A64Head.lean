import OsacaVerif.Lemmas.A64Vector
/-
  What the operand kinds of the following modules share: how a literal, a caseless literal or one character
  of a set is read behind a gap; where a character class stops; and which operand alternatives are left on a
  text that does not begin with a letter.
-/
namespace OsacaVerif.ParseA64
open OsacaVerif.Text OsacaVerif.Spec.A64 OsacaVerif.Gen

/-! ### literals and single characters behind a gap -/
/-- a one-character literal looks at the first visible character only -/
theorem lit_char (a : Nat) (r : Txt) (c : Nat) (t : Txt) (h : skipWs r = c :: t) :
    lit true [a] r = if c = a then some t else none := by
  simp only [lit, sk_true, h, dropPrefix, beq_iff_eq]

theorem lit_gap (g : Txt) (c : Nat) (s : Txt) (hg : Blank g) (hc : isWs c = false) :
    lit true [c] (g ++ c :: s) = some s := by
  rw [lit_char c _ c s (skipWs_blank_cons g c s hg hc), if_pos rfl]

/-- a caseless literal behind a gap is matched against the text from its first visible character on -/
theorem clit_gap (l g : Txt) (c : Nat) (t : Txt) (hg : Blank g) (hc : isWs c = false) :
    clit true l (g ++ c :: t) = dropPrefixCI (c :: t) l := by
  rw [clit, sk_true, skipWs_blank_cons g c t hg hc]

theorem clit_char (a : Nat) (g : Txt) (c : Nat) (t : Txt) (hg : Blank g) (hc : isWs c = false) :
    clit true [a] (g ++ c :: t) = if lowerC c = a then some t else none := by
  rw [clit_gap [a] g c t hg hc]
  simp only [dropPrefixCI, beq_iff_eq]

theorem char1_gap (p : Nat → Bool) (g : Txt) (c : Nat) (t : Txt) (hg : Blank g) (hc : isWs c = false) :
    char1 true p (g ++ c :: t) = if p c = true then some (c, t) else none := by
  rw [char1, sk_true, skipWs_blank_cons g c t hg hc]; rfl

theorem scalarP_none_prefix (g : Txt) (c : Nat) (t : Txt) (hg : Blank g) (hc : isWs c = false)
    (hp : isScalarPrefixC c = false) : scalarP true (g ++ c :: t) = none := by
  simp [scalarP, char1_gap _ g c t hg hc, hp]

/-- on a text that does not begin with a letter only the list alternative of `register` is left -/
theorem registerCore_nonalpha (g : Txt) (c : Nat) (t : Txt) (hg : Blank g) (hc : isWs c = false)
    (ha : isAlphaC c = false) : registerCore (g ++ c :: t) = registerList (g ++ c :: t) := by
  have hv : isVectorPrefixC c = false :=
    Bool.eq_false_iff.mpr fun h' => by rw [vectorPrefix_alpha c h'] at ha; cases ha
  have hsp : isScalarPrefixC c = false :=
    Bool.eq_false_iff.mpr fun h' => by rw [scalarPrefix_alpha c h'] at ha; cases ha
  have hp : predicateP (g ++ c :: t) = none := by
    have : clit true A64.predPrefix (g ++ c :: t) = none := clit_none_head_nonalpha g c t _ hg hc ha (by decide)
    simp [predicateP, this]
  simp [registerCore, aliasP_none_nonalpha _ g c t hg hc ha aliasSp_headAlpha,
    aliasP_none_nonalpha _ g c t hg hc ha aliasZr_headAlpha, vectorP_none_prefix g c t hg hc hv,
    scalarP_none_prefix g c t hg hc hsp, hp]

/-! ### where a character class stops -/
/-- behind a gap and a character, a class stops that has neither blank nor tab nor that character -/
theorem stopsAt_gap (p : Nat → Bool) (g : Txt) (c : Nat) (s : Txt) (hg : Blank g)
    (hp : p 32 = false ∧ p 9 = false ∧ p c = false) : StopsAt p (g ++ c :: s) := by
  intro c' r h
  rcases blank_append_head hg c s c' r h with hb | rfl
  · simp only [isBlankC, Bool.or_eq_true, beq_iff_eq] at hb
    rcases hb with rfl | rfl
    · exact hp.1
    · exact hp.2.1
  · exact hp.2.2

theorem alpha_not_punct (c : Nat) (h : isAlphaC c = true) : c ≠ 43 ∧ c ≠ 58 ∧ c ≠ 91 := by
  simp only [isAlphaC, decide_eq_true_eq] at h
  omega

theorem digit_not_idFirst (d : Nat) (h : isDigitC d = true) : isAlphaC d = false ∧ isIdFirstC d = false := by
  refine ⟨?_, ?_⟩
  · cases ha : isAlphaC d with
    | false => rfl
    | true => rw [alpha_not_digit d ha] at h; cases h
  · cases hi : isIdFirstC d with
    | false => rfl
    | true => rw [(idFirst_facts d hi).2.2.2.2.2.1] at h; cases h

/-! ### operands that do not begin with a letter
A text that begins with a visible character other than a letter, `[` and `{` is no register, condition
code, prefetch operation or memory reference: only the immediate alternatives (and behind them the
identifier) are left, and it is not read as the shift of the operand in front of it. -/
theorem operandRest_nonalpha (g : Txt) (c : Nat) (t : Txt) (hg : Blank g) (hws : isWs c = false)
    (ha : isAlphaC c = false) (h91 : c ≠ 91) (h123 : c ≠ 123) :
    operandRest (g ++ c :: t) =
      ((mapR RawOp.imm (immediate (g ++ c :: t)) <^> arithOp (g ++ c :: t)) </>
        mapR RawOp.ident (identifier (g ++ c :: t))) := by
  simp [operandRest, conditionP_none_nonalpha g c t hg hws ha, registerP_none_nonalpha g c t hg hws ha h123,
    memoryP_none_head g c t hg hws h91]

theorem not_alpha_of_not_idFirst (c : Nat) (h : isIdFirstC c = false) : isAlphaC c = false :=
  Bool.eq_false_iff.mpr fun ha => by rw [alpha_idFirst c ha] at h; cases h

theorem operandFirst_nonalpha (g : Txt) (c : Nat) (t : Txt) (hg : Blank g) (hws : isWs c = false)
    (h91 : c ≠ 91) (h123 : c ≠ 123) (hidf : isIdFirstC c = false) (h58 : c ≠ 58) :
    operandFirst (g ++ c :: t) = (mapR RawOp.imm (immediate (g ++ c :: t)) <^> arithOp (g ++ c :: t)) := by
  have ha := not_alpha_of_not_idFirst c hidf
  simp [operandFirst, prefetchP_none_nonalpha g c t hg hws ha, registerP_none_nonalpha g c t hg hws ha h123,
    memoryP_none_head g c t hg hws h91, identifier_none_head g c t hg hws hidf h58]

/-- what `immediate` reads alone (no shift behind it) is the result of the two immediate alternatives -/
theorem imm_alone (s rest : Txt) (tok : ImmTok) (r' : Txt) (hi : immediate s = some (tok, r'))
    (hsk : skipWs r' = skipWs rest) (hf : Follow rest) :
    (mapR RawOp.imm (immediate s) <^> arithOp s) = some (.imm tok, r') := by
  simp [hi, arithOp, arithP_none_of_immediate s rest tok r' hi hsk hf]

theorem goodRest_imm {T : Txt} {tok : ImmTok} {c : Nat} {t : Txt} (hct : T = c :: t) (hws : isWs c = false)
    (ha : isAlphaC c = false) (h91 : c ≠ 91) (h123 : c ≠ 123)
    (himm : ∀ g rest, Blank g → Follow rest →
      ∃ r', immediate (g ++ (T ++ rest)) = some (tok, r') ∧ skipWs r' = skipWs rest) :
    GoodRest false T (.imm tok) := by
  subst hct
  refine ⟨fun g rest hg hf => ?_, fun g rest hg _ => shiftOp_none_nonalpha g c _ hg hws ha⟩
  obtain ⟨r', hi, hsk⟩ := himm g rest hg hf
  rw [List.cons_append] at hi ⊢
  exact ⟨r', by rw [operandRest_nonalpha g c _ hg hws ha h91 h123, imm_alone _ rest tok r' hi hsk hf]; rfl, hsk⟩

theorem goodFirst_imm {T : Txt} {tok : ImmTok} {c : Nat} {t : Txt} (hct : T = c :: t) (hws : isWs c = false)
    (h91 : c ≠ 91) (h123 : c ≠ 123) (hidf : isIdFirstC c = false) (h58 : c ≠ 58)
    (h43 : c ≠ 43)
    (himm : ∀ g rest, Blank g → Follow rest →
      ∃ r', immediate (g ++ (T ++ rest)) = some (tok, r') ∧ skipWs r' = skipWs rest) :
    GoodFirst false T (.imm tok) := by
  subst hct
  refine ⟨fun g rest hg hf => ?_, ⟨c, t, rfl, hws, h43, fun e => absurd e h58⟩⟩
  obtain ⟨r', hi, hsk⟩ := himm g rest hg hf
  rw [List.cons_append] at hi ⊢
  exact ⟨r', by rw [operandFirst_nonalpha g c _ hg hws h91 h123 hidf h58, imm_alone _ rest tok r' hi hsk hf], hsk⟩

theorem goodOp_imm {T : Txt} {tok : ImmTok} {c : Nat} {t : Txt} (hct : T = c :: t) (hws : isWs c = false)
    (h91 : c ≠ 91) (h123 : c ≠ 123) (hidf : isIdFirstC c = false) (h58 : c ≠ 58)
    (h43 : c ≠ 43)
    (himm : ∀ g rest, Blank g → Follow rest →
      ∃ r', immediate (g ++ (T ++ rest)) = some (tok, r') ∧ skipWs r' = skipWs rest) :
    GoodOp false true T (.imm tok) :=
  have hr := goodRest_imm hct hws (not_alpha_of_not_idFirst c hidf) h91 h123 himm
  ⟨hr.rest, fun _ => (goodFirst_imm hct hws h91 h123 hidf h58 h43 himm).first, hr.noShift,
    ⟨c, t, hct, hws, h58, h43⟩⟩

/-- behind `[` or `{` (no letter, digit, `#`, `-`, `:`, `_`, `.`) only the register and the memory
    alternative are left -/
theorem operand_punct (g : Txt) (c : Nat) (t : Txt) (hg : Blank g) (hws : isWs c = false)
    (hd : isDigitC c = false) (h : c ≠ 35 ∧ c ≠ 45 ∧ c ≠ 58) (hidf : isIdFirstC c = false) :
    operandRest (g ++ c :: t) =
      (mapR RawOp.reg (registerP (g ++ c :: t)) <^> mapR RawOp.mem (memoryP (g ++ c :: t))) ∧
    operandFirst (g ++ c :: t) =
      (mapR RawOp.reg (registerP (g ++ c :: t)) <^> mapR RawOp.mem (memoryP (g ++ c :: t))) := by
  have ha := not_alpha_of_not_idFirst c hidf
  have himm := immediate_none_head g c t hg hws hd h hidf
  have hid := identifier_none_head g c t hg hws hidf h.2.2
  constructor
  · simp [operandRest, conditionP_none_nonalpha g c t hg hws ha, himm, arithOp, arithP, hid]
    cases mapR RawOp.reg (registerP (g ++ c :: t)) <^> mapR RawOp.mem (memoryP (g ++ c :: t)) <;> rfl
  · simp [operandFirst, prefetchP_none_nonalpha g c t hg hws ha, himm, arithOp, arithP, hid]

/-- an operand good in every slot is good at the position `CoveredOp` asks about -/
theorem GoodOp.atSlot {last : Bool} {T : Txt} {raw : RawOp} (h : GoodOp last true T raw) (fst : Bool) :
    if fst then GoodFirst last T raw else GoodRest last T raw := by
  cases fst with
  | true => exact h.toFirst
  | false => exact h.toRest

end OsacaVerif.ParseA64
