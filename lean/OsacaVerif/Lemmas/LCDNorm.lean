import OsacaVerif.Lemmas.LCDPaths
/-
  Helper development for C05: the post-processing `LCD.post` — mapping back, the insertion sort
  `sortPairs` (sortedness, permutation, uniqueness of the sorted form), `pairsEq` is equality, the
  de-duplication keeps exactly one representative per normal form.
-/
namespace OsacaVerif.LCD
open OsacaVerif OsacaVerif.DG

/-- mapping a node of the doubled kernel back to the line of the first iteration -/
def backLine (off s : Nat) : Nat := if s ≥ off then s - off else s

/-- the per-edge mapping of `post` -/
def back (off : Nat) (x : Nat × Rat) : Nat × Rat := (backLine off x.1, x.2)

/-- the normal form of a path: mapped back and sorted — what `post` de-duplicates on -/
def normPath (off : Nat) (p : List (Nat × Rat)) : List (Nat × Rat) := sortPairs (p.map (back off))

/-- the order `lat_path.sort()` sorts by: lexicographic on (line, latency) -/
def le2 (x y : Nat × Rat) : Prop := x.1 < y.1 ∨ (x.1 = y.1 ∧ x.2 ≤ y.2)

instance (x y : Nat × Rat) : Decidable (le2 x y) := by unfold le2; infer_instance

/-! ### list facts -/

theorem map_eq_self {α : Type} {f : α → α} {l : List α} (h : ∀ x ∈ l, f x = x) : l.map f = l :=
  (List.map_congr_left h).trans (List.map_id l)

theorem pairs_ext {a b : List (Nat × Rat)} (h1 : a.map (·.1) = b.map (·.1)) (h2 : a.map (·.2) = b.map (·.2)) :
    a = b := by
  induction a generalizing b with
  | nil => cases b <;> simp_all
  | cons x xs ih =>
    cases b with
    | nil => simp at h1
    | cons y ys =>
      simp only [List.map_cons, List.cons.injEq] at h1 h2
      rw [ih h1.2 h2.2, Prod.ext h1.1 h2.1]

theorem zip_fst_snd (l : List (Nat × Rat)) : (l.map (·.1)).zip (l.map (·.2)) = l := by
  induction l with
  | nil => rfl
  | cons x xs ih => simp [ih]

theorem sum_perm {l l' : List Rat} (h : l.Perm l') : l.sum = l'.sum := by
  induction h with
  | nil => rfl
  | cons x _ ih => simp [ih]
  | swap x y l => simp only [List.sum_cons]; rw [← Rat.add_assoc, ← Rat.add_assoc, Rat.add_comm y x]
  | trans _ _ ih1 ih2 => exact ih1.trans ih2

/-! ### mapping back -/

theorem back_of_lt (off : Nat) (x : Nat × Rat) (h : x.1 < off) : back off x = x := by
  unfold back backLine
  rw [if_neg (Nat.not_le.mpr h)]

theorem back_of_le (off : Nat) (x : Nat × Rat) (h : off ≤ x.1) : back off x = (x.1 - off, x.2) := by
  unfold back backLine
  rw [if_pos h]

theorem sub_lt_of_lt_two_mul {n t : Nat} (h1 : n ≤ t) (h2 : t < 2 * n) : t - n < n :=
  Nat.sub_lt_left_of_lt_add h1 (Nat.two_mul n ▸ h2)

theorem backLine_lt (n t : Nat) (ht : t < 2 * n) : backLine n t < n := by
  unfold backLine
  split
  · exact sub_lt_of_lt_two_mul ‹_› ht
  · exact Nat.lt_of_not_le ‹_›

theorem backLine_eq_mod (n t : Nat) (ht : t < 2 * n) : backLine n t = t % n := by
  unfold backLine
  split
  · rw [Nat.mod_eq_sub_mod ‹_›, Nat.mod_eq_of_lt (sub_lt_of_lt_two_mul ‹_› ht)]
  · rw [Nat.mod_eq_of_lt (Nat.lt_of_not_le ‹_›)]

/-! ### the order of `lat_path.sort()` and the insertion sort -/

theorem le2_total (x y : Nat × Rat) : le2 x y ∨ le2 y x := by
  unfold le2
  rcases Nat.lt_trichotomy x.1 y.1 with h | h | h
  · exact Or.inl (Or.inl h)
  · rcases @Rat.le_total x.2 y.2 with h' | h'
    · exact Or.inl (Or.inr ⟨h, h'⟩)
    · exact Or.inr (Or.inr ⟨h.symm, h'⟩)
  · exact Or.inr (Or.inl h)

theorem le2_trans {x y z : Nat × Rat} (h1 : le2 x y) (h2 : le2 y z) : le2 x z := by
  rcases h1 with h1 | ⟨h1, h1'⟩ <;> rcases h2 with h2 | ⟨h2, h2'⟩
  · exact Or.inl (Nat.lt_trans h1 h2)
  · exact Or.inl (Nat.lt_of_lt_of_eq h1 h2)
  · exact Or.inl (Nat.lt_of_le_of_lt (Nat.le_of_eq h1) h2)
  · exact Or.inr ⟨h1.trans h2, Rat.le_trans h1' h2'⟩

theorem le2_antisymm {x y : Nat × Rat} (h1 : le2 x y) (h2 : le2 y x) : x = y := by
  rcases h1 with h1 | ⟨h1, h1'⟩ <;> rcases h2 with h2 | ⟨h2, h2'⟩
  · exact absurd h2 (Nat.lt_asymm h1)
  · exact absurd (Nat.lt_of_lt_of_eq h1 h2) (Nat.lt_irrefl _)
  · exact absurd (Nat.lt_of_lt_of_eq h2 h1) (Nat.lt_irrefl _)
  · exact Prod.ext h1 (Rat.le_antisymm h1' h2')

theorem insertPair_cond (x y : Nat × Rat) :
    (x.1 < y.1 || (x.1 == y.1 && decide (x.2 ≤ y.2))) = true ↔ le2 x y := by
  simp [le2]

theorem mem_insertPair (x : Nat × Rat) (l : List (Nat × Rat)) (z : Nat × Rat) :
    z ∈ insertPair x l ↔ z = x ∨ z ∈ l := by
  induction l with
  | nil => simp [insertPair]
  | cons y ys ih =>
    simp only [insertPair]
    split
    · exact List.mem_cons
    · rw [List.mem_cons, ih, List.mem_cons]
      exact or_left_comm

theorem insertPair_sorted (x : Nat × Rat) (l : List (Nat × Rat)) (h : l.Pairwise le2) :
    (insertPair x l).Pairwise le2 := by
  induction l with
  | nil => simp [insertPair]
  | cons y ys ih =>
    simp only [insertPair]
    have hy := List.pairwise_cons.mp h
    split
    · rename_i hc
      have hxy : le2 x y := (insertPair_cond x y).mp hc
      exact List.pairwise_cons.mpr ⟨List.forall_mem_cons.mpr ⟨hxy, fun z hz => le2_trans hxy (hy.1 z hz)⟩, h⟩
    · rename_i hc
      have hyx : le2 y x := (le2_total x y).resolve_left fun h' => hc ((insertPair_cond x y).mpr h')
      refine List.pairwise_cons.mpr ⟨fun z hz => ?_, ih hy.2⟩
      rcases (mem_insertPair x ys z).mp hz with rfl | hz
      · exact hyx
      · exact hy.1 z hz

theorem sortPairs_sorted (l : List (Nat × Rat)) : (sortPairs l).Pairwise le2 := by
  induction l with
  | nil => simp [sortPairs]
  | cons x xs ih =>
    simp only [sortPairs, List.foldr_cons]
    exact insertPair_sorted x _ ih

theorem insertPair_perm' (x : Nat × Rat) (l : List (Nat × Rat)) : (insertPair x l).Perm (x :: l) := by
  induction l with
  | nil => simp [insertPair]
  | cons y ys ih =>
    simp only [insertPair]
    split
    · exact List.Perm.refl _
    · exact (List.Perm.cons y ih).trans (List.Perm.swap x y ys)

theorem sortPairs_perm' (l : List (Nat × Rat)) : (sortPairs l).Perm l := by
  induction l with
  | nil => simp [sortPairs]
  | cons x xs ih =>
    simp only [sortPairs, List.foldr_cons]
    exact (insertPair_perm' x _).trans (List.Perm.cons x ih)

theorem sortPairs_unique (l s : List (Nat × Rat)) (hs : s.Pairwise le2) (hp : s.Perm l) :
    sortPairs l = s :=
  List.Perm.eq_of_pairwise (le := le2) (fun _ _ _ _ h1 h2 => le2_antisymm h1 h2)
    (sortPairs_sorted l) hs ((sortPairs_perm' l).trans hp.symm)

/-- permuting the input does not change the sorted form -/
theorem sortPairs_congr (l l' : List (Nat × Rat)) (h : l.Perm l') : sortPairs l = sortPairs l' :=
  sortPairs_unique l _ (sortPairs_sorted l') ((sortPairs_perm' l').trans h.symm)

theorem sortPairs_map (g : Nat × Rat → Nat × Rat) (l : List (Nat × Rat))
    (hg : ∀ x ∈ l, ∀ y ∈ l, le2 x y → le2 (g x) (g y)) : sortPairs (l.map g) = (sortPairs l).map g := by
  have hp := sortPairs_perm' l
  refine sortPairs_unique _ _ ?_ (hp.map g)
  rw [List.pairwise_map]
  exact (sortPairs_sorted l).imp_of_mem fun hx hy h => hg _ (hp.mem_iff.mp hx) _ (hp.mem_iff.mp hy) h

theorem le2_lines {l : List (Nat × Rat)} (h : l.Pairwise le2) : (l.map (·.1)).Pairwise (· ≤ ·) := by
  rw [List.pairwise_map]
  refine h.imp ?_
  intro a b hab
  rcases hab with h | ⟨h, _⟩
  · exact Nat.le_of_lt h
  · exact Nat.le_of_eq h

theorem le2_of_lines {l : List (Nat × Rat)} (h : (verts l).Pairwise (· < ·)) : l.Pairwise le2 :=
  (List.pairwise_map.mp h).imp Or.inl

/-! ### the normal form -/

theorem normPath_perm (off : Nat) (p : List (Nat × Rat)) : (normPath off p).Perm (p.map (back off)) :=
  sortPairs_perm' _

theorem normPath_sum (off : Nat) (p : List (Nat × Rat)) :
    ((normPath off p).map (·.2)).sum = (p.map (·.2)).sum := by
  rw [sum_perm ((normPath_perm off p).map (·.2)), List.map_map]
  rfl

theorem normPath_self (n : Nat) (b : List (Nat × Rat)) (hlt : ∀ y ∈ b, y.1 < n) (hinc : (verts b).Pairwise (· < ·)) :
    normPath n b = b := by
  rw [normPath, map_eq_self fun y hy => back_of_lt n y (hlt y hy)]
  exact sortPairs_unique b b (le2_of_lines hinc) (List.Perm.refl _)

/-- `pairsEq` (how the code compares two `lat_path` lists) is equality -/
theorem pairsEq_iff (a b : List (Nat × Rat)) : pairsEq a b = true ↔ a = b := by
  induction a generalizing b with
  | nil => cases b <;> simp [pairsEq]
  | cons x xs ih =>
    cases b with
    | nil => simp [pairsEq]
    | cons y ys =>
      -- unfold one `cons` on both sides; what is left of the tails is the induction hypothesis
      have := ih ys
      simp only [pairsEq, Bool.and_eq_true, beq_iff_eq] at this ⊢
      rw [List.length_cons, List.length_cons, List.zip_cons_cons, List.all_cons, Bool.and_eq_true, Bool.and_eq_true,
        beq_iff_eq, beq_iff_eq, Nat.add_right_cancel_iff, List.cons.injEq, ← this, Prod.ext_iff]
      exact and_left_comm

/-! ### the de-duplication and what `post` reports -/

theorem mem_dedup (seen l : List (List (Nat × Rat))) (x : List (Nat × Rat)) :
    x ∈ post.dedup seen l ↔ x ∈ l ∧ x ∉ seen := by
  induction l generalizing seen with
  | nil => simp [post.dedup]
  | cons p ps ih =>
    have hany : seen.any (pairsEq p) = true ↔ p ∈ seen := by
      rw [List.any_eq_true]
      exact ⟨fun ⟨y, hy, h⟩ => (pairsEq_iff p y).mp h ▸ hy, fun h => ⟨p, h, (pairsEq_iff p p).mpr rfl⟩⟩
    simp only [post.dedup]
    by_cases hp : p ∈ seen
    · rw [if_pos (hany.mpr hp), ih, List.mem_cons]
      exact ⟨fun h => ⟨Or.inr h.1, h.2⟩, fun h => ⟨h.1.resolve_left fun e => h.2 (e ▸ hp), h.2⟩⟩
    · rw [if_neg (mt hany.mp hp), List.mem_cons, ih, List.mem_cons, List.mem_cons]
      constructor
      · rintro (rfl | ⟨h1, h2⟩)
        · exact ⟨Or.inl rfl, hp⟩
        · exact ⟨Or.inr h1, fun h => h2 (Or.inr h)⟩
      · rintro ⟨h1 | h1, h2⟩
        · exact Or.inl h1
        · exact (Classical.em (x = p)).imp id fun hx => ⟨h1, fun h => h.elim hx h2⟩

theorem dedup_nodup (seen l : List (List (Nat × Rat))) : (post.dedup seen l).Nodup := by
  induction l generalizing seen with
  | nil => simp [post.dedup]
  | cons p ps ih =>
    simp only [post.dedup]
    split
    · exact ih seen
    · rw [List.nodup_cons]
      refine ⟨?_, ih _⟩
      intro h
      have := ((mem_dedup (p :: seen) ps p).mp h).2
      exact this List.mem_cons_self

/-- the entry `post` builds from a normal form -/
def mkEntry (p : List (Nat × Rat)) : Entry :=
  { lines := p.map (·.1), lats := p.map (·.2), latency := (p.map (·.2)).sum }

theorem post_eq (off : Nat) (paths : List (List (Nat × Rat))) :
    post off paths = (post.dedup [] (paths.map (normPath off))).map mkEntry := rfl

theorem mem_post (off : Nat) (paths : List (List (Nat × Rat))) (e : Entry) :
    e ∈ post off paths ↔ ∃ p ∈ paths, e = mkEntry (normPath off p) := by
  simp only [post_eq, List.mem_map, mem_dedup, List.not_mem_nil, not_false_eq_true, and_true]
  constructor
  · rintro ⟨_, ⟨p, hp, rfl⟩, rfl⟩; exact ⟨p, hp, rfl⟩
  · rintro ⟨p, hp, rfl⟩; exact ⟨_, ⟨p, hp, rfl⟩, rfl⟩

end OsacaVerif.LCD
