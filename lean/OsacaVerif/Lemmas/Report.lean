import OsacaVerif.Lemmas.Fmt
import OsacaVerif.Model.Report
import OsacaVerif.Model.ReportView
import OsacaVerif.Spec.ReportView
/-
  Lemmas for C13: the reader of `Spec/ReportView.lean` inverts the renderer of `Model/Report.lean`,
  piece by piece (cell, cell list, table line, column widths, port line, totals line); at the end, where the
  warning texts are found in the header and footer blocks.
-/
namespace OsacaVerif.Report
open OsacaVerif.Text OsacaVerif.Fmt OsacaVerif.Spec.Report
open OsacaVerif.Gen.Report

/-! ### what the theorems assume of an analysis -/

/-- a text that can stand between two bars: no blank, no bar -/
def TokOk (t : Txt) : Prop := ∀ c ∈ t, isTokC c = true

/-- a port name that can be read back from the port line: no blank, bar or dash, and it fits the
    narrowest column -/
def NameOk (n : Txt) : Prop := (∀ c ∈ n, c ≠ 32 ∧ isSepC c = false) ∧ n.length ≤ minPortLen + headerPad

/-- a text printed in a blank-delimited field: non-empty, no blank -/
def WordOk (t : Txt) : Prop := t ≠ [] ∧ 32 ∉ t

/-- no newline -/
def NoNL (t : Txt) : Prop := 10 ∉ t

/-- what the harness guarantees of the values it reads off the implementation's objects -/
structure WF (a : Analysis) : Prop where
  ports_ne : a.ports ≠ []
  names : ∀ n ∈ a.ports, NameOk n ∧ NoNL n
  rows_ne : a.rows ≠ []
  rows : ∀ r ∈ a.rows, r.press.length = a.ports.length ∧ r.used.length = a.ports.length ∧ NoNL r.text
  cp : ∀ p ∈ a.cp, TokOk p.2 ∧ NoNL p.2
  deps : ∀ d ∈ a.deps, (∀ m ∈ d.members, TokOk m.2 ∧ NoNL m.2) ∧ WordOk d.latRepr ∧ NoNL d.latRepr
  cpSum : WordOk a.cpSum ∧ NoNL a.cpSum
  tpSum : a.tpSum = [] ∨ a.tpSum.length = a.ports.length

/-! ### two facts about lists -/

/-- reading back a list of rendered items, item by item -/
theorem mapM'_map {α β γ : Type} (f : β → Option γ) (g : α → β) (h : α → γ) (l : List α)
    (hf : ∀ x ∈ l, f (g x) = some (h x)) : mapM' f (l.map g) = some (l.map h) := by
  induction l with
  | nil => rfl
  | cons x xs ih =>
    rw [List.map_cons, mapM', hf x List.mem_cons_self, ih fun y hy => hf y (List.mem_cons_of_mem _ hy)]
    rfl

theorem getLastD_forall {P : Nat → Prop} {l : List Nat} {d : Nat} (hd : P d) (hl : ∀ s ∈ l, P s) :
    P (l.getLastD d) := by
  induction l generalizing d with
  | nil => exact hd
  | cons a l ih =>
    rw [List.getLastD_cons]
    exact ih (hl a List.mem_cons_self) fun s hs => hl s (List.mem_cons_of_mem _ hs)

/-! ### shown numbers -/

/-- a character that is no minus sign, point or digit does not occur in a shown number -/
theorem renderShown_not_mem (s : Shown) {k : Nat} (h45 : k ≠ 45) (h46 : k ≠ 46) (hd : isDigitC k = false) :
    k ∉ renderShown s := by
  obtain ⟨neg, mant, decs⟩ := s
  unfold renderShown
  intro h
  simp only [List.mem_append] at h
  rcases h with (h | h) | h
  · cases neg <;> simp at h; exact h45 h
  · exact not_mem_digits (natDigits_digits _) hd h
  · by_cases hd0 : decs = 0
    · simp [hd0] at h
    · simp only [hd0, if_false, List.mem_cons] at h
      rcases h with h | h
      · exact h46 h
      · exact not_mem_digits (fracDigits_digits _ _) hd h

theorem renderShown_ne_nil (s : Shown) : renderShown s ≠ [] := by
  have := natDigits_ne_nil (s.mant / 10 ^ s.decs)
  unfold renderShown
  simp [this]

theorem renderShown_headNot (s : Shown) (b : Txt) : HeadNot (· == 32) (renderShown s ++ b) :=
  headNot_append b (renderShown_ne_nil s) fun c hc => by
    have := renderShown_not_mem s (k := 32) (by decide) (by decide) (by decide)
    simpa using fun e : c = 32 => this (e ▸ hc)

theorem parseNumFull_renderShown (s : Shown) : parseNumFull (renderShown s) = some s := by
  have := parseNum_renderShown s [] numEnd_nil
  rw [List.append_nil] at this
  rw [parseNumFull, this]

/-! ### one cell -/

/-- a cell is blank or printed with at least one decimal (no fall-back format) -/
def CellOk (x : Rat) (u : Bool) (l : Nat) : Prop :=
  (x.num = 0 ∧ u = false) ∨ 0 < l - leftLen x - cellReserve

theorem spaces_append_cons (k : Nat) (t : Txt) : spaces k ++ 32 :: t = spaces (k + 1) ++ t := by
  simp [spaces, List.replicate_succ']

theorem parseCell_blank (c : Col) (rest : Txt) :
    parseCell c (spaces (c.plen + 1) ++ c.sep :: rest) = some (none, rest) := by
  rw [parseCell, if_pos (by rw [spaces_succ]; rfl), expectSpaces_spaces]
  simp

theorem parseCell_num (c : Col) (s : Shown) (rest : Txt) :
    parseCell c (renderShown s ++ 32 :: c.sep :: rest) = some (some s, rest) := by
  have hh : (renderShown s ++ 32 :: c.sep :: rest).head? ≠ some 32 := by
    cases h : renderShown s ++ 32 :: c.sep :: rest with
    | nil => simp
    | cons d r => simpa using renderShown_headNot s _ d r h
  rw [parseCell, if_neg hh, parseNum_renderShown _ _ (numEnd_cons (by decide) (by decide))]
  simp

theorem parseCell_cellBody (x : Rat) (u : Bool) (l sep : Nat) (name rest : Txt) (h : CellOk x u l) :
    parseCell ⟨name, l, sep⟩ (cellBody x u l sep ++ rest) = some (cellView x u l, rest) := by
  unfold cellBody cellView
  by_cases hz : (decide (x.num = 0) && !u) = true
  · simp only [if_pos hz, List.append_assoc, List.cons_append, List.nil_append, spaces_append_cons]
    exact parseCell_blank ⟨name, l, sep⟩ rest
  · have hp : l - leftLen x - cellReserve ≠ 0 := by
      rcases h with ⟨h1, h2⟩ | h
      · exact absurd (by simp [h1, h2]) hz
      · exact Nat.ne_of_gt h
    simp only [if_neg hz, if_neg hp, cellPrec]
    rw [padLeft_of_le _ _ (leftLen_le x _), List.append_assoc]
    exact parseCell_num ⟨name, l, sep⟩ _ rest

/-! ### the cells of one line -/

def CellsOk : List Rat → List Bool → List Nat → Prop
  | x :: xs, u :: us, l :: ls => CellOk x u l ∧ CellsOk xs us ls
  | _, _, _ => True

theorem parseCells_render (xs : List Rat) (us : List Bool) (ls ss : List Nat) (names : List Txt) (rest : Txt)
    (hu : us.length = xs.length) (hl : ls.length = xs.length) (hs : ss.length = xs.length)
    (hn : names.length = xs.length) (hok : CellsOk xs us ls) :
    parseCells (colsOf names ls ss) ((cellBodies xs us ls ss).flatMap (fun b => 32 :: b) ++ rest) =
      some (cellViews xs us ls, rest) := by
  induction xs generalizing us ls ss names with
  | nil =>
    obtain rfl := List.length_eq_zero_iff.mp hn
    rfl
  | cons x xs ih =>
    obtain ⟨u, us, rfl⟩ := List.exists_cons_of_length_eq_add_one hu
    obtain ⟨l, ls, rfl⟩ := List.exists_cons_of_length_eq_add_one hl
    obtain ⟨s, ss, rfl⟩ := List.exists_cons_of_length_eq_add_one hs
    obtain ⟨n, names, rfl⟩ := List.exists_cons_of_length_eq_add_one hn
    simp only [List.length_cons, Nat.add_right_cancel_iff] at hu hl hs hn
    simp only [colsOf, cellBodies, cellViews, List.flatMap_cons, List.cons_append, List.append_assoc, parseCells,
      expect_cons, parseCell_cellBody x u l s n _ hok.1, ih us ls ss names hu hl hs hn hok.2]

/-- a blank behind every item is a blank in front of every item and one at the end -/
theorem flatMap_blank_shift (bs : List Txt) :
    32 :: bs.flatMap (fun b => b ++ [32]) = bs.flatMap (fun b => 32 :: b) ++ [32] := by
  induction bs with
  | nil => rfl
  | cons b bs ih => simp only [List.flatMap_cons, List.append_assoc, List.cons_append, List.nil_append, ih]

/-- `_get_port_pressure` in normal form: the last separator, then every cell preceded by a blank
    (this is what `"<sep> " + Σ(cell + " ")` followed by `[:-1]` amounts to) -/
theorem portPressure_eq (xs : List Rat) (us : List Bool) (ls ss : List Nat) :
    portPressure xs us ls ss = ss.getLastD 124 :: (cellBodies xs us ls ss).flatMap (fun b => 32 :: b) := by
  rw [portPressure, List.cons_append, List.cons_append, List.nil_append, flatMap_blank_shift, ← List.cons_append,
    List.dropLast_concat]

/-! ### tokens between bars, flags, text -/

theorem parseBarCell_render (w : Nat) (tok rest : Txt) (htok : TokOk tok) :
    parseBarCell (32 :: padLeft w tok ++ 32 :: 124 :: rest) = some (tok, rest) := by
  cases tok with
  | nil =>
    have e : 32 :: padLeft w [] ++ 32 :: 124 :: rest = spaces (w + 2) ++ 124 :: rest := by
      rw [padLeft, List.append_nil, List.cons_append, spaces_append_cons, ← List.cons_append, ← spaces_succ]
      rfl
    rw [parseBarCell, e, skipSpaces_append _ (124 :: rest) (fun c => mem_spaces) (headNot_blank_cons (by decide))]
    rfl
  | cons c cs =>
    have hc := htok c List.mem_cons_self
    simp only [isTokC, Bool.and_eq_true, bne_iff_ne, ne_eq] at hc
    rw [parseBarCell, List.cons_append, skipSpaces, skipSpaces_padLeft w _ _
      (headNot_blank_cons hc.1),
      span_append_stop isTokC _ (32 :: 124 :: rest) htok (headNot_cons (by decide))]
    rfl

theorem parseFlagsText_render (v text : Txt) (hv : ∀ c ∈ v, c ≠ 32) :
    parseFlagsText (32 :: (if v.isEmpty then [32] else v) ++ 32 :: text) = some (v, text) := by
  unfold parseFlagsText
  simp only [List.cons_append, expect_cons]
  cases v with
  | nil =>
    simp [spanP]
  | cons c cs =>
    simp only [List.isEmpty_cons, Bool.false_eq_true, if_false]
    rw [span_append_stop (· != 32) (c :: cs) (32 :: text)
      (by intro c' h'; simp [hv c' h']) (headNot_cons (by decide))]
    simp

/-! ### separators and flag symbols -/

theorem sepList_length (s s2 : Nat) (names : List Txt) (h : names ≠ []) :
    (sepList s s2 names).length = names.length := by
  fun_induction sepList s s2 names with
  | case1 => exact absurd rfl h
  | case2 => rfl
  | case3 a b r ih => rw [List.length_cons, ih (List.cons_ne_nil _ _)]; rfl

theorem sepList_ne_nil (s s2 : Nat) (names : List Txt) : sepList s s2 names ≠ [] := by
  fun_induction sepList s s2 names <;> exact List.cons_ne_nil _ _

theorem sepList_getLast (s s2 : Nat) (names : List Txt) : (sepList s s2 names).getLastD 124 = s := by
  fun_induction sepList s s2 names with
  | case1 => rfl
  | case2 => rfl
  | case3 a b r ih =>
    rw [List.getLastD_cons]
    cases h : sepList s s2 (b :: r) with
    | nil => exact absurd h (sepList_ne_nil s s2 (b :: r))
    | cons x y => rw [h, List.getLastD_cons] at ih; rw [List.getLastD_cons]; exact ih

/-- what holds of every flag symbol holds of the symbols shown for a line -/
theorem flagView_forall {P : Nat → Prop} (h : ∀ p ∈ flagSymbols, P p.1) (flags : List Txt) :
    ∀ c ∈ flagSymbols.filterMap (fun (sym, name) => if flags.contains name then some sym else none), P c := by
  intro c hc
  simp only [List.mem_filterMap] at hc
  obtain ⟨p, hp, hpc⟩ := hc
  split at hpc
  · cases hpc; exact h p hp
  · cases hpc

/-! ### one table line -/

/-- a table line in normal form is read back, whatever its cells are -/
theorem parseRow_parts (cols : List Col) (w w' n : Nat) (C : Txt) (cells : List (Option Shown)) (cp lcd v text : Txt)
    (hC : ∀ r, parseCells cols (C ++ r) = some (cells, r)) (hcp : TokOk cp) (hlcd : TokOk lcd)
    (hv : ∀ c ∈ v, c ≠ 32) :
    parseRow cols (padLeft w (natDigits n) ++ (32 :: 124 :: (C ++ (124 :: 32 :: (padLeft w' cp ++ (32 :: 124 :: 32 ::
      (padLeft w' lcd ++ (32 :: 124 :: 32 :: ((if v.isEmpty then [32] else v) ++ 32 :: text))))))))) =
      some ⟨n, cells, cp, lcd, v, text⟩ := by
  have h1 := parseBarCell_render w' cp
  have h2 := parseBarCell_render w' lcd
  have h3 := parseFlagsText_render v text hv
  simp only [List.cons_append] at h1 h2 h3
  rw [parseRow, parseNatPre_padLeft _ _ _ (headNot_cons (by decide))]
  simp only [expect_cons, hC, h1 _ hcp, h2 _ hlcd, h3, Option.map]

/-- conditions on a kernel line under which the table line is read back -/
structure RowOk (a : Analysis) (plens : List Nat) (r : Row) : Prop where
  lenP : r.press.length = a.ports.length
  lenU : r.used.length = a.ports.length
  cells : CellsOk r.press r.used plens
  cpTok : TokOk ((lookupFirst r.line a.cp).getD [])
  lcdTok : TokOk ((lookupLast r.line (lcdMembers a)).getD [])

theorem parseRow_render (a : Analysis) (plens : List Nat) (r : Row) (hports : a.ports ≠ [])
    (hpl : plens.length = a.ports.length) (hok : RowOk a plens r) :
    parseRow (colsOf a.ports plens (sepList colSep groupSep a.ports))
      (renderRow a plens (sepList colSep groupSep a.ports) r) = some (rowView a plens r) := by
  have hsl := sepList_length colSep groupSep a.ports hports
  -- the flag field as the reader sees it
  have hfl : (if r.hasMnemonic = true then flagSymbolsOf r.flags else [32]) =
      (if (rowView a plens r).flags.isEmpty then [32] else (rowView a plens r).flags) := by
    unfold rowView flagSymbolsOf
    cases r.hasMnemonic <;> rfl
  have hv : ∀ c ∈ (rowView a plens r).flags, c ≠ 32 := by
    intro c hc
    have e : (rowView a plens r).flags = if r.hasMnemonic then flagSymbols.filterMap
      (fun (sym, name) => if r.flags.contains name then some sym else none) else [] := rfl
    rw [e] at hc
    split at hc
    · exact flagView_forall (P := (· ≠ 32)) (by decide) r.flags c hc
    · cases hc
  have := parseRow_parts _ rowNumWidth cellWidth r.line _ (rowView a plens r).cells _ _ _ (cleanLine r.text)
    (fun rest => parseCells_render r.press r.used plens _ a.ports rest (by rw [hok.lenU, hok.lenP])
      (by rw [hpl, hok.lenP]) (by rw [hsl, hok.lenP]) hok.lenP.symm hok.cells) hok.cpTok hok.lcdTok hv
  rw [← hfl] at this
  simp only [renderRow, lcdCp, portPressure_eq, sepList_getLast, colSep, List.append_assoc, List.cons_append,
    List.nil_append] at this ⊢
  exact this

/-! ### column widths: `_get_max_port_len` leaves room for every cell -/

theorem foldl_natMax_ge (f : Rat → Nat) (vals : List Rat) (init : Nat) :
    init ≤ vals.foldl (fun m v => max m (f v)) init ∧
      ∀ v ∈ vals, f v ≤ vals.foldl (fun m v => max m (f v)) init := by
  induction vals generalizing init with
  | nil => simp
  | cons x xs ih =>
    simp only [List.foldl_cons, List.mem_cons]
    have := ih (max init (f x))
    refine ⟨by omega, ?_⟩
    intro v hv
    rcases hv with rfl | hv
    · omega
    · exact this.2 v hv

theorem portLenOf_ge_min (vals : List Rat) : minPortLen ≤ portLenOf vals :=
  (foldl_natMax_ge _ vals minPortLen).1

theorem portLenOf_ge (vals : List Rat) (v : Rat) (hv : v ∈ vals) :
    (fmtFixed v portLenDecimals).length ≤ portLenOf vals :=
  (foldl_natMax_ge (fun v => (fmtFixed v portLenDecimals).length) vals minPortLen).2 v hv

theorem cellOk_of_room (x : Rat) (u : Bool) (l : Nat) (h : (fmtFixed x portLenDecimals).length ≤ l) :
    CellOk x u l := by
  -- `leftLen x`, the point and two decimals fit into `l`
  have h1 : leftLen x + 3 ≤ l := Nat.le_trans (leftLen_add_le x portLenDecimals) h
  have h2 : cellReserve + leftLen x < l := by
    rw [Nat.add_comm]
    exact Nat.lt_of_lt_of_le (Nat.add_lt_add_left (by decide : cellReserve < 3) _) h1
  exact .inr (Nat.sub_pos_of_lt (Nat.lt_sub_of_add_lt h2))

theorem cellsOk_of_forall (xs : List Rat) (us : List Bool) (ls : List Nat)
    (h : ∀ i (h1 : i < xs.length) (_h2 : i < us.length) (h3 : i < ls.length), CellOk xs[i] us[i] ls[i]) :
    CellsOk xs us ls := by
  fun_induction CellsOk xs us ls with
  | case1 x xs u us l ls ih =>
    exact ⟨h 0 (Nat.zero_lt_succ _) (Nat.zero_lt_succ _) (Nat.zero_lt_succ _), ih fun i h1 h2 h3 =>
      h (i + 1) (Nat.succ_lt_succ h1) (Nat.succ_lt_succ h2) (Nat.succ_lt_succ h3)⟩
  | case2 => trivial

theorem maxPortLen_length (ports : List Txt) (rows : List Row) :
    (maxPortLen ports rows).length = ports.length := by simp [maxPortLen]

theorem maxPortLen_ge_min (ports : List Txt) (rows : List Row) : ∀ l ∈ maxPortLen ports rows, minPortLen ≤ l := by
  intro l hl
  simp only [maxPortLen, List.mem_map] at hl
  obtain ⟨i, _, rfl⟩ := hl
  exact portLenOf_ge_min _

/-- every cell of every kernel line fits its column with at least one decimal -/
theorem cellsOk_maxPortLen (ports : List Txt) (rows : List Row) (r : Row) (hr : r ∈ rows)
    (hlen : r.press.length = ports.length) : CellsOk r.press r.used (maxPortLen ports rows) := by
  apply cellsOk_of_forall
  intro i h1 h2 h3
  apply cellOk_of_room
  have hi : i < ports.length := by omega
  simp only [maxPortLen, List.getElem_map, List.getElem_range]
  apply portLenOf_ge
  simp only [column, List.mem_map]
  exact ⟨r, hr, by simp [List.getD, List.getElem?_eq_getElem h1]⟩

/-! ### the port line -/

theorem center_eq (w : Nat) (n : Txt) :
    center w n = spaces ((w - n.length) / 2) ++ n ++ spaces ((w - n.length) - (w - n.length) / 2) := rfl

theorem center_length (w : Nat) (n : Txt) (h : n.length ≤ w) : (center w n).length = w := by
  rw [center_eq, List.length_append, List.length_append, spaces_length, spaces_length, Nat.add_comm _ n.length,
    Nat.add_assoc, Nat.add_sub_cancel' (Nat.div_le_self _ _), Nat.add_sub_cancel' h]

theorem center_filter (w : Nat) (n : Txt) (hn : ∀ c ∈ n, c ≠ 32) : (center w n).filter (· != 32) = n := by
  have hs : ∀ k, (spaces k).filter (· != 32) = [] := by
    intro k; simp [spaces]
  rw [center_eq, List.filter_append, List.filter_append, hs, hs, List.nil_append, List.append_nil,
    List.filter_eq_self]
  intro c hc; simp [hn c hc]

theorem center_noSep (w : Nat) (n : Txt) (hn : ∀ c ∈ n, isSepC c = false) :
    ∀ c ∈ center w n, (!isSepC c) = true := by
  intro c hc
  rw [center_eq] at hc
  rcases List.mem_append.mp hc with hc | hc
  · rcases List.mem_append.mp hc with hc | hc
    · rw [mem_spaces hc]; rfl
    · rw [hn c hc]; rfl
  · rw [mem_spaces hc]; rfl

/-- one column of the port line: a field of at least two characters, none of them a bar or dash, then `|` or `-` -/
theorem parseCols_field (fuel : Nat) (f : Txt) (s : Nat) (r r' : Txt) (cs : List Col)
    (hf : ∀ c ∈ f, (!isSepC c) = true) (hlen : 2 ≤ f.length) (hs : isSepC s = true)
    (hr : parseCols fuel r = some (cs, r')) :
    parseCols (fuel + 1) (f ++ s :: r) =
      some (⟨f.filter (· != 32), f.length - 2, if s = 45 then 32 else 124⟩ :: cs, r') := by
  have hh : (f ++ s :: r).head? ≠ some 124 := by
    cases f with
    | nil => exact absurd hlen (by decide)
    | cons c f' =>
      have := hf c List.mem_cons_self
      rintro ⟨⟩
      exact absurd this (by decide)
  rw [parseCols, if_neg hh, span_append_stop _ f (s :: r) hf (headNot_cons (by rw [hs]; rfl))]
  simp only [if_neg (Nat.not_lt.mpr hlen), hr]

theorem parseCols_render (names : List Txt) (plens seps : List Nat) (fuel : Nat) (tail : Txt)
    (hlen : plens.length = names.length) (hsl : seps.length = names.length) (hseps : ∀ s ∈ seps, isSepC s = true)
    (hn : ∀ n ∈ names, NameOk n) (hl : ∀ l ∈ plens, minPortLen ≤ l) (hf : names.length < fuel) :
    parseCols fuel (portSegs names plens seps ++ 124 :: tail) =
      some (colsOf names plens (seps.map fun s => if s = 45 then 32 else 124), tail) := by
  induction names generalizing plens seps fuel with
  | nil =>
    obtain ⟨fuel, rfl⟩ := Nat.exists_eq_add_one_of_ne_zero (Nat.ne_of_gt hf)
    rfl
  | cons n ns ih =>
    obtain ⟨l, ls, rfl⟩ := List.exists_cons_of_length_eq_add_one hlen
    obtain ⟨s, ss, rfl⟩ := List.exists_cons_of_length_eq_add_one hsl
    obtain ⟨fuel, rfl⟩ := Nat.exists_eq_add_one_of_ne_zero (Nat.ne_of_gt (Nat.lt_of_le_of_lt (Nat.zero_le _) hf))
    simp only [List.length_cons, Nat.add_right_cancel_iff] at hlen hsl
    have hnok := hn n List.mem_cons_self
    have hfit : n.length ≤ l + headerPad :=
      Nat.le_trans hnok.2 (Nat.add_le_add_right (hl l List.mem_cons_self) _)
    have hrest := ih ls ss fuel hlen hsl (fun s h => hseps s (List.mem_cons_of_mem _ h))
      (fun n h => hn n (List.mem_cons_of_mem _ h)) (fun l h => hl l (List.mem_cons_of_mem _ h))
      (Nat.lt_of_succ_lt_succ hf)
    have := parseCols_field fuel (center (l + headerPad) n) s _ tail _
      (center_noSep _ n fun c hc => (hnok.1 c hc).2) (by rw [center_length _ n hfit]; exact Nat.le_add_left _ _)
      (hseps s List.mem_cons_self) hrest
    rw [center_length _ n hfit, center_filter _ n fun c hc => (hnok.1 c hc).1,
      show l + headerPad - 2 = l from Nat.add_sub_cancel l 2] at this
    simpa only [portSegs, colsOf, List.map_cons, List.append_assoc, List.cons_append] using this

/-! ### blank-separated tokens and the totals line -/

theorem tokens_append_space (a b : Txt) : tokens (a ++ 32 :: b) = tokens a ++ tokens b := by
  simp [tokens, splitOn_append_cons]

theorem tokens_cons_space (t : Txt) : tokens (32 :: t) = tokens t :=
  tokens_append_space [] t

theorem tokens_blanks_append (pre t : Txt) (h : ∀ c ∈ pre, c = 32) : tokens (pre ++ t) = tokens t := by
  induction pre with
  | nil => rfl
  | cons c cs ih =>
    obtain rfl := h c (by simp)
    rw [List.cons_append, tokens_cons_space, ih (fun c hc => h c (by simp [hc]))]

theorem tokens_word (w : Txt) (hne : w ≠ []) (hs : 32 ∉ w) : tokens w = [w] := by
  simp [tokens, splitOn_no_sep 32 w hs, hne]

theorem tokens_word_blanks (w post : Txt) (hne : w ≠ []) (hs : 32 ∉ w) (h : ∀ c ∈ post, c = 32) :
    tokens (w ++ post) = [w] := by
  cases post with
  | nil => rw [List.append_nil]; exact tokens_word w hne hs
  | cons c p =>
    obtain rfl := h c (by simp)
    have := tokens_blanks_append p [] (fun c hc => h c (by simp [hc]))
    rw [List.append_nil] at this
    rw [tokens_append_space, tokens_word w hne hs, this]; rfl

theorem tokens_bodies (bodies : List Txt) (R : Txt) :
    tokens (bodies.flatMap (fun b => 32 :: b) ++ 32 :: R) = bodies.flatMap tokens ++ tokens R := by
  have h : ∀ bs : List Txt, tokens (bs.flatMap (fun b => b ++ [32]) ++ R) = bs.flatMap tokens ++ tokens R := by
    intro bs
    induction bs with
    | nil => rfl
    | cons b bs ih =>
      rw [List.flatMap_cons, List.append_assoc, List.append_assoc, List.singleton_append, tokens_append_space, ih,
        List.flatMap_cons, List.append_assoc]
  rw [← List.singleton_append, ← List.append_assoc, ← flatMap_blank_shift, List.cons_append, tokens_cons_space, h]

theorem tokens_shown (s : Shown) (post : Txt) (h : ∀ c ∈ post, c = 32) :
    tokens (renderShown s ++ post) = [renderShown s] :=
  tokens_word_blanks _ post (renderShown_ne_nil s) (renderShown_not_mem s (by decide) (by decide) (by decide)) h

/-- tokens of one cell of the totals line -/
theorem tokens_sumBody (x : Rat) (l : Nat) :
    tokens (cellBody x false l 32) = ((sumView x l).map renderShown).toList := by
  unfold cellBody sumView
  by_cases hz : x.num = 0
  · have : (decide (x.num = 0) && !false) = true := by simp [hz]
    rw [if_pos this, if_pos hz, tokens_blanks_append _ _ (fun c => mem_spaces)]
    rfl
  · have : ¬ (decide (x.num = 0) && !false) = true := by simp [hz]
    simp only [if_neg this, if_neg hz]
    by_cases hp : cellPrec x l = 0
    · rw [if_pos hp, if_pos (show l - leftLen x - cellReserve = 0 from hp)]
      exact tokens_shown _ [32] (by decide)
    · rw [if_neg hp, if_neg (show ¬ l - leftLen x - cellReserve = 0 from hp), padLeft_of_le _ _ (leftLen_le x _)]
      exact tokens_shown _ [32, 32] (by decide)

theorem tokens_sumBodies (xs : List Rat) (ls : List Nat) :
    (cellBodies xs (xs.map fun _ => false) ls (xs.map fun _ => 32)).flatMap tokens =
      ((sumViews xs ls).filterMap id).map renderShown := by
  induction xs generalizing ls with
  | nil => rfl
  | cons x xs ih =>
    cases ls with
    | nil => rfl
    | cons l ls =>
      simp only [List.map_cons, cellBodies, sumViews, List.flatMap_cons, tokens_sumBody, ih]
      cases sumView x l <;> rfl

theorem allSome_map_parseNumFull (ss : List Shown) :
    allSome ((ss.map renderShown).map parseNumFull) = some ss := by
  induction ss with
  | nil => rfl
  | cons s ss ih =>
    simp only [List.map_cons, parseNumFull_renderShown]
    rw [allSome, ih]; rfl

theorem linenoFiller_spaces : ∀ c ∈ linenoFiller, c = 32 := by decide

theorem tokens_summaryRow (a : Analysis) (plens : List Nat) (hs : sumsOf a ≠ [])
    (hcp : WordOk a.cpSum) (hlcd : WordOk (lcdSumRepr a)) :
    tokens (summaryRow a plens) =
      ((sumViews (sumsOf a) plens).filterMap id).map renderShown ++ [a.cpSum, lcdSumRepr a] := by
  -- the separator in front of the sums is a blank
  have hlast : ((sumsOf a).map fun _ => (32 : Nat)).getLastD 124 = 32 := by
    obtain ⟨x, xs, e⟩ := List.exists_cons_of_ne_nil hs
    rw [e, List.map_cons, List.getLastD_cons]
    exact getLastD_forall (P := (· = 32)) rfl fun s hs => by obtain ⟨_, _, rfl⟩ := List.mem_map.mp hs; rfl
  unfold summaryRow padLeft
  simp only [List.append_assoc, List.cons_append]
  rw [tokens_blanks_append _ _ linenoFiller_spaces, portPressure_eq, hlast, List.cons_append,
    tokens_cons_space, tokens_bodies, tokens_sumBodies, tokens_blanks_append _ _ (fun c => mem_spaces),
    tokens_append_space, tokens_word _ hcp.1 hcp.2, tokens_cons_space,
    tokens_blanks_append _ _ (fun c => mem_spaces), tokens_word_blanks _ _ hlcd.1 hlcd.2 (by decide)]
  rfl

theorem parseSummary_render (a : Analysis) (plens : List Nat) (hs : sumsOf a ≠ [])
    (hcp : WordOk a.cpSum) (hlcd : WordOk (lcdSumRepr a)) :
    parseSummary (summaryRow a plens) =
      some (.summary ((sumViews (sumsOf a) plens).filterMap id) a.cpSum (lcdSumRepr a)) := by
  rw [parseSummary, tokens_summaryRow a plens hs hcp hlcd]
  generalize ((sumViews (sumsOf a) plens).filterMap id) = sums
  have hlen : (sums.map renderShown ++ [a.cpSum, lcdSumRepr a]).length = (sums.map renderShown).length + 2 :=
    List.length_append
  simp only [hlen, if_neg (Nat.not_lt.mpr (Nat.le_add_left 2 _)), Nat.add_sub_cancel, List.take_left' rfl,
    List.drop_left' rfl, allSome_map_parseNumFull]

/-! ### the warning blocks -/

theorem startsWith_append_sep (p a b : Txt) (c : Nat) (hc : c ∉ p) :
    startsWith (a ++ c :: b) p = startsWith a p := by
  induction a generalizing p with
  | nil => cases p with
    | nil => rfl
    | cons q ps => simp [startsWith, List.ne_of_not_mem_cons hc]
  | cons x a ih => cases p with
    | nil => rfl
    | cons q ps => simp [startsWith, ih ps (List.not_mem_of_not_mem_cons hc)]

/-- a pattern is found in a text iff it is found before or after a character it does not contain -/
theorem isInfix_append_sep (p a b : Txt) (c : Nat) (hc : c ∉ p) :
    isInfix p (a ++ c :: b) = (isInfix p a || isInfix p b) := by
  induction a with
  | nil =>
    have := startsWith_append_sep p [] b c hc
    simp only [List.nil_append] at this ⊢
    simp only [isInfix, this]
    cases p <;> rfl
  | cons x a ih =>
    have := startsWith_append_sep p (x :: a) b c hc
    rw [List.cons_append] at this
    rw [List.cons_append, isInfix, this, ih, isInfix, Bool.or_assoc]

/-- a text without line feed is looked for in the warning blocks one by one -/
theorem isInfix_warnings {p : Txt} (hp : p ≠ []) (h10 : 10 ∉ p) (aw lw lcdw : Bool) :
    isInfix p (warningsHeader aw lw ++ warningsFooter lcdw) =
      (aw && isInfix p archWarning || lw && isInfix p lengthWarning || lcdw && isInfix p lcdWarning) := by
  have h0 : isInfix p [] = false := by
    cases p with
    | nil => exact absurd rfl hp
    | cons q ps => rfl
  have hif : ∀ (b : Bool) (t : Txt), isInfix p (if b then t else []) = (b && isInfix p t) := by
    intro b t; cases b <;> simp [h0]
  -- behind the first block every piece is followed by a line feed of the frame itself
  have hrest : isInfix p ((if lw then lengthWarning else []) ++
        10 :: ([] ++ 10 :: ((if lcdw then lcdWarning else []) ++ 10 :: []))) =
      (lw && isInfix p lengthWarning || lcdw && isInfix p lcdWarning) := by
    simp only [isInfix_append_sep _ _ _ _ h10, hif, h0, Bool.or_false, Bool.false_or]
  unfold warningsHeader warningsFooter
  simp only [List.append_assoc, List.cons_append, List.nil_append] at hrest ⊢
  cases aw with
  | false => simpa using hrest
  | true =>
    -- the first block ends with a line feed
    obtain ⟨A, hA⟩ := List.getLast?_eq_some_iff.mp (show archWarning.getLast? = some 10 by decide +kernel)
    have := isInfix_append_sep p A [] 10 h10
    rw [← hA] at this
    rw [if_pos rfl, this, hA, List.append_assoc, List.singleton_append, isInfix_append_sep _ _ _ _ h10, hrest, h0]
    simp [Bool.or_assoc]

end OsacaVerif.Report
