import OsacaVerif.Lemmas.StreamCycles
/-
  Helper development for C05 / C14: from line numbers to positions.  A well-formed kernel `K` whose
  instructions are, line numbers aside, the first `|K|` occurrences of the stream `k^ω` (`k` itself, the
  doubled kernel) has as successor relation between the positions `x < y` the stream relation
  `streamDep k x y` (`succs_window`), and every successor pair sits at such positions (`edge_has_pos`).
  So walks in its graph are chains of stream positions (`walk_iff_chain`), the paths the LCD search
  finds in the doubled graph are the winding-1 cycles that start inside the body (`mem_lcd_paths`), and
  the reported entries are their normal forms (`mem_lcd_entries`, for `LCD.lcd` itself `mem_lcd`).
-/
namespace OsacaVerif.LCD
open OsacaVerif OsacaVerif.DG

variable (isa : Isa) (fd : Bool) (par : Params)

/-- line number of the instruction at position `t` (0 beyond the end) -/
def lineAt (K : List Ins) (t : Nat) : Nat := ((K[t]?).map (·.line)).getD 0

theorem lineAt_lt (K : List Ins) (t : Nat) (h : t < K.length) : lineAt K t = K[t].line := by
  simp [lineAt, h]

theorem decomp2 {α : Type} (K : List α) (x y : Nat) (hxy : x < y) (hy : y < K.length) :
    K = K.take x ++ K[x]'(Nat.lt_trans hxy hy) :: ((K.drop (x + 1)).take (y - x - 1) ++ K[y] :: K.drop (y + 1)) := by
  have e : x + 1 + (y - x - 1) = y := by rw [Nat.sub_sub, Nat.add_sub_of_le hxy]
  have h2 : (K.drop (x + 1)).drop (y - x - 1) = K[y] :: K.drop (y + 1) := by
    rw [List.drop_drop, ← List.drop_eq_getElem_cons hy, e]
  rw [← h2, List.take_append_drop, ← List.drop_eq_getElem_cons, List.take_append_drop]

theorem wf_lineAt_lt {K : List Ins} (hwf : WFKernel K) {x y : Nat} (hxy : x < y) (hy : y < K.length) :
    lineAt K x < lineAt K y := by
  rw [lineAt_lt K x (Nat.lt_trans hxy hy), lineAt_lt K y hy]
  unfold WFKernel at hwf
  rw [List.pairwise_map, List.pairwise_iff_getElem] at hwf
  exact hwf x y (Nat.lt_trans hxy hy) hy hxy

theorem wf_lineAt_inj {K : List Ins} (hwf : WFKernel K) {x y : Nat} (hx : x < K.length) (hy : y < K.length)
    (h : lineAt K x = lineAt K y) : x = y := by
  rcases Nat.lt_trichotomy x y with hlt | heq | hgt
  · exact absurd h (Nat.ne_of_lt (wf_lineAt_lt hwf hlt hy))
  · exact heq
  · exact absurd h.symm (Nat.ne_of_lt (wf_lineAt_lt hwf hgt hx))

/-! ### the graph of a well-formed kernel, edge by edge between positions -/

theorem create_forward (K : List Ins) (hwf : WFKernel K) :
    ForwardEdges (create isa fd par K) := fun e he hs =>
  (emissions_shape isa fd par K hwf e (dedupLast_subset _ e he)).2.1 hs

theorem succs_iff_depW (K : List Ins) (hwf : WFKernel K) (x y : Nat)
    (hxy : x < y) (hy : y < K.length) (w : Rat) :
    (lineAt K y, w) ∈ succs (create isa fd par K) (lineAt K x) ↔
      depW isa fd par (K[x]'(Nat.lt_trans hxy hy)) ((K.drop (x + 1)).take (y - x - 1)) K[y] = some w := by
  rw [mem_succs, lineAt_lt K x (Nat.lt_trans hxy hy), lineAt_lt K y hy]
  have e := decomp2 K x y hxy hy
  have h := edge_local isa fd par (K.take x) (K[x]'(Nat.lt_trans hxy hy)) ((K.drop (x + 1)).take (y - x - 1)) K[y]
    (K.drop (y + 1)) (by rw [← e]; exact hwf) w
  rw [← e] at h
  exact h

theorem edge_has_pos (K : List Ins) (hwf : WFKernel K) (l m : Nat) (w : Rat)
    (h : (m, w) ∈ succs (create isa fd par K) l) :
    ∃ x y, x < y ∧ y < K.length ∧ lineAt K x = l ∧ lineAt K y = m := by
  have hlm : l < m := succs_forward _ (create_forward isa fd par K hwf) l m w h
  rw [mem_succs] at h
  obtain ⟨_, _, _, ⟨p, hp, hpl⟩, ⟨c, hc, hcl⟩⟩ := emissions_shape isa fd par K hwf _ (dedupLast_subset _ _ h)
  obtain ⟨x, hx, rfl⟩ := List.getElem_of_mem hp
  obtain ⟨y, hy, rfl⟩ := List.getElem_of_mem hc
  have hlx : lineAt K x = l := (lineAt_lt K x hx).trans hpl
  have hly : lineAt K y = m := (lineAt_lt K y hy).trans hcl
  refine ⟨x, y, ?_, hy, hlx, hly⟩
  rw [← hlx, ← hly] at hlm
  rcases Nat.lt_trichotomy x y with hlt | heq | hgt
  · exact hlt
  · exact absurd (heq ▸ hlm) (Nat.lt_irrefl _)
  · exact absurd hlm (Nat.lt_asymm (wf_lineAt_lt hwf hgt hx))

/-! ### a kernel that shows the first `|K|` occurrences of the stream `k^ω` -/

theorem sAt_lt (k : List Ins) (t : Nat) (ht : t < k.length) : eraseLine k[t] = sAt k t := by
  simp [sAt, Nat.mod_eq_of_lt ht, ht]

theorem window_seg {k K : List Ins} (hwin : ∀ t (ht : t < K.length), eraseLine K[t] = sAt k t) (x y : Nat)
    (hy : y ≤ K.length) : ((K.drop (x + 1)).take (y - x - 1)).map eraseLine = segAt k x y := by
  unfold segAt
  apply List.ext_getElem?
  intro d
  rw [List.map_take, List.map_drop, List.getElem?_take, List.getElem?_map]
  by_cases hd : d < y - x - 1
  · have ht : x + 1 + d < K.length :=
      Nat.lt_of_lt_of_le (Nat.add_lt_of_lt_sub' (Nat.sub_sub y x 1 ▸ hd)) hy
    rw [if_pos hd, List.getElem?_drop, List.getElem?_map, List.getElem?_eq_getElem ht, List.getElem?_range hd,
      Option.map_some, hwin _ ht]
    rfl
  · rw [if_neg hd, List.getElem?_eq_none (by rw [List.length_range]; exact Nat.le_of_not_lt hd)]
    rfl

/-- **in such a kernel the successor relation is the stream relation** -/
theorem succs_window {k K : List Ins} (hwf : WFKernel K)
    (hwin : ∀ t (ht : t < K.length), eraseLine K[t] = sAt k t) (x y : Nat) (hxy : x < y) (hy : y < K.length)
    (w : Rat) :
    (lineAt K y, w) ∈ succs (create isa fd par K) (lineAt K x) ↔ streamDep isa fd par k x y = some w := by
  rw [succs_iff_depW isa fd par K hwf x y hxy hy, ← depW_erase, hwin, hwin, window_seg hwin x y (Nat.le_of_lt hy)]
  rfl

/-- every edge of its graph is a stream dependency between two of its positions -/
theorem succs_window_pos {k K : List Ins} (hwf : WFKernel K)
    (hwin : ∀ t (ht : t < K.length), eraseLine K[t] = sAt k t) (l m : Nat) (w : Rat)
    (h : (m, w) ∈ succs (create isa fd par K) l) :
    ∃ x y, x < y ∧ y < K.length ∧ lineAt K x = l ∧ lineAt K y = m ∧ streamDep isa fd par k x y = some w := by
  obtain ⟨x, y, hxy, hy, rfl, rfl⟩ := edge_has_pos isa fd par K hwf l m w h
  exact ⟨x, y, hxy, hy, rfl, rfl, (succs_window isa fd par hwf hwin x y hxy hy w).mp h⟩

/-! ### walks in the graph ↔ chains of stream positions -/

/-- positions to line numbers of `K` -/
def toLine (K : List Ins) (a : List (Nat × Rat)) : List (Nat × Rat) := a.map (fun x => (lineAt K x.1, x.2))

theorem toLine_lines (K : List Ins) (a : List (Nat × Rat)) :
    (toLine K a).map (·.1) = a.map (fun y => lineAt K y.1) := List.map_map

theorem toLine_lats (K : List Ins) (a : List (Nat × Rat)) : (toLine K a).map (·.2) = a.map (·.2) := List.map_map

theorem nextV_toLine (K : List Ins) (T : Nat) (a : List (Nat × Rat)) :
    nextV (lineAt K T) (toLine K a) = lineAt K (nextV T a) := by
  cases a <;> rfl

theorem nextV_le {D : Nat → Nat → Option Rat} {T : Nat} {a : List (Nat × Rat)} (h : Chain D T a) : nextV T a ≤ T := by
  cases a with
  | nil => exact Nat.le_refl _
  | cons x rest => exact Nat.le_of_lt (chain_lt h x List.mem_cons_self)

theorem walk_iff_chain {k K : List Ins} (hwf : WFKernel K)
    (hwin : ∀ t (ht : t < K.length), eraseLine K[t] = sAt k t) (T : Nat) (hT : T < K.length) (p : List (Nat × Rat)) :
    IsWalk (create isa fd par K) (lineAt K T) p ↔ ∃ a, p = toLine K a ∧ Chain (streamDep isa fd par k) T a := by
  constructor
  · intro hw
    induction p with
    | nil => exact ⟨[], rfl, trivial⟩
    | cons x rest ih =>
      obtain ⟨a, rfl, hc⟩ := ih hw.2
      have hedge := hw.1
      rw [nextV_toLine] at hedge
      have hlt : nextV T a < K.length := Nat.lt_of_le_of_lt (nextV_le hc) hT
      obtain ⟨x', y', hxy, hy', hlx, hly, hd⟩ := succs_window_pos isa fd par hwf hwin _ _ _ hedge
      obtain rfl : y' = nextV T a := wf_lineAt_inj hwf hy' hlt hly
      refine ⟨(x', x.2) :: a, ?_, hxy, hd, hc⟩
      show x :: toLine K a = (lineAt K x', x.2) :: toLine K a
      rw [hlx]
  · rintro ⟨a, rfl, hc⟩
    induction a with
    | nil => trivial
    | cons x rest ih =>
      have hlt : nextV T rest < K.length := Nat.lt_of_le_of_lt (nextV_le hc.2.2) hT
      refine ⟨?_, ih hc.2.2⟩
      show (nextV (lineAt K T) (toLine K rest), x.2) ∈ succs _ (lineAt K x.1)
      rw [nextV_toLine]
      exact (succs_window isa fd par hwf hwin x.1 _ hc.1 hlt x.2).mpr hc.2.1

/-- over forward edges every walk is a simple path: started with `visited = [cur]` the search returns
    the walks `cur ⇝ tgt` of at most `fuel` edges -/
theorem mem_pathsFrom_forward (es : List Edge) (hf : ForwardEdges es) (tgt fuel cur : Nat) (p : List (Nat × Rat)) :
    p ∈ pathsFrom es tgt fuel cur [cur] ↔ (verts p).head? = some cur ∧ IsWalk es tgt p ∧ p.length ≤ fuel := by
  rw [mem_pathsFrom]
  constructor
  · rintro ⟨h1, h2, _, _, h5⟩
    exact ⟨h1, h2, h5⟩
  · rintro ⟨h1, h2, h5⟩
    have hinc := walk_increasing es hf tgt p h2
    obtain ⟨t, hv⟩ := verts_of_head h1
    rw [hv] at hinc ⊢
    obtain ⟨hc, ht⟩ := List.pairwise_cons.mp hinc
    obtain ⟨ht1, _, ht2⟩ := List.pairwise_append.mp ht
    refine ⟨rfl, h2, ht1.imp Nat.ne_of_lt, fun v hv => ?_, h5⟩
    have h1 := hc v (List.mem_append_left _ hv)
    have h2 := ht2 v hv tgt List.mem_cons_self
    exact ⟨Nat.ne_of_lt h2, fun h => by rw [List.mem_singleton.mp h] at h1; exact Nat.lt_irrefl _ h1⟩

/-! ### the doubled kernel -/

theorem double_length (off : Nat) (k : List Ins) : (double off k).length = 2 * k.length := by
  rw [double, List.length_append, List.length_map, Nat.two_mul]

theorem wf_double (off : Nat) (k : List Ins) (hwf : WFKernel k) (hoff : ∀ i ∈ k, i.line < off) :
    WFKernel (double off k) := by
  unfold WFKernel double at *
  rw [List.map_append, List.pairwise_append]
  refine ⟨hwf, ?_, ?_⟩
  · rw [List.map_map, List.pairwise_map]
    rw [List.pairwise_map] at hwf
    exact hwf.imp (fun h => Nat.add_lt_add_right h off)
  · intro a ha b hb
    obtain ⟨x, hx, rfl⟩ := List.mem_map.mp ha
    obtain ⟨y', hy', rfl⟩ := List.mem_map.mp hb
    obtain ⟨y, _, rfl⟩ := List.mem_map.mp hy'
    exact Nat.lt_of_lt_of_le (hoff x hx) (Nat.le_add_left _ _)

theorem lineAt_double_first (off : Nat) (k : List Ins) (s : Nat) (hs : s < k.length) :
    lineAt (double off k) s = lineAt k s := by
  unfold lineAt double
  rw [List.getElem?_append_left hs]

theorem lineAt_double_second (off : Nat) (k : List Ins) (s : Nat) (hs : s < k.length) :
    lineAt (double off k) (s + k.length) = lineAt k s + off := by
  unfold lineAt double
  rw [List.getElem?_append_right (Nat.le_add_left _ _), Nat.add_sub_cancel, List.getElem?_map,
    List.getElem?_eq_getElem hs]
  rfl

theorem lineAt_lt_off {off : Nat} {k : List Ins} (hoff : ∀ i ∈ k, i.line < off) (t : Nat) (ht : t < k.length) :
    lineAt k t < off := by
  rw [lineAt_lt k t ht]; exact hoff _ (List.getElem_mem ht)

/-- the lines of the doubled kernel: the first copy keeps its lines, all below `off`; the second copy has
    them raised by `off` -/
theorem double_pos {off : Nat} {k : List Ins} (hoff : ∀ i ∈ k, i.line < off) (t : Nat) (ht : t < 2 * k.length) :
    (t < k.length ∧ lineAt (double off k) t = lineAt k t ∧ lineAt k t < off) ∨
    (k.length ≤ t ∧ lineAt (double off k) t = lineAt k (t - k.length) + off) := by
  by_cases h : t < k.length
  · exact Or.inl ⟨h, lineAt_double_first off k t h, lineAt_lt_off hoff t h⟩
  · have hn := Nat.le_of_not_lt h
    have := lineAt_double_second off k (t - k.length) (sub_lt_of_lt_two_mul hn ht)
    rw [Nat.sub_add_cancel hn] at this
    exact Or.inr ⟨hn, this⟩

theorem double_first_of_lt {off : Nat} {k : List Ins} (hoff : ∀ i ∈ k, i.line < off) (t : Nat) (ht : t < 2 * k.length)
    (h : lineAt (double off k) t < off) : t < k.length ∧ lineAt (double off k) t = lineAt k t :=
  (double_pos hoff t ht).elim (fun h' => ⟨h'.1, h'.2.1⟩)
    fun h' => absurd (h'.2 ▸ h) (Nat.not_lt.mpr (Nat.le_add_left _ _))

theorem double_second_of_le {off : Nat} {k : List Ins} (hoff : ∀ i ∈ k, i.line < off) (t : Nat) (ht : t < 2 * k.length)
    (h : off ≤ lineAt (double off k) t) :
    k.length ≤ t ∧ lineAt (double off k) t = lineAt k (t - k.length) + off :=
  (double_pos hoff t ht).elim (fun h' => absurd h'.2.2 (Nat.not_lt.mpr (h'.2.1 ▸ h))) id

/-- the doubled kernel shows the first two iterations of the stream -/
theorem window_double (off : Nat) (k : List Ins) (t : Nat) (ht : t < (double off k).length) :
    eraseLine (double off k)[t] = sAt k t := by
  have ht2 : t < 2 * k.length := by rw [double_length] at ht; exact ht
  by_cases h : t < k.length
  · rw [← sAt_lt k t h]
    exact congrArg eraseLine (List.getElem_append_left h)
  · have hn := Nat.le_of_not_lt h
    have e : sAt k t = sAt k (t - k.length) := by
      rw [← sAt_add_length k (t - k.length), Nat.sub_add_cancel hn]
    rw [e, ← sAt_lt k _ (sub_lt_of_lt_two_mul hn ht2)]
    rw [show (double off k)[t] = _ from (List.getElem_append_right hn).trans (List.getElem_map _)]
    rfl

theorem succs_double_iff (off : Nat) (k : List Ins)
    (hwf : WFKernel (double off k)) (x y : Nat) (hxy : x < y) (hy : y < 2 * k.length) (w : Rat) :
    (lineAt (double off k) y, w) ∈ succs (create isa fd par (double off k)) (lineAt (double off k) x) ↔
      streamDep isa fd par k x y = some w :=
  succs_window isa fd par hwf (window_double off k) x y hxy (by rw [double_length]; exact hy) w

theorem backLine_double (off : Nat) (k : List Ins) (hoff : ∀ i ∈ k, i.line < off) (t : Nat) (ht : t < 2 * k.length) :
    backLine off (lineAt (double off k) t) = lineAt k (backLine k.length t) := by
  simp only [backLine]
  rcases double_pos hoff t ht with ⟨h1, h2, h3⟩ | ⟨h1, h2⟩
  · rw [h2, if_neg (Nat.not_le.mpr h3), if_neg (Nat.not_le.mpr h1)]
  · rw [h2, if_pos (Nat.le_add_left _ _), if_pos h1, Nat.add_sub_cancel]

/-- **the normal form of a path of the doubled graph**, read as positions, is the normal form of the
    position list: mapping back is `mod |k|` on positions, and sorting by line is sorting by position -/
theorem normPath_toLine_double (off : Nat) (k : List Ins) (hwf : WFKernel k) (hoff : ∀ i ∈ k, i.line < off)
    (a : List (Nat × Rat)) (ha : ∀ x ∈ a, x.1 < 2 * k.length) :
    normPath off (toLine (double off k) a) = toLine k (normPath k.length a) := by
  have e : (toLine (double off k) a).map (back off) = (a.map (back k.length)).map (fun x => (lineAt k x.1, x.2)) := by
    rw [toLine, List.map_map, List.map_map]
    exact List.map_congr_left fun x hx => Prod.ext (backLine_double off k hoff x.1 (ha x hx)) rfl
  rw [normPath, e]
  refine sortPairs_map _ _ fun x hx y hy h => ?_
  obtain ⟨y', hy', rfl⟩ := List.mem_map.mp hy
  rcases h with h | ⟨h1, h2⟩
  · exact Or.inl (wf_lineAt_lt hwf h (backLine_lt _ _ (ha y' hy')))
  · exact Or.inr ⟨congrArg (lineAt k) h1, h2⟩

/-- **the paths the LCD search hands to the post-processing** are the winding-1 cycles of the stream
    that start inside the body, read as line numbers of the doubled kernel -/
theorem mem_lcd_paths (off : Nat) (k : List Ins) (hwf : WFKernel k)
    (hoff : ∀ i ∈ k, i.line < off) (p : List (Nat × Rat)) :
    p ∈ k.flatMap (fun i =>
        pathsFrom (create isa fd par (double off k)) (i.line + off) (2 * k.length + 1) i.line [i.line]) ↔
      ∃ a, IsStreamCycle (streamDep isa fd par k) k.length a ∧ StartsBelow k.length a ∧
        p = toLine (double off k) a := by
  have hwfK := wf_double off k hwf hoff
  have hlt2 : ∀ s, s < k.length → s + k.length < (double off k).length := fun s hs => by
    rw [double_length, Nat.two_mul]; exact Nat.add_lt_add_right hs _
  have hline : ∀ s (hs : s < k.length), k[s].line = lineAt (double off k) s ∧
      k[s].line + off = lineAt (double off k) (s + k.length) := fun s hs => by
    rw [lineAt_double_first off k s hs, lineAt_double_second off k s hs, lineAt_lt k s hs]
    exact ⟨rfl, rfl⟩
  simp only [List.mem_flatMap, mem_pathsFrom_forward _ (create_forward isa fd par _ hwfK)]
  constructor
  · -- a returned path is a chain into `s + |k|`; its head line fixes its first position `s` by injectivity
    rintro ⟨i, hi, hhead, hwalk, _⟩
    obtain ⟨s, hs, rfl⟩ := List.getElem_of_mem hi
    rw [(hline s hs).2] at hwalk
    rw [(hline s hs).1] at hhead
    obtain ⟨a, rfl, hc⟩ := (walk_iff_chain isa fd par hwfK (window_double off k) _ (hlt2 s hs) p).mp hwalk
    cases a with
    | nil => cases hhead
    | cons x rest =>
      have hx := chain_lt hc x List.mem_cons_self
      obtain rfl : x.1 = s := wf_lineAt_inj hwfK (Nat.lt_trans hx (hlt2 s hs))
        (Nat.lt_of_le_of_lt (Nat.le_add_right _ _) (hlt2 s hs)) (Option.some.inj hhead)
      exact ⟨x :: rest, hc, hs, rfl⟩
  · rintro ⟨a, hc, hst, rfl⟩
    obtain ⟨x, rest, rfl, hc⟩ := hc.cons
    have hx : x.1 < k.length := hst
    refine ⟨k[x.1], List.getElem_mem hx, ?_, ?_, ?_⟩
    · rw [(hline x.1 hx).1]; rfl
    · rw [(hline x.1 hx).2]
      exact (walk_iff_chain isa fd par hwfK (window_double off k) _ (hlt2 x.1 hx) _).mpr ⟨_, rfl, hc⟩
    · -- the fuel suffices: an ascending chain into `x.1 + |k| < 2·|k|` has at most that many members
      rw [toLine, List.length_map, Nat.two_mul]
      exact Nat.le_succ_of_le (Nat.le_trans (chain_length_le hc) (Nat.add_le_add_right (Nat.le_of_lt hx) _))

/-- `LCD.lcd` spelled out: the search from every line in the doubled graph, then the post-processing -/
theorem lcd_eq (floor : Nat) (k : List Ins) :
    lcd isa fd par floor k = post (offsetOf floor k) (k.flatMap fun i =>
      pathsFrom (create isa fd par (double (offsetOf floor k) k)) (i.line + offsetOf floor k) (2 * k.length + 1)
        i.line [i.line]) := rfl

/-- **the entries reported for a well-formed body** (`off` above every line: `LCD.lcd` with
    `off = offsetOf floor k`) are the normal forms of these cycles: positions modulo `|k|`, sorted, with
    the line numbers of `k` at these positions -/
theorem mem_lcd_entries (off : Nat) (k : List Ins) (hwf : WFKernel k)
    (hoff : ∀ i ∈ k, i.line < off) (e : Entry) :
    e ∈ post off (k.flatMap fun i =>
        pathsFrom (create isa fd par (double off k)) (i.line + off) (2 * k.length + 1) i.line [i.line]) ↔
      ∃ a, IsStreamCycle (streamDep isa fd par k) k.length a ∧ StartsBelow k.length a ∧
        e = mkEntry (toLine k (normPath k.length a)) := by
  simp only [mem_post, mem_lcd_paths isa fd par off k hwf hoff]
  constructor
  · rintro ⟨_, ⟨a, hc, hst, rfl⟩, rfl⟩
    exact ⟨a, hc, hst, by rw [normPath_toLine_double off k hwf hoff a (cycle_lt_two hc hst)]⟩
  · rintro ⟨a, hc, hst, rfl⟩
    exact ⟨_, ⟨a, hc, hst, rfl⟩, by rw [normPath_toLine_double off k hwf hoff a (cycle_lt_two hc hst)]⟩

/-- the same for `LCD.lcd` itself, whose offset is above every line (`hoff`: `C05.offset_ok`) -/
theorem mem_lcd (floor : Nat) (k : List Ins) (hwf : WFKernel k) (hoff : ∀ i ∈ k, i.line < offsetOf floor k) (e : Entry) :
    e ∈ lcd isa fd par floor k ↔
      ∃ a, IsStreamCycle (streamDep isa fd par k) k.length a ∧ StartsBelow k.length a ∧
        e = mkEntry (toLine k (normPath k.length a)) := by
  rw [lcd_eq]
  exact mem_lcd_entries isa fd par _ k hwf hoff e

theorem entry_of_cycle (k : List Ins) (a : List (Nat × Rat)) (ha : ∀ x ∈ a, x.1 < 2 * k.length) :
    ((mkEntry (toLine k (normPath k.length a))).lines.zip (mkEntry (toLine k (normPath k.length a))).lats).Perm
      (a.map (fun x => (lineAt k (x.1 % k.length), x.2))) ∧
    (mkEntry (toLine k (normPath k.length a))).latency = (a.map (·.2)).sum := by
  constructor
  · refine (List.Perm.of_eq (zip_fst_snd _)).trans (((normPath_perm _ a).map _).trans (List.Perm.of_eq ?_))
    rw [List.map_map]
    exact List.map_congr_left fun x hx => by
      rw [← backLine_eq_mod _ _ (ha x hx)]; rfl
  · show ((toLine k (normPath k.length a)).map (·.2)).sum = _
    rw [toLine_lats, normPath_sum]

end OsacaVerif.LCD
