import OsacaVerif.Lemmas.A64Mem
/-
  Register lists `{v0.4s, v1.4s}[1]` and ranges `{v0.4s - v3.4s}`: one element, the delimited sequence, the
  `register_list` alternative among the operand alternatives, `resolve_range_list`, and the connection to the
  rendered pieces.
-/
namespace OsacaVerif.ParseA64
open OsacaVerif.Text OsacaVerif.Spec.A64 OsacaVerif.Gen

/-! ## one element, and the delimited sequence -/
/-- an element of the covered domain: scalar register or vector register with optional lanes/shape -/
inductive ElemOk : ElemA → Prop where
  | scalar (p n : Nat) (hp : isScalarPrefixC p = true) : ElemOk (.scalar p n)
  | vec (p n : Nat) (lanes : Option Txt) (shape : Option Nat) (hp : isVectorPrefixC p = true)
      (hl : LanesOk lanes) (hs : ShapeOk shape) : ElemOk (.vec p n lanes shape)

def elemTok : ElemA → Elem
  | .scalar p n => { pre := some [p], name := some (showNat n) }
  | .vec p n lanes shape => vecElem p n lanes shape none

/-- what may stand behind a list element: a blank, `,`, `-` or `}` -/
def ElemStop (rest : Txt) : Prop :=
  ∀ c r, rest = c :: r → isBlankC c = true ∨ c = 44 ∨ c = 45 ∨ c = 125

theorem ElemStop.stops (p : Nat → Bool) (rest : Txt) (h : ElemStop rest)
    (hp : p 32 = false ∧ p 9 = false ∧ p 44 = false ∧ p 45 = false ∧ p 125 = false) : StopsAt p rest := by
  intro c r hc
  rcases h c r hc with hb | rfl | rfl | rfl
  · simp [isBlankC] at hb; rcases hb with rfl | rfl <;> simp [hp]
  · exact hp.2.2.1
  · exact hp.2.2.2.1
  · exact hp.2.2.2.2

theorem ElemStop.lit_none {rest : Txt} (h : ElemStop rest) (a : Nat)
    (ha : (32 == a) = false ∧ (9 == a) = false ∧ (44 == a) = false ∧ (45 == a) = false ∧ (125 == a) = false) :
    lit false [a] rest = none := by
  cases rest with
  | nil => rfl
  | cons c r =>
    have : (c == a) = false := h.stops (· == a) _ ha c r rfl
    simp [lit, sk_false, dropPrefix, this]

theorem laneShapeNS_some (lanes : Option Txt) (s : Nat) (rest : Txt) (hl : LanesOk lanes) (hs : isAlphaC s = true) :
    laneShape false (shapeText lanes (some s) ++ rest) = some ((lanes, [s]), rest) := by
  have hsl : isLaneC s = false := by
    cases h : isLaneC s with
    | false => rfl
    | true => have := lane_digit s h; rw [alpha_not_digit s hs] at this; cases this
  have hlit : lit false [46] (shapeText lanes (some s) ++ rest) = some (lanesText lanes ++ (s :: rest)) := by
    simp [shapeText, lit, sk_false, dropPrefix]
  cases lanes with
  | none =>
    have hw : word false isLaneC (s :: rest) = none := by
      simp only [word, sk_false]
      exact wordNS_none isLaneC _ (stopsAt_head _ s rest hsl)
    simp [laneShape, hlit, lanesText, optP, hw, sk_false, char1, charNS, hs]
  | some l =>
    obtain ⟨hne, hall⟩ := hl l rfl
    match l, hne with
    | c :: l', _ =>
      have hw : word false isLaneC (c :: l' ++ (s :: rest)) = some (c :: l', s :: rest) := by
        simp only [word, sk_false, List.cons_append]
        exact wordNS_append isLaneC c l' _ hall (stopsAt_head _ s rest hsl)
      simp only [laneShape, hlit, lanesText, optP, hw]
      simp [char1, sk_false, charNS, hs]

theorem elemText_scalar (p n : Nat) : elemText (.scalar p n) = p :: showNat n := rfl

/-- one element inside the braces (no white space inside an element) -/
theorem listElem_text (e : ElemA) (he : ElemOk e) (g rest : Txt) (hg : Blank g) (hr : ElemStop rest) :
    listElem (g ++ (elemText e ++ rest)) = some (elemTok e, rest) := by
  have hdstop : StopsAt isDigitC rest := hr.stops _ _ (by decide)
  cases he with
  | scalar p n hp =>
    have hal := scalarPrefix_alpha p hp
    have hws := alpha_not_ws p hal
    obtain ⟨d, ds, hd, hdd⟩ := showNat_cons n
    have hsc : scalarP false (p :: (showNat n ++ rest)) = some ({ pre := some [p], name := some (showNat n) }, rest) := by
      simp only [scalarP, char1, sk_false, charNS, hp, if_true, word]
      rw [hd, List.cons_append, wordNS_append isDigitC d ds rest (by rw [← hd]; exact showNat_digits n) hdstop]
    have hv : vectorP false (p :: (showNat n ++ rest)) = none := by
      simp [vectorP, char1, sk_false, charNS, scalarPrefix_not_vector p hp]
    simp only [listElem, elemText_scalar, List.cons_append, skipWs_blank_append g _ hg, skipWs_cons p _ hws, hsc, hv,
      better_none_left, elemTok]
  | vec p n lanes shape hp hl hs =>
    have hal := vectorPrefix_alpha p hp
    have hws := alpha_not_ws p hal
    obtain ⟨d, ds, hd, hdd⟩ := showNat_cons n
    have hnotsc : isScalarPrefixC p = false := by
      cases h : isScalarPrefixC p with
      | false => rfl
      | true => have := scalarPrefix_not_vector p h; rw [hp] at this; cases this
    have hsc : scalarP false (p :: (showNat n ++ (shapeText lanes shape ++ rest))) = none := by
      simp [scalarP, char1, sk_false, charNS, hnotsc]
    have h91 := hr.lit_none 91 (by decide)
    have hix : optP false (indexP false) rest = (none, rest) := by
      simp [optP, indexP, h91, sk_false]
    have hstop : StopsAt isDigitC (shapeText lanes shape ++ rest) := by
      cases shape with
      | some s => exact stopsAt_head _ 46 _ (by decide)
      | none => exact hdstop
    have hname : word false isDigitC (showNat n ++ (shapeText lanes shape ++ rest)) =
        some (showNat n, shapeText lanes shape ++ rest) := by
      simp only [word, sk_false]
      rw [hd, List.cons_append]
      exact wordNS_append isDigitC d ds _ (by rw [← hd]; exact showNat_digits n) hstop
    have hv : vectorP false (p :: (showNat n ++ (shapeText lanes shape ++ rest))) =
        some (vecElem p n lanes shape none, rest) := by
      cases shape with
      | some s =>
        have hls := laneShapeNS_some lanes s rest hl (hs s rfl)
        simp only [vectorP, char1, sk_false, charNS, hp, if_true, hname, optP_some false (laneShape false) _ _ _ hls,
          hix, vecElem]
      | none =>
        have h46 := hr.lit_none 46 (by decide)
        have hlsn : laneShape false rest = none := by simp [laneShape, h46]
        simp only [shapeText, List.nil_append] at hname ⊢
        simp only [vectorP, char1, sk_false, charNS, hp, if_true, hname, optP_none false (laneShape false) _ hlsn,
          hix, vecElem]
    simp only [listElem, elemText_vec, List.cons_append, List.append_assoc, skipWs_blank_append g _ hg,
      skipWs_cons p _ hws, hsc, hv, better_none_right, elemTok]

/-! ### sequences of elements -/
/-- further elements: gap, delimiter, gap, element -/
structure More where
  g1 : Txt
  g2 : Txt
  e : ElemA

def More.Ok (x : More) : Prop := Blank x.g1 ∧ Blank x.g2 ∧ ElemOk x.e

def moreText (d : Nat) : List More → Txt → Txt
  | [], after => after
  | x :: xs, after => x.g1 ++ d :: (x.g2 ++ (elemText x.e ++ moreText d xs after))

/-- the closing brace behind the elements, after a gap -/
def BraceAfter (after : Txt) : Prop := ∃ gE E, Blank gE ∧ after = gE ++ 125 :: E

theorem BraceAfter.skip {after : Txt} (h : BraceAfter after) : ∃ E, skipWs after = 125 :: E := by
  obtain ⟨gE, E, hg, rfl⟩ := h
  exact ⟨E, by rw [skipWs_blank_append gE _ hg, skipWs_cons 125 _ (by decide)]⟩

theorem elemStop_more (d : Nat) (hd : d = 44 ∨ d = 45) (xs : List More) (after : Txt) (hx : ∀ x ∈ xs, x.Ok)
    (ha : BraceAfter after) : ElemStop (moreText d xs after) := by
  intro c r hc
  cases xs with
  | nil =>
    obtain ⟨gE, E, hg, rfl⟩ := ha
    exact (blank_append_head hg 125 E c r hc).imp_right fun e => Or.inr (Or.inr e)
  | cons x xs =>
    have ⟨h1, _, _⟩ := hx x (by simp)
    refine (blank_append_head h1 d _ c r hc).imp_right fun e => ?_
    rcases hd with rfl | rfl
    · exact Or.inl e
    · exact Or.inr (Or.inl e)

theorem lit_more_other (d d' : Nat) (hd : d = 44 ∨ d = 45) (hne : d' ≠ d) (h125 : d' ≠ 125) (xs : List More)
    (after : Txt) (hx : ∀ x ∈ xs, x.Ok) (ha : BraceAfter after) : lit true [d'] (moreText d xs after) = none := by
  cases xs with
  | nil =>
    obtain ⟨E, hE⟩ := ha.skip
    have : (125 : Nat) ≠ d' := fun h => h125 h.symm
    simp [moreText, lit, sk_true, hE, dropPrefix, this]
  | cons x xs =>
    have ⟨h1, _, _⟩ := hx x (by simp)
    have hws : isWs d = false := by rcases hd with rfl | rfl <;> decide
    have : d ≠ d' := fun h => hne h.symm
    simp [moreText, lit, sk_true, skipWs_blank_append _ _ h1, skipWs_cons d _ hws, dropPrefix, this]

/-- `ZeroOrMore(delim + element)` over the rendered further elements -/
theorem delimRest_more (d : Nat) (hd : d = 44 ∨ d = 45) (xs : List More) (after : Txt) (fuel : Nat)
    (hfuel : xs.length ≤ fuel) (hx : ∀ x ∈ xs, x.Ok) (ha : BraceAfter after) :
    delimRest d fuel (moreText d xs after) = (xs.map (fun x => elemTok x.e), after) := by
  have hws : isWs d = false := by rcases hd with rfl | rfl <;> decide
  induction xs generalizing fuel with
  | nil =>
    have hl : lit true [d] after = none := by
      obtain ⟨E, hE⟩ := ha.skip
      have : (125 : Nat) ≠ d := by rcases hd with rfl | rfl <;> decide
      simp [lit, sk_true, hE, dropPrefix, this]
    cases fuel with
    | zero => rfl
    | succ f => simp [moreText, delimRest, hl]
  | cons x xs ih =>
    cases fuel with
    | zero => simp at hfuel
    | succ f =>
      have ⟨h1, h2, he⟩ := hx x (by simp)
      have hrest : ∀ y ∈ xs, y.Ok := fun y hy => hx y (by simp [hy])
      have hl : lit true [d] (moreText d (x :: xs) after) = some (x.g2 ++ (elemText x.e ++ moreText d xs after)) := by
        simp [moreText, lit, sk_true, skipWs_blank_append _ _ h1, skipWs_cons d _ hws, dropPrefix]
      have hel := listElem_text x.e he x.g2 (moreText d xs after) h2 (elemStop_more d hd xs after hrest ha)
      have := ih f (by simpa using hfuel) hrest
      simp only [delimRest, hl, hel, this, List.map_cons]

theorem moreText_length (d : Nat) (xs : List More) (after : Txt) : xs.length ≤ (moreText d xs after).length := by
  induction xs with
  | nil => simp
  | cons x xs ih => simp [moreText]; omega

/-- `delimitedList(element, d)` over a rendered element sequence: all elements; the position behind
    them (after white space if there was only one element) -/
theorem delimList_text (d : Nat) (hd : d = 44 ∨ d = 45) (g0 : Txt) (e0 : ElemA) (xs : List More) (after : Txt)
    (hg0 : Blank g0) (he0 : ElemOk e0) (hx : ∀ x ∈ xs, x.Ok) (ha : BraceAfter after) :
    delimList d (g0 ++ (elemText e0 ++ moreText d xs after)) =
      some (elemTok e0 :: xs.map (fun x => elemTok x.e), if xs.isEmpty then skipWs after else after) := by
  have hel := listElem_text e0 he0 g0 (moreText d xs after) hg0 (elemStop_more d hd xs after hx ha)
  have hdr := delimRest_more d hd xs after (moreText d xs after).length (moreText_length d xs after) hx ha
  simp only [delimList, hel, hdr]
  cases xs with
  | nil => simp [moreText]
  | cons x xs => simp

/-- the other delimiter finds only the first element -/
theorem delimList_other (d d' : Nat) (hd : d = 44 ∨ d = 45) (hd' : d' = 44 ∨ d' = 45) (hne : d' ≠ d) (g0 : Txt)
    (e0 : ElemA) (xs : List More) (after : Txt) (hg0 : Blank g0) (he0 : ElemOk e0) (hx : ∀ x ∈ xs, x.Ok)
    (ha : BraceAfter after) :
    delimList d' (g0 ++ (elemText e0 ++ moreText d xs after)) =
      some ([elemTok e0], skipWs (moreText d xs after)) := by
  have hel := listElem_text e0 he0 g0 (moreText d xs after) hg0 (elemStop_more d hd xs after hx ha)
  have hl := lit_more_other d d' hd hne (by rcases hd' with rfl | rfl <;> decide) xs after hx ha
  have hdr : delimRest d' (moreText d xs after).length (moreText d xs after) = ([], moreText d xs after) := by
    cases (moreText d xs after).length with
    | zero => rfl
    | succ f => simp [delimRest, hl]
  simp only [delimList, hel, hdr]

/-! ## the `register_list` alternative -/
/-- text of the optional list index `[k]` with its three gaps -/
def idxG (idx : Option Nat) (g1 g2 g3 : Txt) : Txt :=
  match idx with
  | some k => g1 ++ 91 :: (g2 ++ (showNat k ++ (g3 ++ [93])))
  | none => []

theorem indexP_gaps (k : Nat) (g1 g2 g3 rest : Txt) (h1 : Blank g1) (h2 : Blank g2) (h3 : Blank g3) :
    indexP true (idxG (some k) g1 g2 g3 ++ rest) = some (showNat k, rest) := by
  obtain ⟨d, ds, hd, hdd⟩ := showNat_cons k
  have hstop : StopsAt isDigitC (g3 ++ 93 :: rest) :=
    stopsAt_gap _ g3 93 rest h3 (by decide)
  have hw : word true isDigitC (g2 ++ (showNat k ++ (g3 ++ 93 :: rest))) = some (showNat k, g3 ++ 93 :: rest) := by
    simp only [word, sk_true, skipWs_blank_append g2 _ h2]
    rw [hd, List.cons_append, skipWs_cons d _ (digit_not_ws d hdd)]
    exact wordNS_append isDigitC d ds _ (by rw [← hd]; exact showNat_digits k) hstop
  have hl1 := lit_gap g1 91 (g2 ++ (showNat k ++ (g3 ++ 93 :: rest))) h1 (by decide)
  have hl2 := lit_gap g3 93 rest h3 (by decide)
  have htext : idxG (some k) g1 g2 g3 ++ rest = g1 ++ 91 :: (g2 ++ (showNat k ++ (g3 ++ 93 :: rest))) := by
    simp [idxG, List.append_assoc]
  rw [htext]
  simp only [indexP, hl1, hw, hl2]

/-- the optional index behind the closing brace -/
theorem optIndex_gaps (idx : Option Nat) (g1 g2 g3 rest : Txt) (h1 : Blank g1) (h2 : Blank g2) (h3 : Blank g3)
    (hf : Follow rest) :
    ∃ r', optP true (indexP true) (idxG idx g1 g2 g3 ++ rest) = (optMap showNat idx, r') ∧
      skipWs r' = skipWs rest := by
  cases idx with
  | some k =>
    exact ⟨rest, by rw [optP_some true (indexP true) _ _ _ (indexP_gaps k g1 g2 g3 rest h1 h2 h3)]; rfl, rfl⟩
  | none =>
    have : indexP true rest = none := indexP_none _ (lit_none_of_follow rest hf 91 [] (by omega))
    exact ⟨skipWs rest, by simp [idxG, optP_none true (indexP true) _ this, sk_true, optMap], skipWs_idem rest⟩

theorem elemTok_index (e : ElemA) : (elemTok e).index = none := by
  cases e <;> rfl

theorem filterMap_index_nil (es : List ElemA) : (es.map elemTok).filterMap (·.index) = [] := by
  induction es with
  | nil => rfl
  | cons e es ih => simp [elemTok_index, ih]

theorem after_le_more (d : Nat) (xs : List More) (after : Txt) : after.length ≤ (moreText d xs after).length := by
  induction xs with
  | nil => simp [moreText]
  | cons x xs ih => simp only [moreText, List.length_append, List.length_cons]; omega

/-- the register token of a list / range -/
def listTok (isRange : Bool) (es : List ElemA) (idx : Option Nat) : RegTok :=
  { list := some (isRange, es.map elemTok), index := optMap showNat idx }

/-- the longer of the two readings of the element sequence is the one with the delimiter written (`d`: 44 for
    a list, 45 for a range); a single element is a list -/
theorem delimBoth (d : Nat) (hd : d = 44 ∨ d = 45) (g0 : Txt) (e0 : ElemA) (xs : List More) (after : Txt)
    (hg0 : Blank g0) (he0 : ElemOk e0) (hx : ∀ x ∈ xs, x.Ok) (ha : BraceAfter after) (hrange : d = 45 → xs ≠ []) :
    ∃ r1, (mapR (fun l => (false, l)) (delimList 44 (g0 ++ (elemText e0 ++ moreText d xs after))) <^>
        mapR (fun l => (true, l)) (delimList 45 (g0 ++ (elemText e0 ++ moreText d xs after)))) =
      some ((d == 45, elemTok e0 :: xs.map (fun x => elemTok x.e)), r1) ∧ skipWs r1 = skipWs after := by
  -- with a further element the sequence is longer than what follows it, even without its leading gap
  have hlen : ∀ x xs', xs = x :: xs' → after.length < (skipWs (moreText d xs after)).length := by
    intro x xs' e
    subst e
    have hdws : isWs d = false := by rcases hd with rfl | rfl <;> decide
    rw [moreText, skipWs_blank_cons _ d _ (hx x (by simp)).1 hdws]
    have hsub := after_le_more d xs' after
    simp only [List.length_cons, List.length_append] at hsub ⊢; omega
  rcases hd with rfl | rfl
  · rw [delimList_text 44 (Or.inl rfl) g0 e0 xs _ hg0 he0 hx ha,
      delimList_other 44 45 (Or.inl rfl) (Or.inr rfl) (by decide) g0 e0 xs _ hg0 he0 hx ha]
    cases xs with
    | nil => exact ⟨skipWs after, better_some_ge _ _ _ _ (Nat.le_refl _), skipWs_idem after⟩
    | cons x xs' => exact ⟨after, better_some_ge _ _ _ _ (Nat.le_of_lt (hlen x xs' rfl)), rfl⟩
  · rw [delimList_text 45 (Or.inr rfl) g0 e0 xs _ hg0 he0 hx ha,
      delimList_other 45 44 (Or.inr rfl) (Or.inl rfl) (by decide) g0 e0 xs _ hg0 he0 hx ha]
    cases xs with
    | nil => exact absurd rfl (hrange rfl)
    | cons x xs' => exact ⟨after, better_some_lt _ _ _ _ (hlen x xs' rfl), rfl⟩

/-- `register_list` on rendered braces: `d` is the delimiter written (44 for a list, 45 for a range) -/
theorem registerList_text (d : Nat) (hd : d = 44 ∨ d = 45) (g g0 : Txt) (e0 : ElemA)
    (xs : List More) (gE : Txt) (idx : Option Nat) (gi1 gi2 gi3 rest : Txt)
    (hg : Blank g) (hg0 : Blank g0) (he0 : ElemOk e0) (hx : ∀ x ∈ xs, x.Ok) (hgE : Blank gE)
    (hi1 : Blank gi1) (hi2 : Blank gi2) (hi3 : Blank gi3) (hf : Follow rest)
    (hrange : d = 45 → xs ≠ []) :
    ∃ r', registerList (g ++ 123 :: (g0 ++ (elemText e0 ++ moreText d xs (gE ++ 125 :: (idxG idx gi1 gi2 gi3 ++ rest))))) =
        some (listTok (d == 45) (e0 :: xs.map (·.e)) idx, r') ∧ skipWs r' = skipWs rest := by
  have hlb := lit_gap g 123 (g0 ++ (elemText e0 ++ moreText d xs (gE ++ 125 :: (idxG idx gi1 gi2 gi3 ++ rest)))) hg
    (by decide)
  obtain ⟨r1, hboth, hsk1⟩ := delimBoth d hd g0 e0 xs (gE ++ 125 :: (idxG idx gi1 gi2 gi3 ++ rest)) hg0 he0 hx
    ⟨gE, _, hgE, rfl⟩ hrange
  rw [skipWs_blank_cons gE 125 _ hgE (by decide)] at hsk1
  have hrb := lit_char 125 r1 125 _ hsk1
  rw [if_pos rfl] at hrb
  obtain ⟨rI, hI, hskI⟩ := optIndex_gaps idx gi1 gi2 gi3 rest hi1 hi2 hi3 hf
  have hmapmap : (xs.map (fun x => elemTok x.e)) = (xs.map (·.e)).map elemTok := by simp [List.map_map]
  -- no element carries an index, so none leaks into the group: its index is the one written behind the brace
  have hleak : (elemTok e0 :: (xs.map (·.e)).map elemTok).filterMap (·.index) = [] :=
    filterMap_index_nil (e0 :: xs.map More.e)
  refine ⟨rI, ?_, hskI⟩
  simp only [registerList, hlb, hboth, hrb, hI, hmapmap, hleak, List.getLast?_nil, listTok]
  cases idx <;> rfl

/-! ## expansion of a range -/
theorem mapE_ok {α β : Type} (f : α → Except Err β) (g : α → β) (l : List α) (h : ∀ x ∈ l, f x = .ok (g x)) :
    mapE f l = .ok (l.map g) := by
  induction l with
  | nil => rfl
  | cons x l ih =>
    simp [mapE, h x (by simp), ih (fun y hy => h y (by simp [hy]))]

theorem rangeNames_eq (a k : Nat) : rangeNames a k = (List.range k).map (a + ·) := by
  induction k generalizing a with
  | zero => rfl
  | succ k ih =>
    rw [rangeNames, ih (a + 1), List.range_succ_eq_map]
    simp [List.map_map, Function.comp_def]; intro x _; omega

/-- member `n` of a range: a copy of the first register with the name replaced -/
def rangeMember (ix : Option Txt) (first : Elem) (p : Txt) (n : Nat) : Reg :=
  { pre := lower p, name := showNat n, shape := first.shape.map lower, lanes := first.lanes,
    index := (match ix with | some i => some i | none => first.index), pred := none }

/-! ## lists and ranges as covered operand kinds -/
theorem moreText_append (d : Nat) (xs : List More) (a rest : Txt) :
    moreText d xs (a ++ rest) = moreText d xs a ++ rest := by
  induction xs with
  | nil => rfl
  | cons x xs ih => simp [moreText, ih, List.append_assoc]

/-- text of a list / range behind the opening brace -/
def listBody (d : Nat) (g0 : Txt) (e0 : ElemA) (xs : List More) (gE : Txt) (idx : Option Nat) (gi1 gi2 gi3 : Txt) : Txt :=
  g0 ++ (elemText e0 ++ moreText d xs (gE ++ 125 :: idxG idx gi1 gi2 gi3))

/-- **register list / range** in any operand slot (grammar level) -/
theorem goodOp_list (d : Nat) (hd : d = 44 ∨ d = 45) (g0 : Txt) (e0 : ElemA) (xs : List More) (gE : Txt)
    (idx : Option Nat) (gi1 gi2 gi3 : Txt) (hg0 : Blank g0) (he0 : ElemOk e0) (hx : ∀ x ∈ xs, x.Ok)
    (hgE : Blank gE) (hi1 : Blank gi1) (hi2 : Blank gi2) (hi3 : Blank gi3) (hrange : d = 45 → xs ≠ []) :
    GoodOp false true (123 :: listBody d g0 e0 xs gE idx gi1 gi2 gi3)
      (.reg (listTok (d == 45) (e0 :: xs.map (·.e)) idx)) := by
  have hws : isWs 123 = false := by decide
  have hform : ∀ g rest : Txt, g ++ (123 :: listBody d g0 e0 xs gE idx gi1 gi2 gi3 ++ rest) =
      g ++ 123 :: (g0 ++ (elemText e0 ++ moreText d xs (gE ++ 125 :: (idxG idx gi1 gi2 gi3 ++ rest)))) := by
    intro g rest
    simp [listBody, List.append_assoc, ← moreText_append]
  have hp := fun g t hg => operand_punct g 123 t hg hws (by decide) (by decide) (by decide)
  have key : ∀ g rest, Blank g → Follow rest →
      (mapR RawOp.reg (registerP (g ++ (123 :: listBody d g0 e0 xs gE idx gi1 gi2 gi3 ++ rest))) <^>
        mapR RawOp.mem (memoryP (g ++ (123 :: listBody d g0 e0 xs gE idx gi1 gi2 gi3 ++ rest)))) =
      some (.reg (listTok (d == 45) (e0 :: xs.map (·.e)) idx), skipWs rest) := by
    intro g rest hg hf
    obtain ⟨r', hrl, hsk⟩ := registerList_text d hd g g0 e0 xs gE idx gi1 gi2 gi3 rest hg hg0 he0 hx hgE
      hi1 hi2 hi3 hf hrange
    rw [hform, memoryP_none_head g 123 _ hg hws (by decide), registerP_of_core _ _ r' rest
      ((registerCore_nonalpha g 123 _ hg hws (by decide)).trans hrl) hsk hf rfl rfl]
    rfl
  refine ⟨fun g rest hg hf => ⟨skipWs rest, ?_, skipWs_idem rest⟩,
    fun _ g rest hg hf => ⟨skipWs rest, ?_, skipWs_idem rest⟩, fun g rest hg _ => ?_,
    ⟨123, listBody d g0 e0 xs gE idx gi1 gi2 gi3, rfl, hws, by decide, by decide⟩⟩
  · exact (hp g _ hg).1.trans (key g rest hg hf)
  · exact (hp g _ hg).2.trans (key g rest hg hf)
  · exact shiftOp_none_nonalpha g 123 _ hg hws (by decide)

/-! ### post-processing -/
theorem listIndex_idx (idx : Option Nat) : listIndex (optMap showNat idx) = .ok (optMap showNat idx) := by
  cases idx with
  | none => rfl
  | some k =>
    simp only [optMap, listIndex, pyInt0_showNat]
    rfl

theorem processElem_elemTok (ix : Option Txt) (e : ElemA) (he : ElemOk e) :
    processElem ix (elemTok e) =
      .ok { (expectElem e none) with index := ix } := by
  cases he with
  | scalar p n hp =>
    cases ix <;> simp [processElem, elemTok, RegTok.ofElem, processRegister, expectElem, lower, lowerTxt1, optMap]
  | vec p n lanes shape hp hl hs =>
    cases ix <;> cases shape <;>
      simp [processElem, elemTok, vecElem, RegTok.ofElem, processRegister, expectElem, lower, lowerTxt1, optMap]

theorem expectElem_index (e : ElemA) (idx : Option Nat) :
    expectElem e idx = { (expectElem e none) with index := optMap showNat idx } := by
  cases e <;> cases idx <;> simp [expectElem, optMap]

/-- a list: every element with the list index -/
theorem resolveList_list (es : List ElemA) (hes : ∀ e ∈ es, ElemOk e) (idx : Option Nat) :
    resolveList (listTok false es idx) false (es.map elemTok) = .ok (es.map (fun e => expectElem e idx)) := by
  simp only [resolveList, listTok, listIndex_idx, Bool.false_eq_true, if_false]
  induction es with
  | nil => rfl
  | cons e es ih =>
    have h1 := processElem_elemTok (optMap showNat idx) e (hes e (by simp))
    have ih' := ih (fun x hx => hes x (by simp [hx]))
    simp only [List.map_cons, mapE, h1, ih', expectElem_index e idx]

theorem elemTok_name (e : ElemA) : (elemTok e).name = some (showNat (elemNum e)) := by
  cases e <;> rfl

theorem elemTok_pre (e : ElemA) : ∃ p, (elemTok e).pre = some p := by
  cases e <;> exact ⟨_, rfl⟩

theorem elemTok_setNum (e : ElemA) (n : Nat) : { elemTok e with name := some (showNat n) } = elemTok (setNum e n) := by
  cases e <;> rfl

theorem elemOk_setNum (e : ElemA) (he : ElemOk e) (n : Nat) : ElemOk (setNum e n) := by
  cases he with
  | scalar p m hp => exact .scalar p n hp
  | vec p m lanes shape hp hl hs => exact .vec p n lanes shape hp hl hs

theorem rangeMembers_eq (first : ElemA) (idx : Option Nat) (a k : Nat) :
    rangeMembers first idx a k = (List.range k).map (fun i => expectElem (setNum first (a + i)) idx) := by
  induction k generalizing a with
  | zero => rfl
  | succ k ih =>
    rw [rangeMembers, ih (a + 1), List.range_succ_eq_map]
    simp [List.map_map, Function.comp_def]
    intro x _
    have : a + 1 + x = a + (x + 1) := by omega
    rw [this]

/-- a range: the members `A … B` of the first register -/
theorem resolveList_range (first : ElemA) (hf : ElemOk first) (b : Nat) (idx : Option Nat) :
    resolveList (listTok true [first, setNum first b] idx) true ([first, setNum first b].map elemTok) =
      .ok (rangeMembers first idx (elemNum first) (b + 1 - elemNum first)) := by
  have hnb : (elemTok (setNum first b)).name = some (showNat b) := by
    cases first <;> rfl
  simp only [resolveList, listTok, listIndex_idx, if_true, List.map_cons, elemTok_name first, hnb,
    natOfDigits_showNat]
  have hinc : A64.rangeInclusive = 1 := by decide
  unfold expandRange
  rw [hinc, rangeNames_eq, rangeMembers_eq]
  rw [mapE_ok _ (fun n => expectElem (setNum first n) idx)]
  · simp [List.map_map, Function.comp_def]
  · intro n _
    rw [elemTok_setNum, processElem_elemTok _ _ (elemOk_setNum first hf n)]
    exact congrArg Except.ok (expectElem_index (setNum first n) idx).symm

/-! ### from the rendered pieces -/
theorem elems_form (e0 : ElemA) (es : List ElemA) (gs : List Txt) (h : InnerOk (elemsPieces (e0 :: es)) gs) :
    ∃ g0 xs, Blank g0 ∧ (∀ x ∈ xs, Blank x.g1 ∧ Blank x.g2) ∧ xs.map (·.e) = es ∧
      ∀ after, joinInner (elemsPieces (e0 :: es)) gs ++ after = g0 ++ (elemText e0 ++ moreText 44 xs after) := by
  induction es generalizing e0 gs with
  | nil =>
    obtain ⟨g0, gs1, rfl, hg0, h1⟩ := innerOk_cons (p := (elemText e0, 1)) (ps := []) h
    obtain rfl : gs1 = [] := h1
    exact ⟨g0, [], hg0, by simp, rfl, fun after => by simp [elemsPieces, joinInner, moreText]⟩
  | cons e1 es ih =>
    have hp : elemsPieces (e0 :: e1 :: es) = (elemText e0, 1) :: ([44], 1) :: elemsPieces (e1 :: es) := rfl
    rw [hp] at h
    obtain ⟨g0, gs1, rfl, hg0, h1⟩ := innerOk_cons h
    obtain ⟨gc, gs2, rfl, hgc, h2⟩ := innerOk_cons h1
    obtain ⟨g0', xs, hg0', hxs, hmap, hj⟩ := ih e1 gs2 h2
    refine ⟨g0, ⟨gc, g0', e1⟩ :: xs, hg0, ?_, by simp [hmap], ?_⟩
    · intro x hx
      simp at hx
      rcases hx with rfl | hx
      · exact ⟨hgc, hg0'⟩
      · exact hxs x hx
    · intro after
      rw [hp]
      simp only [joinInner, moreText, List.append_assoc, List.cons_append, List.nil_append]
      rw [hj after]

theorem idx_form (idx : Option Nat) (gs : List Txt) (h : InnerOk (idxPieces idx) gs) :
    ∃ gi1 gi2 gi3, Blank gi1 ∧ Blank gi2 ∧ Blank gi3 ∧ joinInner (idxPieces idx) gs = idxG idx gi1 gi2 gi3 := by
  cases idx with
  | none =>
    obtain rfl : gs = [] := h
    exact ⟨[], [], [], blank_nil, blank_nil, blank_nil, rfl⟩
  | some k =>
    obtain ⟨g1, gs1, rfl, h1, r1⟩ := innerOk_cons h
    obtain ⟨g2, gs2, rfl, h2, r2⟩ := innerOk_cons r1
    obtain ⟨g3, gs3, rfl, h3, r3⟩ := innerOk_cons r2
    obtain rfl : gs3 = [] := r3
    exact ⟨g1, g2, g3, h1, h2, h3, by simp [idxPieces, joinInner, idxG]⟩

/-- **register list** `{e0, e1, …}[idx]` (∀ elements of the covered kinds, ∀ list lengths ≥ 1) -/
theorem covered_list (last fst : Bool) (e0 : ElemA) (es : List ElemA) (idx : Option Nat)
    (hes : ∀ e ∈ e0 :: es, ElemOk e) : CoveredOp last fst (.list (e0 :: es) idx) := by
  refine ⟨[123], elemsPieces (e0 :: es) ++ (([125], 1) :: idxPieces idx), .reg (listTok false (e0 :: es) idx), ?_, ?_, ?_⟩
  · simp [opPieces]
  · intro gs hgs
    obtain ⟨gsE, gs2, hE, h2, hj⟩ := innerOk_append _ _ gs hgs
    obtain ⟨gE, gsI, rfl, hgE, hI⟩ := innerOk_cons h2
    obtain ⟨g0, xs, hg0, hxs, hmap, hform⟩ := elems_form e0 es gsE hE
    obtain ⟨gi1, gi2, gi3, hi1, hi2, hi3, hidx⟩ := idx_form idx gsI hI
    have hxok : ∀ x ∈ xs, x.Ok := by
      intro x hx
      refine ⟨(hxs x hx).1, (hxs x hx).2, hes x.e ?_⟩
      have : x.e ∈ xs.map (·.e) := List.mem_map_of_mem hx
      rw [hmap] at this
      simp [this]
    have htext : [123] ++ joinInner (elemsPieces (e0 :: es) ++ (([125], 1) :: idxPieces idx)) gs =
        123 :: listBody 44 g0 e0 xs gE idx gi1 gi2 gi3 := by
      rw [hj]
      simp only [joinInner, hidx, List.cons_append, List.nil_append]
      rw [hform]
      simp [listBody]
    rw [htext]
    have := (goodOp_list 44 (Or.inl rfl) g0 e0 xs gE idx gi1 gi2 gi3 hg0 (hes e0 (by simp)) hxok hgE hi1 hi2 hi3
      (fun h => absurd h (by decide))).any last
    simp only [hmap] at this
    simpa using this.atSlot fst
  · have := resolveList_list (e0 :: es) hes idx
    simp only [processOperand, listTok] at this ⊢
    rw [this]
    simp [expectOp, List.map_map, Function.comp_def]

/-- **register range** `{first - last}[idx]` (∀ bounds; an empty range if the last number is smaller) -/
theorem covered_range (last fst : Bool) (first : ElemA) (b : Nat) (idx : Option Nat) (hf : ElemOk first) :
    CoveredOp last fst (.range first b idx) := by
  refine ⟨[123], [(elemText first, 1), ([45], 1), (elemText (setNum first b), 1), ([125], 1)] ++ idxPieces idx,
    .reg (listTok true [first, setNum first b] idx), ?_, ?_, ?_⟩
  · simp [opPieces]
  · intro gs hgs
    obtain ⟨gs4, gsI, h4, hI, hj⟩ := innerOk_append _ _ gs hgs
    obtain ⟨g0, r1, rfl, hg0, q1⟩ := innerOk_cons h4
    obtain ⟨gd, r2, rfl, hgd, q2⟩ := innerOk_cons q1
    obtain ⟨g2, r3, rfl, hg2, q3⟩ := innerOk_cons q2
    obtain ⟨gE, r4, rfl, hgE, q4⟩ := innerOk_cons q3
    obtain rfl : r4 = [] := q4
    obtain ⟨gi1, gi2, gi3, hi1, hi2, hi3, hidx⟩ := idx_form idx gsI hI
    have htext : [123] ++ joinInner ([(elemText first, 1), ([45], 1), (elemText (setNum first b), 1), ([125], 1)] ++
        idxPieces idx) gs = 123 :: listBody 45 g0 first [⟨gd, g2, setNum first b⟩] gE idx gi1 gi2 gi3 := by
      rw [hj]
      simp [joinInner, hidx, listBody, moreText, List.append_assoc]
    rw [htext]
    have hxok : ∀ x ∈ [(⟨gd, g2, setNum first b⟩ : More)], x.Ok := by
      intro x hx; simp at hx; subst hx; exact ⟨hgd, hg2, elemOk_setNum first hf b⟩
    have := (goodOp_list 45 (Or.inr rfl) g0 first [⟨gd, g2, setNum first b⟩] gE idx gi1 gi2 gi3 hg0 hf hxok hgE
      hi1 hi2 hi3 (by simp)).any last
    simpa using this.atSlot fst
  · have := resolveList_range first hf b idx
    simp only [processOperand, listTok] at this ⊢
    rw [this]
    simp [expectOp]

end OsacaVerif.ParseA64
