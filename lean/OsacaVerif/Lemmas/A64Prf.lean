import OsacaVerif.Lemmas.A64Head
/-
  Prefetch operations `pldl1keep`, `PSTL3STRM`, … in the first operand slot.
-/
namespace OsacaVerif.ParseA64
open OsacaVerif.Text OsacaVerif.Spec.A64 OsacaVerif.Gen

def prfT : List Txt := A64.prfTypes.map lower
def prfG : List Txt := A64.prfTargets.map lower
def prfP : List Txt := A64.prfPolicies.map lower

theorem prfT_len : ∀ l ∈ prfT, l.length = 3 ∧ headAlpha l = true := by decide +kernel
theorem prfG_len : ∀ l ∈ prfG, l.length = 2 ∧ headAlpha l = true := by decide +kernel
theorem prfP_len : ∀ l ∈ prfP, l.length = 4 ∧ headAlpha l = true := by decide +kernel

theorem keyword_shape (ls : List Txt) (n : Nat) (w : Txt) (hm : lower w ∈ ls)
    (hl : ∀ l ∈ ls, l.length = n ∧ headAlpha l = true) :
    w.length = n ∧ ∃ c w', w = c :: w' ∧ isAlphaC c = true := by
  obtain ⟨h1, h2⟩ := hl _ hm
  refine ⟨by simpa [lower] using h1, ?_⟩
  cases w with
  | nil => simp [lower, headAlpha] at h2
  | cons c w' => exact ⟨c, w', rfl, alpha_of_lowerC_alpha c (by simpa [lower, headAlpha] using h2)⟩

/-- **prefetch operation** as the first operand (∀ of the 2·3·2 operations, in any case) -/
theorem goodFirst_prf (t g p : Txt) (ht : lower t ∈ prfT) (hg : lower g ∈ prfG) (hp : lower p ∈ prfP) :
    GoodFirst false (t ++ g ++ p) (.prf (upper (lower t)) (upper (lower g)) (upper (lower p))) := by
  obtain ⟨ht3, ct, wt, htc, hta⟩ := keyword_shape prfT 3 t ht prfT_len
  obtain ⟨hg2, cg, wg, hgc, hga⟩ := keyword_shape prfG 2 g hg prfG_len
  obtain ⟨hp4, cp, wp, hpc, hpa⟩ := keyword_shape prfP 4 p hp prfP_len
  refine ⟨?_, ?_⟩
  · intro gap rest hgap hf
    have h1 : clitOr true (A64.prfTypes.map lower) (gap ++ (t ++ (g ++ (p ++ rest)))) = _ :=
      clitOr_match prfT gap t (g ++ (p ++ rest)) _ ct wt htc (alpha_not_ws ct hta) hgap rfl ht
        (fun l' hl' => by rw [(prfT_len l' hl').1, ht3])
    have h2 : clitOr true (A64.prfTargets.map lower) (g ++ (p ++ rest)) = _ :=
      clitOr_match prfG [] g (p ++ rest) _ cg wg hgc (alpha_not_ws cg hga) blank_nil rfl hg
        (fun l' hl' => by rw [(prfG_len l' hl').1, hg2])
    have h3 : clitOr true (A64.prfPolicies.map lower) (p ++ rest) = _ :=
      clitOr_match prfP [] p rest _ cp wp hpc (alpha_not_ws cp hpa) blank_nil rfl hp
        (fun l' hl' => by rw [(prfP_len l' hl').1, hp4])
    have hprf : prefetchP (gap ++ (t ++ (g ++ (p ++ rest)))) =
        some ((upper (lower t), upper (lower g), upper (lower p)), rest) := by
      simp only [prefetchP, h1, h2, h3]
    refine ⟨rest, ?_, rfl⟩
    have htext : gap ++ (t ++ g ++ p ++ rest) = gap ++ (t ++ (g ++ (p ++ rest))) := by simp [List.append_assoc]
    rw [htext]
    simp only [operandFirst, hprf, mapR_some, wordEnd_follow _ rest hf, orElseR_some_left]
  · exact ⟨ct, wt ++ g ++ p, by simp [htc], alpha_not_ws ct hta, (alpha_not_punct ct hta).1,
      fun e => absurd e (alpha_not_punct ct hta).2.1⟩

theorem covered_prf (last : Bool) (t g p : Txt) (ht : lower t ∈ prfT) (hg : lower g ∈ prfG) (hp : lower p ∈ prfP) :
    CoveredOp last true (.prf t g p) :=
  covered_single last true _ _ _ rfl (fun _ => goodFirst_prf t g p ht hg hp) (fun h => by cases h)
    (by simp [processOperand, expectOp])

end OsacaVerif.ParseA64
