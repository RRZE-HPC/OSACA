import OsacaVerif.Model.Text
/-
  String literals under kernel evaluation.
-/
namespace OsacaVerif.Text

/-- The kernel decodes a string literal in linear time only where it meets `String.ofList` (evaluating
    `String.toList` on it is quadratic), so tests over `ofString "…"` first rewrite their literals with
    this (`rw`, whose unifier opens the literal; `simp` does not match it). -/
theorem ofString_ofList (cs : List Char) : ofString (String.ofList cs) = cs.map Char.toNat := by
  simp [ofString]

end OsacaVerif.Text
