import OsacaVerif.Lemmas.DGraph
import OsacaVerif.Lemmas.LCDNorm
/-
  Helper development for C05 / C14: over an edge list whose instruction-to-instruction edges point
  forward (`ForwardEdges`; Lemmas/LcdChar shows it of `DG.create` on a well-formed kernel) the successor lists
  and the walks of the LCD search have strictly increasing vertices.
-/
namespace OsacaVerif.DG
open OsacaVerif OsacaVerif.Text

/-- all instruction-to-instruction edges go to a strictly larger line -/
def ForwardEdges (es : List Edge) : Prop := ∀ e ∈ es, e.src.load = false → e.src.line < e.dst.line

instance (es : List Edge) : Decidable (ForwardEdges es) := by unfold ForwardEdges; infer_instance

/-- the successor list of the LCD search, read off the edge list -/
theorem mem_succs (es : List Edge) (l m : Nat) (w : Rat) :
    (m, w) ∈ LCD.succs es l ↔ ({ src := ⟨l, false⟩, dst := ⟨m, false⟩, w := w } : Edge) ∈ es := by
  simp only [LCD.succs, List.mem_filterMap]
  constructor
  · rintro ⟨e, he, h⟩
    by_cases hc : (!e.src.load && e.src.line == l && !e.dst.load) = true
    · rw [if_pos hc] at h
      simp only [Bool.and_eq_true, Bool.not_eq_true', beq_iff_eq] at hc
      simp only [Option.some.injEq, Prod.mk.injEq] at h
      have : e = { src := ⟨l, false⟩, dst := ⟨m, false⟩, w := w } := by
        obtain ⟨⟨sl, sb⟩, ⟨dl, db⟩, ew⟩ := e
        simp_all
      rw [← this]; exact he
    · rw [if_neg hc] at h; cases h
  · intro h
    exact ⟨_, h, by simp⟩

end OsacaVerif.DG

namespace OsacaVerif.LCD
open OsacaVerif OsacaVerif.DG

theorem succs_forward (es : List Edge) (hf : ForwardEdges es) (n m : Nat) (w : Rat) (h : (m, w) ∈ succs es n) :
    n < m :=
  hf _ ((mem_succs es n m w).mp h) rfl

theorem nextV_eq_head (tgt : Nat) (q : List (Nat × Rat)) :
    (verts q ++ [tgt]).head? = some (nextV tgt q) := by
  cases q <;> simp [verts, nextV]

theorem pairwise_cons_of_lt_head {l : List Nat} (hl : l.Pairwise (· < ·)) {a x : Nat} (ha : l.head? = some a)
    (hx : x < a) : (x :: l).Pairwise (· < ·) := by
  cases l with
  | nil => cases ha
  | cons b t =>
    cases ha
    refine List.pairwise_cons.mpr ⟨fun v hv => ?_, hl⟩
    rcases List.mem_cons.mp hv with rfl | hv
    · exact hx
    · exact Nat.lt_trans hx ((List.pairwise_cons.mp hl).1 v hv)

theorem walk_increasing (es : List Edge) (hf : ForwardEdges es) (tgt : Nat) (p : List (Nat × Rat))
    (h : IsWalk es tgt p) : (verts p ++ [tgt]).Pairwise (· < ·) := by
  induction p with
  | nil => exact List.pairwise_singleton _ _
  | cons x rest ih =>
    exact pairwise_cons_of_lt_head (ih h.2) (nextV_eq_head tgt rest) (succs_forward es hf _ _ _ h.1)

end OsacaVerif.LCD
