import OsacaVerif.Lemmas.EndToEndOpt
import OsacaVerif.Lemmas.ReportTable
/-
  The record the pipeline hands to the report model is well-formed (`Report.WF`)
  — pressure vectors and used-port masks have one entry per port, texts contain no line feed, the
  column sums are empty or have one entry per port.
-/
namespace OsacaVerif.EndToEnd
open OsacaVerif OsacaVerif.Text OsacaVerif.ParseX86 OsacaVerif.Pipeline OsacaVerif.Compose OsacaVerif.Ports
open OsacaVerif.Lemmas.Compose

/-- `assign_tp_lt` leaves one pressure value per port of the model -/
theorem assignTpLt_len (m : MModel) (i : Ins) (r : Compose.Result) (h : assignTpLt m i = .ok r) :
    r.pressure.length = m.ports.length := by
  rw [assignTpLt_uniform m i r h, length_uniform]

theorem lineOfText_lens (isa : Operand.Isa) (m : Model) (n : Nat) (t : Txt) (h : (lineOfText isa m n t).err = none) :
    (semOf m.mm.ports.length (lineOfText isa m n t).pl).pressure.length = m.mm.ports.length ∧
    (semOf m.mm.ports.length (lineOfText isa m n t).pl).used.length = m.mm.ports.length := by
  have hnoise : (noiseSem m.mm.ports.length).pressure.length = m.mm.ports.length ∧
      (noiseSem m.mm.ports.length).used.length = m.mm.ports.length := by simp [noiseSem, zeros]
  cases hp : parseLineOf isa t with
  | err e => simp only [lineOfText, hp, semOf, PLine.isInstr]; exact hnoise
  | ok f =>
    obtain ⟨s, tp, e, ht, _, _, _, hpr, hu, _⟩ := lineOfText_ok_inv hp m n h
    rw [e, semOf]
    split
    · rw [hpr, hu]
      exact ⟨assignTpLt_len m.mm _ tp ht, List.length_map _⟩
    · exact hnoise

theorem colSums_len (skip : Rat) (digits n : Nat) (k : List Ports.Line) (hl : ∀ l ∈ k, l.pressure.length = n) :
    Ports.colSums skip digits k = [] ∨ (Ports.colSums skip digits k).length = n := by
  unfold Ports.colSums
  by_cases hne : (k.filter (·.tp != skip)) = []
  · left; simp [Ports.colSumsExact, hne]
  · right
    rw [List.length_map]
    exact (Props.C01.colSums_spec skip n k hl hne 0).1

/-- the kernel lines of an analysis as the report shows them: one pressure value and one mask bit per port
    (`assign_tp_lt` leaves `len(ports)` values on every path), a text without line feed (a line of the file) -/
theorem kernel_rows_ok (isa : Operand.Isa) (m : Model) (o : Opts) (file : Txt) (r : Result)
    (h : analyse isa m o file = .ok r) (l : PLine) (hl : l ∈ r.kernel) :
    (semOf m.mm.ports.length l).pressure.length = m.mm.ports.length ∧
    (semOf m.mm.ports.length l).used.length = m.mm.ports.length ∧ Report.NoNL l.text := by
  obtain ⟨t, ht, e, herr⟩ := kernel_line_of_file isa m o file r h l hl
  have hlen := lineOfText_lens isa m l.num t herr
  rw [← e] at hlen
  refine ⟨hlen.1, hlen.2, ?_⟩
  rw [e, lineOfText_pl_text]
  exact (splitLines_spec file).2.1 t ht

theorem toReport_wf (repr : Rat → Txt) (ports : List Txt) (iu : Bool) (k : List PLine) (a : Analysis)
    (hports : ports ≠ []) (hnames : ∀ n ∈ ports, Report.NameOk n ∧ Report.NoNL n)
    (hrepr : ∀ q, Report.TokOk (repr q) ∧ Report.WordOk (repr q) ∧ Report.NoNL (repr q)) (hk : k ≠ [])
    (hrows : ∀ l ∈ k, (semOf ports.length l).pressure.length = ports.length ∧
      (semOf ports.length l).used.length = ports.length ∧ Report.NoNL l.text)
    (hsum : a.colSums = [] ∨ a.colSums.length = ports.length) :
    Report.WF (toReport repr ports iu ports.length k a) where
  ports_ne := hports
  names := hnames
  rows_ne := fun e => hk (List.map_eq_nil_iff.mp e)
  rows := by
    intro row hrow
    obtain ⟨l, hl, rfl⟩ := List.mem_map.mp hrow
    exact hrows l hl
  cp := by
    intro p hp
    obtain ⟨q, _, rfl⟩ := List.mem_map.mp hp
    exact ⟨(hrepr q.2).1, (hrepr q.2).2.2⟩
  deps := by
    intro d hd
    obtain ⟨q, _, rfl⟩ := List.mem_map.mp hd
    refine ⟨?_, (hrepr _).2.1, (hrepr _).2.2⟩
    intro mem hmem
    obtain ⟨x, _, rfl⟩ := List.mem_map.mp hmem
    exact ⟨(hrepr x.2).1, (hrepr x.2).2.2⟩
  cpSum := ⟨(hrepr _).2.1, (hrepr _).2.2⟩
  tpSum := hsum

theorem toReport_lines (repr : Rat → Txt) (ports : List Txt) (iu : Bool) (n : Nat) (k : List PLine) (a : Analysis) :
    (toReport repr ports iu n k a).rows.map (·.line) = k.map (·.num) := by
  simp only [toReport, List.map_map, Function.comp_def]

theorem toReport_press (repr : Rat → Txt) (ports : List Txt) (iu : Bool) (n : Nat) (k : List PLine) (a : Analysis) :
    (toReport repr ports iu n k a).rows.map (·.press) = k.map fun l => (semOf n l).pressure := by
  simp only [toReport, List.map_map, Function.comp_def]

theorem toReport_cp (repr : Rat → Txt) (ports : List Txt) (iu : Bool) (n : Nat) (k : List PLine) (a : Analysis) :
    (toReport repr ports iu n k a).cp.map (·.1) = a.cpMarks.map (·.1) := by
  simp only [toReport, List.map_map, Function.comp_def]

theorem fullAnalysis_table (version file arch stamp : Txt) (aw lw lcdw : Bool) (a : Report.Analysis) :
    ∃ pre post, Report.fullAnalysis version file arch stamp aw lw lcdw a = pre ++ Report.combinedView a ++ post :=
  ⟨Report.headerReport version file arch stamp ++ Report.warningsHeader aw lw ++ Report.symbolMap,
    Report.warningsFooter lcdw ++ Report.lcdList a, by simp only [Report.fullAnalysis, List.append_assoc]⟩

end OsacaVerif.EndToEnd
