import OsacaVerif.Model.CacheName
/-
  Cache file names for stems without a dot: `with_suffix` appends, so the name is the plain
  concatenation and determines stem and hash.
-/
namespace OsacaVerif.CacheName
open OsacaVerif.Text

theorem rfindDot_none {t : Txt} (h : 46 ∉ t) : rfindDot t = none := by
  induction t with
  | nil => rfl
  | cons c cs ih =>
    rw [List.mem_cons, not_or] at h
    simp only [rfindDot, ih h.2, if_neg (Ne.symm h.1)]

theorem rfindDot_head {t : Txt} (h : 46 ∉ t) : rfindDot (46 :: t) = some 0 := by
  simp [rfindDot, rfindDot_none h]

/-- a name whose only dot, if any, is its first character has no suffix: `with_suffix` appends -/
theorem withSuffix_dotfree {t : Txt} (h : 46 ∉ t) (suf : Txt) :
    withSuffix t suf = t ++ suf ∧ withSuffix (46 :: t) suf = 46 :: t ++ suf := by
  simp [withSuffix, suffixStart, rfindDot_head h, rfindDot_none h]

theorem homeName_plain (stem hex : Txt) (hs : 46 ∉ stem) (hh : 46 ∉ hex) :
    homeName stem hex = stem ++ [95] ++ hex ++ Gen.cacheHomeSuffix := by
  have : build Gen.cacheHomeParts stem hex = stem ++ 95 :: hex := by
    simp [build, Gen.cacheHomeParts]
  rw [homeName, this, (withSuffix_dotfree (t := stem ++ 95 :: hex) (by simp [hs, hh]) _).1]
  simp

theorem sep_inj (pre suf : Txt) {s₁ h₁ s₂ h₂ : Txt} (hl : h₁.length = h₂.length)
    (h : pre ++ s₁ ++ [95] ++ h₁ ++ suf = pre ++ s₂ ++ [95] ++ h₂ ++ suf) : s₁ = s₂ ∧ h₁ = h₂ := by
  obtain ⟨h', hh⟩ := List.append_inj' (List.append_cancel_right h) hl
  exact ⟨List.append_cancel_left (List.append_cancel_right h'), hh⟩

end OsacaVerif.CacheName
