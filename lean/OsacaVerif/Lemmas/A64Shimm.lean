import OsacaVerif.Lemmas.A64Mem
/-
  Shifted immediates `#imm, lsl #n` (value `imm << n`).
-/
namespace OsacaVerif.ParseA64
open OsacaVerif.Text OsacaVerif.Spec.A64 OsacaVerif.Gen

/-- a gap and a comma follow: nothing continues a word -/
theorem headStop_gap_comma (gc s' : Txt) (hgc : Blank gc) : HeadStop (gc ++ 44 :: s') :=
  ⟨fun c r hc => (blank_append_head hgc 44 s' c r hc).imp_right Or.inl⟩

def shBase (hash hex : Bool) (v : Nat) : IntA := ⟨hash, false, hex, false, v⟩
def shAmt (ah : Bool) (amt : Nat) : IntA := ⟨ah, false, false, false, amt⟩

/-- text of a shifted immediate with the gaps between its four pieces -/
def shimmText (hash hex : Bool) (v : Nat) (op : Txt) (ah : Bool) (amt : Nat) (g2 g3 g4 : Txt) : Txt :=
  intText (shBase hash hex v) ++ (g2 ++ 44 :: (g3 ++ (op ++ (g4 ++ intText (shAmt ah amt)))))

def shimmRaw (hash hex : Bool) (v : Nat) (op : Txt) (amt : Nat) : RawOp :=
  .arith (.num (intDigits (shBase hash hex v))) (lower op) (some (.num (showNat amt)))

theorem arithP_shimm (g : Txt) (hash hex : Bool) (v : Nat) (op : Txt) (ah : Bool) (amt : Nat) (g2 g3 g4 rest : Txt)
    (hg : Blank g) (hg2 : Blank g2) (hg3 : Blank g3) (hg4 : Blank g4) (hop : lower op ∈ scaleOps)
    (hgap : ah = false → g4 ≠ []) (hf : Follow rest) :
    immediate (g ++ (shimmText hash hex v op ah amt g2 g3 g4 ++ rest)) =
      some (.num (intDigits (shBase hash hex v)), g2 ++ 44 :: (g3 ++ (op ++ (g4 ++ (intText (shAmt ah amt) ++ rest))))) ∧
    arithP (g ++ (shimmText hash hex v op ah amt g2 g3 g4 ++ rest)) =
      some ((.num (intDigits (shBase hash hex v)), lower op, some (.num (showNat amt))), rest) := by
  have htext : g ++ (shimmText hash hex v op ah amt g2 g3 g4 ++ rest) =
      g ++ (intText (shBase hash hex v) ++ (g2 ++ 44 :: (g3 ++ (op ++ (g4 ++ (intText (shAmt ah amt) ++ rest)))))) := by
    simp [shimmText, List.append_assoc]
  rw [htext]
  have himm := immediate_int' g (shBase hash hex v) _ hg (headStop_gap_comma g2 (g3 ++ (op ++ (g4 ++ (intText (shAmt ah amt) ++ rest)))) hg2)
  have himm' : immediate (g ++ (intText (shBase hash hex v) ++ (g2 ++ 44 :: (g3 ++ (op ++ (g4 ++ (intText (shAmt ah amt) ++ rest))))))) =
      some (.num (intDigits (shBase hash hex v)), g2 ++ 44 :: (g3 ++ (op ++ (g4 ++ (intText (shAmt ah amt) ++ rest))))) := by
    rw [himm]; simp [shBase, optNeg]
  refine ⟨himm', ?_⟩
  have hlit := lit_gap g2 44 (g3 ++ (op ++ (g4 ++ (intText (shAmt ah amt) ++ rest)))) hg2 (by decide)
  have hamt := immediate_int g4 (shAmt ah amt) rest hg4 hf
  have hamt' : optP true immediate (g4 ++ (intText (shAmt ah amt) ++ rest)) = (some (.num (showNat amt)), rest) := by
    rw [optP_some true immediate _ _ _ hamt]; simp [shAmt, optNeg, intDigits]
  -- behind the operator: a blank, or the `#` of the amount (`lsl 12`, `lsl#12`; `lsl12` would be a name)
  have hwe : ∀ c r, g4 ++ (intText (shAmt ah amt) ++ rest) = c :: r → isWordEndC c = false := by
    cases g4 with
    | cons b g' => exact stopsAt_head _ b _ (blank_not_wordEnd b hg4.cons.1)
    | nil =>
      cases ah with
      | false => exact absurd rfl (hgap rfl)
      | true => exact stopsAt_head _ 35 _ (by decide)
  simp only [arithP, himm', hlit, shiftOp_match g3 op _ hg3 hop hwe, hamt']

theorem shimm_head (hash hex : Bool) (v : Nat) (op : Txt) (ah : Bool) (amt : Nat) (g2 g3 g4 : Txt) :
    ∃ c t, shimmText hash hex v op ah amt g2 g3 g4 = c :: t ∧ isWs c = false ∧ isAlphaC c = false ∧
      c ≠ 58 ∧ c ≠ 43 ∧ c ≠ 123 ∧ c ≠ 91 ∧ isIdFirstC c = false := by
  obtain ⟨c, t, hct, hc⟩ := intText_numHead (shBase hash hex v) (g2 ++ 44 :: (g3 ++ (op ++ (g4 ++ intText (shAmt ah amt)))))
  obtain ⟨hws, ha, hidf, h123, h91, h58, h43⟩ := numHead_facts c hc
  exact ⟨c, t, hct, hws, ha, h58, h43, h123, h91, hidf⟩

/-- **shifted immediate** in any operand slot -/
theorem goodOp_shimm (hash hex : Bool) (v : Nat) (op : Txt) (ah : Bool) (amt : Nat) (g2 g3 g4 : Txt)
    (hg2 : Blank g2) (hg3 : Blank g3) (hg4 : Blank g4) (hop : lower op ∈ scaleOps) (hgap : ah = false → g4 ≠ []) :
    GoodOp false true (shimmText hash hex v op ah amt g2 g3 g4) (shimmRaw hash hex v op amt) := by
  obtain ⟨c, t, hct, hws, ha, h58, h43, h123, h91, hidf⟩ := shimm_head hash hex v op ah amt g2 g3 g4
  -- both immediate alternatives read the text; the shifted one reads more of it
  have key : ∀ g rest, Blank g → Follow rest →
      (mapR RawOp.imm (immediate (g ++ (shimmText hash hex v op ah amt g2 g3 g4 ++ rest))) <^>
        arithOp (g ++ (shimmText hash hex v op ah amt g2 g3 g4 ++ rest))) =
      some (shimmRaw hash hex v op amt, rest) := by
    intro g rest hg hf
    obtain ⟨himm, har⟩ := arithP_shimm g hash hex v op ah amt g2 g3 g4 rest hg hg2 hg3 hg4 hop hgap hf
    have hlen : rest.length < (g2 ++ 44 :: (g3 ++ (op ++ (g4 ++ (intText (shAmt ah amt) ++ rest))))).length := by
      simp; omega
    simp only [himm, arithOp, har, mapR_some]
    rw [better_some_lt _ _ _ _ hlen]; rfl
  refine ⟨fun g rest hg hf => ⟨rest, ?_, rfl⟩, fun _ g rest hg hf => ⟨rest, ?_, rfl⟩, fun g rest hg _ => ?_,
    ⟨c, t, hct, hws, h58, h43⟩⟩
  · have := key g rest hg hf
    rw [hct, List.cons_append] at this ⊢
    rw [operandRest_nonalpha g c _ hg hws ha h91 h123, this]; rfl
  · have := key g rest hg hf
    rw [hct, List.cons_append] at this ⊢
    rw [operandFirst_nonalpha g c _ hg hws h91 h123 hidf h58, this]
  · rw [hct, List.cons_append]
    exact shiftOp_none_nonalpha g c _ hg hws ha

theorem covered_shimm (last fst : Bool) (hash hex : Bool) (v : Nat) (op : Txt) (ah : Bool) (amt : Nat)
    (hop : lower op ∈ scaleOps) : CoveredOp last fst (.shimm hash hex v op ah amt) := by
  refine ⟨intText (shBase hash hex v), [([44], 1), (op, 1), amtPiece (ah, amt)], shimmRaw hash hex v op amt, rfl, ?_, ?_⟩
  · intro gs hgs
    obtain ⟨g2, gs1, rfl, hg2, h1⟩ := innerOk_cons hgs
    obtain ⟨g3, gs2, rfl, hg3, h2⟩ := innerOk_cons h1
    obtain ⟨g4, gs3, rfl, hg4, hne, h3⟩ := innerOk_cons' h2
    have hgap : ah = false → g4 ≠ [] := fun h => hne (by simp [amtPiece, h])
    obtain rfl : gs3 = [] := h3
    have htext : intText (shBase hash hex v) ++ joinInner [([44], 1), (op, 1), amtPiece (ah, amt)] [g2, g3, g4] =
        shimmText hash hex v op ah amt g2 g3 g4 := by
      simp [joinInner, shimmText, amtPiece, shAmt, intText, optNeg, List.append_assoc]
    rw [htext]
    have := (goodOp_shimm hash hex v op ah amt g2 g3 g4 hg2 hg3 hg4 hop hgap).any last
    simpa using this.atSlot fst
  · have h1 : pyInt0 (intDigits (shBase hash hex v)) = some (v : Int) := by
      have := pyInt0_int (shBase hash hex v)
      simpa [shBase, optNeg, intVal] using this
    simp [processOperand, shimmRaw, processArith, h1, pyInt10_showNat, expectOp, pow2]

end OsacaVerif.ParseA64
