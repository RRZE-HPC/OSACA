import OsacaVerif.Model.DG
import OsacaVerif.Spec.Deps
import Mathlib.Data.List.Induction
/-
  Helper development for C03 (graph level): well-formed kernels, the equations of the two forward scans
  (one instruction at a time), the split of `findDepending` into its register/flag part and its memory
  part, the emissions by producer position and their shape, and the exact characterisation of
  `dedupLast` (`add_edge` semantics).
-/
namespace OsacaVerif.DG
open OsacaVerif OsacaVerif.Text

/-! ### well-formed kernels -/

/-- line numbers strictly increase along the kernel (as the parsers produce them) -/
def WFKernel (k : List Ins) : Prop := List.Pairwise (· < ·) (k.map (·.line))

instance (k : List Ins) : Decidable (WFKernel k) := by unfold WFKernel; infer_instance

theorem WFKernel.tail {p : Ins} {rest : List Ins} (h : WFKernel (p :: rest)) : WFKernel rest :=
  (List.pairwise_cons.mp h).2

theorem WFKernel.head_lt {p : Ins} {rest : List Ins} (h : WFKernel (p :: rest)) :
    ∀ c ∈ rest, p.line < c.line :=
  fun c hc => (List.pairwise_cons.mp h).1 c.line (List.mem_map_of_mem hc)

theorem WFKernel.lt_of_lt {k : List Ins} (h : WFKernel k) {a b : Nat} {x y : Ins}
    (ha : k[a]? = some x) (hb : k[b]? = some y) (hab : a < b) : x.line < y.line := by
  obtain ⟨ha', rfl⟩ := List.getElem?_eq_some_iff.mp ha
  obtain ⟨hb', rfl⟩ := List.getElem?_eq_some_iff.mp hb
  exact List.pairwise_iff_getElem.mp (List.pairwise_map.mp h) a b ha' hb' hab

theorem WFKernel.pos_unique {k : List Ins} (h : WFKernel k) {a b : Nat} {x y : Ins}
    (ha : k[a]? = some x) (hb : k[b]? = some y) (hl : x.line = y.line) : a = b := by
  rcases Nat.lt_trichotomy a b with hlt | heq | hgt
  · exact absurd hl (Nat.ne_of_lt (h.lt_of_lt ha hb hlt))
  · exact heq
  · exact absurd hl.symm (Nat.ne_of_lt (h.lt_of_lt hb ha hgt))

theorem WFKernel.drop {k : List Ins} (h : WFKernel k) (n : Nat) : WFKernel (k.drop n) := by
  unfold WFKernel at *
  rw [List.map_drop]
  exact h.sublist (List.drop_sublist n _)

/-! ### the forward scans, one instruction at a time -/

theorem scanTarget_cons (isa : Isa) (t : Target) (tag : Tag) (i : Ins) (rest : List Ins) :
    scanTarget isa t tag (i :: rest) =
      (if isRead isa t i then [(i.line, tag)] else []) ++
        (if isWritten isa t i then [] else scanTarget isa t tag rest) := by
  rw [scanTarget]
  cases isWritten isa t i
  · rfl
  · exact (List.append_nil _).symm

theorem scanMem_cons (isa : Isa) (m : Mem) (s : RegState) (i : Ins) (rest : List Ins) :
    scanMem isa m s (i :: rest) =
      if memStop isa m i then [] else
        (if isMemload m i (updateState s i.changes) then [(i.line, Tag.storeLoad)] else []) ++
          (if isMemstore m i then []
           else scanMem isa m (updateState (updateState s i.changes) i.changesPost) rest) := by
  rw [scanMem]
  cases memStop isa m i
  · cases isMemstore m i
    · rfl
    · exact (List.append_nil _).symm
  · rfl

theorem mem_scanTarget_cons (isa : Isa) (t : Target) (tag : Tag) (i : Ins) (rest : List Ins) (x : Nat × Tag) :
    x ∈ scanTarget isa t tag (i :: rest) ↔
      (isRead isa t i = true ∧ x = (i.line, tag)) ∨ (isWritten isa t i = false ∧ x ∈ scanTarget isa t tag rest) := by
  simp [scanTarget_cons]

theorem mem_scanMem_cons (isa : Isa) (m : Mem) (s : RegState) (i : Ins) (rest : List Ins) (x : Nat × Tag) :
    x ∈ scanMem isa m s (i :: rest) ↔ memStop isa m i = false ∧
      ((isMemload m i (updateState s i.changes) = true ∧ x = (i.line, Tag.storeLoad)) ∨
       (isMemstore m i = false ∧
         x ∈ scanMem isa m (updateState (updateState s i.changes) i.changesPost) rest)) := by
  simp [scanMem_cons]

/-- every emission of a scan names an instruction of the scanned suffix -/
theorem scanTarget_lines (isa : Isa) (t : Target) (tag : Tag) (rest : List Ins) (x : Nat × Tag)
    (h : x ∈ scanTarget isa t tag rest) : ∃ c ∈ rest, c.line = x.1 := by
  induction rest with
  | nil => cases h
  | cons i rest ih =>
    rcases (mem_scanTarget_cons isa t tag i rest x).mp h with ⟨_, rfl⟩ | ⟨_, h⟩
    · exact ⟨i, List.mem_cons_self, rfl⟩
    · obtain ⟨c, hc, hl⟩ := ih h
      exact ⟨c, List.mem_cons_of_mem _ hc, hl⟩

theorem scanMem_lines (isa : Isa) (m : Mem) (s : RegState) (rest : List Ins) (x : Nat × Tag)
    (h : x ∈ scanMem isa m s rest) : ∃ c ∈ rest, c.line = x.1 := by
  induction rest generalizing s with
  | nil => cases h
  | cons i rest ih =>
    rcases (mem_scanMem_cons isa m s i rest x).mp h with ⟨_, ⟨_, rfl⟩ | ⟨_, h⟩⟩
    · exact ⟨i, List.mem_cons_self, rfl⟩
    · obtain ⟨c, hc, hl⟩ := ih _ h
      exact ⟨c, List.mem_cons_of_mem _ hc, hl⟩

/-! ### `findDepending` = register/flag part interleaved with the memory part -/

/-- emissions of one destination operand that is a register or (if requested) a flag -/
def regPart (isa : Isa) (flagDeps : Bool) (rest : List Ins) (d : Op) : List (Nat × Tag) :=
  match d with
  | .reg r => scanTarget isa (.reg r) (if r.preIdx || r.postIdx then .pIndexed else .plain) rest
  | .flag n => if flagDeps then scanTarget isa (.flag n) .plain rest else []
  | _ => []

/-- emissions of one destination operand that is a memory operand (store → load) -/
def memPart (isa : Isa) (p : Ins) (rest : List Ins) (d : Op) : List (Nat × Tag) :=
  match d with
  | .mem m => scanMem isa m (startState p) rest
  | _ => []

/-- the register/flag emissions of a producer, in destination order -/
def findDependingReg (isa : Isa) (flagDeps : Bool) (p : Ins) (rest : List Ins) : List (Nat × Tag) :=
  (p.dst ++ p.srcDst).flatMap (regPart isa flagDeps rest)

/-- the memory (store → load) emissions of a producer, in destination order -/
def findDependingMem (isa : Isa) (p : Ins) (rest : List Ins) : List (Nat × Tag) :=
  (p.dst ++ p.srcDst).flatMap (memPart isa p rest)

/-- **`findDepending` is the interleaving by destination order**: per destination operand the
    register/flag emissions followed by the memory emissions (one of the two is always empty) -/
theorem findDepending_interleave (isa : Isa) (fd : Bool) (p : Ins) (rest : List Ins) :
    findDepending isa fd p rest =
      (p.dst ++ p.srcDst).flatMap fun d => regPart isa fd rest d ++ memPart isa p rest d := by
  unfold findDepending
  congr 1
  funext d
  cases d <;> simp [regPart, memPart]

theorem flatMap_sublist_flatMap {α β : Type} {f g : α → List β} (h : ∀ a, (f a).Sublist (g a)) (l : List α) :
    (l.flatMap f).Sublist (l.flatMap g) := by
  induction l with
  | nil => exact List.Sublist.refl _
  | cons a l ih => exact (h a).append ih

theorem findDependingMem_sublist (isa : Isa) (fd : Bool) (p : Ins) (rest : List Ins) :
    (findDependingMem isa p rest).Sublist (findDepending isa fd p rest) := by
  rw [findDepending_interleave]
  exact flatMap_sublist_flatMap (fun _ => List.sublist_append_right _ _) _

theorem mem_findDepending (isa : Isa) (fd : Bool) (p : Ins) (rest : List Ins) (x : Nat × Tag) :
    x ∈ findDepending isa fd p rest ↔
      x ∈ findDependingReg isa fd p rest ∨ x ∈ findDependingMem isa p rest := by
  rw [findDepending_interleave]
  simp only [findDependingReg, findDependingMem, List.mem_flatMap, List.mem_append, and_or_left, exists_or]

theorem mem_findDependingMem (isa : Isa) (p : Ins) (rest : List Ins) (x : Nat × Tag) :
    x ∈ findDependingMem isa p rest ↔
      ∃ m, Op.mem m ∈ p.dst ++ p.srcDst ∧ x ∈ scanMem isa m (startState p) rest := by
  simp only [findDependingMem, List.mem_flatMap]
  constructor
  · rintro ⟨d, hd, h⟩
    cases d with
    | mem m => exact ⟨m, hd, h⟩
    | _ => cases h
  · rintro ⟨m, hm, h⟩
    exact ⟨.mem m, hm, h⟩

/-- the tag `find_depending` attaches to the emissions of a register / flag destination -/
def targetTag : Target → Tag
  | .reg r => if r.preIdx || r.postIdx then .pIndexed else .plain
  | .flag _ => .plain

/-- the register/flag emissions are exactly the scans of the declarative targets of the producer -/
theorem mem_findDependingReg (isa : Isa) (fd : Bool) (p : Ins) (rest : List Ins) (x : Nat × Tag) :
    x ∈ findDependingReg isa fd p rest ↔
      ∃ t ∈ Spec.targetsOf fd p, x ∈ scanTarget isa t (targetTag t) rest := by
  simp only [findDependingReg, List.mem_flatMap, Spec.targetsOf, List.mem_filterMap]
  constructor
  · rintro ⟨d, hd, h⟩
    cases d with
    | reg r => exact ⟨.reg r, ⟨.reg r, hd, rfl⟩, h⟩
    | flag n =>
      cases fd with
      | false => cases h
      | true => exact ⟨.flag n, ⟨.flag n, hd, rfl⟩, h⟩
    | mem m => cases h
    | other => cases h
  · rintro ⟨t, ⟨d, hd, hdt⟩, h⟩
    refine ⟨d, hd, ?_⟩
    cases d with
    | reg r => cases hdt; exact h
    | flag n =>
      cases fd with
      | false => cases hdt
      | true => cases hdt; exact h
    | mem m => cases hdt
    | other => cases hdt

theorem findDepending_lines (isa : Isa) (fd : Bool) (p : Ins) (rest : List Ins) (x : Nat × Tag)
    (h : x ∈ findDepending isa fd p rest) : ∃ c ∈ rest, c.line = x.1 := by
  rcases (mem_findDepending isa fd p rest x).mp h with h | h
  · obtain ⟨t, _, hs⟩ := (mem_findDependingReg isa fd p rest x).mp h
    exact scanTarget_lines isa t _ rest x hs
  · obtain ⟨m, _, hs⟩ := (mem_findDependingMem isa p rest x).mp h
    exact scanMem_lines isa m _ rest x hs

/-! ### emissions by producer -/

/-- the dependency edge `create_DG` adds for one emission of `find_depending` -/
def depEdge (par : Params) (p : Ins) (x : Nat × Tag) : Edge :=
  { src := ⟨p.line, false⟩, dst := ⟨x.1, false⟩, w := edgeWeight par p x.2 }

/-- the edge from the separate load node of an instruction to the instruction -/
def loadEdge (p : Ins) : List Edge :=
  if p.hasLd && !p.isLd then
    [{ src := ⟨p.line, true⟩, dst := ⟨p.line, false⟩, w := p.lat - (p.latWoLoad.getD 0) }] else []

theorem mem_loadEdge {p : Ins} {e : Edge} (h : e ∈ loadEdge p) :
    e.src = ⟨p.line, true⟩ ∧ e.dst = ⟨p.line, false⟩ := by
  unfold loadEdge at h
  split at h
  · cases List.mem_singleton.mp h
    exact ⟨rfl, rfl⟩
  · cases h

theorem emissions_cons (isa : Isa) (fd : Bool) (par : Params) (p : Ins) (rest : List Ins) :
    emissions isa fd par (p :: rest) =
      loadEdge p ++ (findDepending isa fd p rest).map (depEdge par p) ++ emissions isa fd par rest := by
  simp only [emissions, loadEdge]
  congr 2

/-- the emissions that arise from a register / flag destination of the producer -/
def regEmissions (isa : Isa) (fd : Bool) (par : Params) : List Ins → List Edge
  | [] => []
  | p :: rest => (findDependingReg isa fd p rest).map (depEdge par p) ++ regEmissions isa fd par rest

/-- the emissions that arise from a memory destination (store → load) -/
def memEmissions (isa : Isa) (par : Params) : List Ins → List Edge
  | [] => []
  | p :: rest => (findDependingMem isa p rest).map (depEdge par p) ++ memEmissions isa par rest

/-- the load-node edges -/
def loadEmissions : List Ins → List Edge
  | [] => []
  | p :: rest => loadEdge p ++ loadEmissions rest

/-- every emission is a load-node edge, a register/flag dependency or a store→load dependency -/
theorem mem_emissions (isa : Isa) (fd : Bool) (par : Params) (k : List Ins) (e : Edge) :
    e ∈ emissions isa fd par k ↔
      e ∈ loadEmissions k ∨ e ∈ regEmissions isa fd par k ∨ e ∈ memEmissions isa par k := by
  induction k with
  | nil => simp [emissions, loadEmissions, regEmissions, memEmissions]
  | cons p rest ih =>
    have hdep : e ∈ (findDepending isa fd p rest).map (depEdge par p) ↔
        e ∈ (findDependingReg isa fd p rest).map (depEdge par p) ∨
          e ∈ (findDependingMem isa p rest).map (depEdge par p) := by
      simp only [List.mem_map, mem_findDepending, or_and_right, exists_or]
    simp only [emissions_cons, loadEmissions, regEmissions, memEmissions, List.mem_append, ih, hdep]
    -- what remains is the regrouping of six disjuncts
    grind

theorem mem_regEmissions (isa : Isa) (fd : Bool) (par : Params) (k : List Ins) (e : Edge) :
    e ∈ regEmissions isa fd par k ↔
      ∃ i p, k[i]? = some p ∧ ∃ x ∈ findDependingReg isa fd p (k.drop (i + 1)), e = depEdge par p x := by
  induction k with
  | nil => simp [regEmissions]
  | cons q rest ih =>
    simp only [regEmissions, List.mem_append, List.mem_map, ih]
    constructor
    · rintro (⟨x, hx, rfl⟩ | ⟨i, p, hi, x, hx, rfl⟩)
      · exact ⟨0, q, rfl, x, hx, rfl⟩
      · exact ⟨i + 1, p, hi, x, hx, rfl⟩
    · rintro ⟨i, p, hi, x, hx, rfl⟩
      cases i with
      | zero => cases hi; exact Or.inl ⟨x, hx, rfl⟩
      | succ i => exact Or.inr ⟨i, p, hi, x, hx, rfl⟩

/-- shape of every emission in a kernel with increasing line numbers: a load-node edge `(line, load) → (line)`, or
    a dependency edge from the producer to a strictly later line; both endpoints are lines of the kernel -/
theorem emissions_shape (isa : Isa) (fd : Bool) (par : Params) (k : List Ins) (hwf : WFKernel k) :
    ∀ e ∈ emissions isa fd par k,
      e.dst.load = false ∧ (e.src.load = false → e.src.line < e.dst.line) ∧
      (e.src.load = true → e.src.line = e.dst.line) ∧
      (∃ p ∈ k, p.line = e.src.line) ∧ (∃ c ∈ k, c.line = e.dst.line) := by
  induction k with
  | nil => intro e he; cases he
  | cons p rest ih =>
    intro e he
    rw [emissions_cons] at he
    rcases List.mem_append.mp he with he | he
    · have hp : ∃ a ∈ p :: rest, a.line = p.line := ⟨p, List.mem_cons_self, rfl⟩
      rcases List.mem_append.mp he with he | he
      · obtain ⟨hs, hd⟩ := mem_loadEdge he
        rw [hs, hd]
        exact ⟨rfl, fun h => (nomatch h), fun _ => rfl, hp, hp⟩
      · obtain ⟨x, hx, rfl⟩ := List.mem_map.mp he
        obtain ⟨c, hc, hcl⟩ := findDepending_lines isa fd p rest x hx
        exact ⟨rfl, fun _ => Nat.lt_of_lt_of_eq (hwf.head_lt c hc) hcl, fun h => (nomatch h), hp,
          ⟨c, List.mem_cons_of_mem _ hc, hcl⟩⟩
    · obtain ⟨h1, h2, h3, ⟨a, ha, hal⟩, ⟨b, hb, hbl⟩⟩ := ih hwf.tail e he
      exact ⟨h1, h2, h3, ⟨a, List.mem_cons_of_mem _ ha, hal⟩, ⟨b, List.mem_cons_of_mem _ hb, hbl⟩⟩

/-! ### `dedupLast` (`add_edge`): same pairs, each once, weight of the last emission -/

/-- the (source, target) pair of an edge — the key of networkx' `add_edge` -/
def pairOf (e : Edge) : Node × Node := (e.src, e.dst)

theorem dedupLast_snoc (es : List Edge) (x : Edge) : dedupLast (es ++ [x]) = addEdge (dedupLast es) x := by
  simp [dedupLast, List.foldl_append]

theorem samePair_iff (f x : Edge) : (f.src == x.src && f.dst == x.dst) = true ↔ pairOf f = pairOf x := by
  simp [pairOf]

theorem any_pair_iff (acc : List Edge) (x : Edge) :
    acc.any (fun f => f.src == x.src && f.dst == x.dst) = true ↔ ∃ f ∈ acc, pairOf f = pairOf x := by
  simp only [List.any_eq_true, samePair_iff]

/-- membership after one `add_edge`: the new edge itself, and the old edges of other pairs -/
theorem mem_addEdge (acc : List Edge) (x e : Edge) :
    e ∈ addEdge acc x ↔ e = x ∨ (e ∈ acc ∧ pairOf e ≠ pairOf x) := by
  have overwrite {f : Edge} (h : (f.src == x.src && f.dst == x.dst) = true) : { f with w := x.w } = x := by
    obtain ⟨hs, hd⟩ := Prod.mk.inj ((samePair_iff f x).mp h)
    cases f; cases x; cases hs; cases hd; rfl
  unfold addEdge
  by_cases h : acc.any (fun f => f.src == x.src && f.dst == x.dst) = true
  · rw [if_pos h, List.mem_map]
    constructor
    · rintro ⟨f, hf, rfl⟩
      by_cases hc : (f.src == x.src && f.dst == x.dst) = true
      · rw [if_pos hc]; exact Or.inl (overwrite hc)
      · rw [if_neg hc]; exact Or.inr ⟨hf, fun hp => hc ((samePair_iff f x).mpr hp)⟩
    · rintro (rfl | ⟨he, hne⟩)
      · obtain ⟨f, hf, hc⟩ := List.any_eq_true.mp h
        exact ⟨f, hf, by rw [if_pos hc]; exact overwrite hc⟩
      · exact ⟨e, he, if_neg fun hc => hne ((samePair_iff e x).mp hc)⟩
  · rw [if_neg h, List.mem_append, List.mem_singleton]
    constructor
    · rintro (he | rfl)
      · exact Or.inr ⟨he, fun hp => h ((any_pair_iff acc x).mpr ⟨e, he, hp⟩)⟩
      · exact Or.inl rfl
    · rintro (rfl | ⟨he, _⟩)
      · exact Or.inr rfl
      · exact Or.inl he

theorem map_pairOf_addEdge (acc : List Edge) (x : Edge) :
    (addEdge acc x).map pairOf =
      if acc.any (fun f => f.src == x.src && f.dst == x.dst) then acc.map pairOf
      else acc.map pairOf ++ [pairOf x] := by
  unfold addEdge
  split
  · rw [List.map_map]
    apply List.map_congr_left
    intro f _
    simp only [Function.comp]
    split <;> rfl
  · simp

/-- **exact characterisation of `dedupLast`**: an edge is in the result iff it is the *last* emission
    for its (source, target) pair -/
theorem mem_dedupLast (es : List Edge) (e : Edge) :
    e ∈ dedupLast es ↔ ∃ pre post, es = pre ++ e :: post ∧ ∀ f ∈ post, pairOf f ≠ pairOf e := by
  induction es using List.reverseRecOn with
  | nil => simp [dedupLast]
  | append_singleton es x ih =>
    rw [dedupLast_snoc, mem_addEdge, ih]
    constructor
    · rintro (rfl | ⟨⟨pre, post, rfl, hpost⟩, hne⟩)
      · exact ⟨es, [], rfl, fun _ h => nomatch h⟩
      · refine ⟨pre, post ++ [x], List.append_assoc pre (e :: post) [x], fun f hf => ?_⟩
        rcases List.mem_append.mp hf with hf | hf
        · exact hpost f hf
        · cases List.mem_singleton.mp hf
          exact fun h => hne h.symm
    · rintro ⟨pre, post, heq, hpost⟩
      rcases List.eq_nil_or_concat post with rfl | ⟨post', y, rfl⟩
      · exact Or.inl (List.cons.inj (List.append_inj_right' heq rfl)).1.symm
      · rw [List.concat_eq_append] at heq hpost
        obtain ⟨h1, h2⟩ := List.append_inj' (heq.trans (List.append_assoc pre (e :: post') [y]).symm) rfl
        cases h2
        exact Or.inr ⟨⟨pre, post', h1, fun f hf => hpost f (List.mem_append_left _ hf)⟩,
          fun h => hpost x (List.mem_append_right _ (List.mem_singleton_self x)) h.symm⟩

theorem dedupLast_subset (es : List Edge) (g : Edge) (h : g ∈ dedupLast es) : g ∈ es := by
  obtain ⟨pre, post, rfl, _⟩ := (mem_dedupLast es g).mp h
  exact List.mem_append_right _ List.mem_cons_self

theorem dedupLast_nodup (es : List Edge) : ((dedupLast es).map pairOf).Nodup := by
  induction es using List.reverseRecOn with
  | nil => simp [dedupLast]
  | append_singleton es x ih =>
    rw [dedupLast_snoc, map_pairOf_addEdge]
    split
    · exact ih
    · rename_i h
      refine List.nodup_append.mpr ⟨ih, by simp, ?_⟩
      intro pr hpr b hx heq
      simp only [List.mem_singleton] at hx
      subst hx
      subst heq
      obtain ⟨f, hf, hp⟩ := List.mem_map.mp hpr
      exact h ((any_pair_iff _ x).mpr ⟨f, hf, hp⟩)

theorem dedupLast_pairs_iff (es : List Edge) (pr : Node × Node) :
    pr ∈ (dedupLast es).map pairOf ↔ pr ∈ es.map pairOf := by
  induction es using List.reverseRecOn with
  | nil => rfl
  | append_singleton es x ih =>
    rw [dedupLast_snoc, map_pairOf_addEdge, List.map_append, List.mem_append, ← ih]
    split
    next h =>
      -- the pair of `x` is there already
      obtain ⟨f, hf, hp⟩ := (any_pair_iff _ x).mp h
      refine ⟨Or.inl, fun h => h.elim id fun h => ?_⟩
      cases List.mem_singleton.mp h
      exact List.mem_map.mpr ⟨f, hf, hp⟩
    next => exact List.mem_append

end OsacaVerif.DG
