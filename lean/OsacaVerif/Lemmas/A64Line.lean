import OsacaVerif.Lemmas.A64Operand
/-
  From operands to lines: white-space invariance of the operand parsers, the end of a line, the
  operand slots (induction over the operand list), comments, the instruction grammar on a rendered
  line, and the classification of an instruction line.
-/
namespace OsacaVerif.ParseA64
open OsacaVerif.Text OsacaVerif.Spec.A64 OsacaVerif.Gen

/-! ### every operand parser starts by skipping white space (the terminals: A64Prim) -/
theorem registerCore_skip (s : Txt) : registerCore (skipWs s) = registerCore s := by
  simp only [registerCore, aliasP, vectorP, scalarP, predicateP, registerList, char1_skip, clit_skip,
    lit_skip, skipWs_idem]
theorem registerP_skip (s : Txt) : registerP (skipWs s) = registerP s := by
  simp only [registerP, registerCore_skip]
theorem conditionP_skip (s : Txt) : conditionP (skipWs s) = conditionP s := by
  simp only [conditionP, clitOr_skip]
theorem identifier_skip (s : Txt) : identifier (skipWs s) = identifier s := by
  simp only [identifier, optP, relocation, skipWs_idem, sk_true]
theorem immediate_skip (s : Txt) : immediate (skipWs s) = immediate s := by
  simp only [immediate, optLit_skip]
theorem memoryP_skip (s : Txt) : memoryP (skipWs s) = memoryP s := by
  simp only [memoryP, lit_skip]
theorem arithP_skip (s : Txt) : arithP (skipWs s) = arithP s := by
  simp only [arithP, immediate_skip]
theorem prefetchP_skip (s : Txt) : prefetchP (skipWs s) = prefetchP s := by
  simp only [prefetchP, clitOr_skip]
theorem commentP_skip (s : Txt) : commentP (skipWs s) = commentP s := by
  simp only [commentP, lit_skip]

theorem operandRest_skip (s : Txt) : operandRest (skipWs s) = operandRest s := by
  simp only [operandRest, arithOp, registerP_skip, conditionP_skip, identifier_skip, immediate_skip, memoryP_skip,
    arithP_skip]
theorem operandFirst_skip (s : Txt) : operandFirst (skipWs s) = operandFirst s := by
  simp only [operandFirst, arithOp, registerP_skip, prefetchP_skip, identifier_skip, immediate_skip, memoryP_skip,
    arithP_skip]

/-! ### the end of a line -/
/-- what follows the last operand: blanks, then nothing or a `//` comment -/
def IsTail (tail : Txt) : Prop := ∃ g, Blank g ∧ (tail = g ∨ ∃ c, tail = g ++ 47 :: 47 :: c)

theorem IsTail.skip {tail : Txt} (h : IsTail tail) : skipWs tail = [] ∨ ∃ c, skipWs tail = 47 :: 47 :: c := by
  obtain ⟨g, hg, h | ⟨c, h⟩⟩ := h
  · left; rw [h]; exact skipWs_blank g hg
  · right; exact ⟨c, by rw [h, skipWs_blank_cons g 47 _ hg (by decide)]⟩

theorem IsTail.ofSkip {tail : Txt} (h : IsTail tail) : IsTail (skipWs tail) := by
  rcases h.skip with h | ⟨c, h⟩
  · exact ⟨[], blank_nil, Or.inl h⟩
  · exact ⟨[], blank_nil, Or.inr ⟨c, by simpa using h⟩⟩

/-- a gap and a character: the text begins with a blank or with that character -/
theorem blank_append_head {g : Txt} (hg : Blank g) (c : Nat) (t : Txt) :
    ∀ c' r, g ++ c :: t = c' :: r → isBlankC c' = true ∨ c' = c := by
  intro c' r h
  cases g with
  | nil => exact Or.inr (List.cons.inj h).1.symm
  | cons b g' => exact Or.inl ((List.cons.inj h).1 ▸ hg.cons.1)

/-- `Follow` from the first character and from what is left when the white space is skipped: nothing,
    a comment, or a comma behind which no shift operator stands -/
theorem Follow.of_skip {rest : Txt}
    (hhead : ∀ c r, rest = c :: r → isBlankC c = true ∨ c = 44 ∨ c = 47 ∨ c = 93)
    (hsk : skipWs rest = [] ∨ (∃ c, skipWs rest = 47 :: 47 :: c) ∨ ∃ r, skipWs rest = 44 :: r ∧ shiftOp r = none) :
    Follow rest := by
  refine ⟨hhead, fun c r hc => ?next, fun r hl => ?noShift, fun r hr => ?slash⟩
  case next =>
    rcases hsk with h | ⟨x, h⟩ | ⟨x, h, _⟩ <;> rw [h] at hc
    · cases hc
    · exact Or.inr (Or.inl (List.cons.inj hc).1.symm)
    · exact Or.inl (List.cons.inj hc).1.symm
  case noShift =>
    rcases hsk with h | ⟨x, h⟩ | ⟨x, h, hs⟩ <;> rw [lit, sk_true, h] at hl
    · cases hl
    · cases hl
    · exact (show x = r by simpa [dropPrefix] using hl) ▸ hs
  case slash =>
    rcases hsk with h | ⟨x, h⟩ | ⟨x, h, _⟩ <;> rw [h] at hr
    · cases hr
    · exact ⟨x, (List.cons.inj hr).2.symm⟩
    · cases hr

theorem IsTail.follow {tail : Txt} (h : IsTail tail) : Follow tail := by
  refine Follow.of_skip (fun c r hc => ?_) (h.skip.imp_right Or.inl)
  obtain ⟨g, hg, rfl | ⟨cm, rfl⟩⟩ := h
  · subst hc; exact Or.inl hg.cons.1
  · exact (blank_append_head hg 47 _ c r hc).imp_right fun e => Or.inr (Or.inl e)

/-- at the end of the line (blanks, then nothing or a comment) no operand is read -/
theorem operand_tail (tail : Txt) (h : IsTail tail) : operandRest tail = none ∧ operandFirst tail = none := by
  rw [← operandRest_skip, ← operandFirst_skip]
  rcases h.skip with h0 | ⟨t, h0⟩ <;> rw [h0]
  · decide
  · have hws : isWs 47 = false := by decide
    have himm : immediate (47 :: 47 :: t) = none :=
      immediate_none_head [] 47 _ blank_nil hws (by decide) (by decide) (by decide)
    obtain ⟨h1, h2⟩ := operand_alts (47 :: 47 :: t) (conditionP_none_nonalpha [] 47 _ blank_nil hws (by decide))
      (prefetchP_none_nonalpha [] 47 _ blank_nil hws (by decide))
      (memoryP_none_head [] 47 _ blank_nil hws (by decide)) (by rw [arithP, himm])
    rw [h1, h2, himm, show registerP (47 :: 47 :: t) = none from
        registerP_none_nonalpha [] 47 _ blank_nil hws (by decide) (by decide),
      show identifier (47 :: 47 :: t) = none from identifier_none_head [] 47 _ blank_nil hws (by decide) (by decide)]
    exact ⟨rfl, rfl⟩

theorem restSlots_tail (n : Nat) (tail : Txt) (h : IsTail tail) :
    restSlots n tail = ([], if n = 0 then tail else skipWs tail) := by
  induction n generalizing tail with
  | zero => rfl
  | succ n ih =>
    have h1 : optLit true [44] tail = skipWs tail := by
      have : lit true [44] tail = none := by
        rcases h.skip with h0 | ⟨c, h0⟩ <;> simp [lit, sk_true, h0, dropPrefix]
      simp [optLit, this, sk_true]
    have h2 : operandRest (skipWs tail) = none := (operand_tail _ h.ofSkip).1
    have ih' := ih (skipWs tail) h.ofSkip
    simp only [restSlots, h1, optP, h2, sk_true, skipWs_idem, opt2list, ih', List.nil_append]
    split <;> simp

/-! ### what it means that an operand text is read in its slot -/
/-- what may follow an operand: anything `Follow`; for an operand that has to be the last one (a memory
    reference) only the end of the line -/
def After (last : Bool) (rest : Txt) : Prop := if last then IsTail rest else Follow rest

theorem After.follow {last : Bool} {rest : Txt} (h : After last rest) : Follow rest := by
  cases last with
  | true => exact IsTail.follow h
  | false => exact h

/-- the text `T` of one rendered operand (without the gap in front of it) is read as `raw`, in the first
    and in the later operand slots, whatever follows (as far as `After last` admits) -/
structure GoodOp (last fst : Bool) (T : Txt) (raw : RawOp) : Prop where
  rest : ∀ g rest, Blank g → After last rest →
    ∃ r', operandRest (g ++ (T ++ rest)) = some (raw, r') ∧ skipWs r' = skipWs rest
  /-- only for kinds that may stand in the first operand slot (`fst`) -/
  first : fst = true → ∀ g rest, Blank g → After last rest →
    ∃ r', operandFirst (g ++ (T ++ rest)) = some (raw, r') ∧ skipWs r' = skipWs rest
  /-- the operand is not mistaken for the shift of the operand in front of it -/
  noShift : ∀ g rest, Blank g → After last rest → shiftOp (g ++ (T ++ rest)) = none
  /-- it starts with a visible character other than `:` and `+` (the line is not read as a label) -/
  head : ∃ c t, T = c :: t ∧ isWs c = false ∧ c ≠ 58 ∧ c ≠ 43

theorem GoodOp.weaken {fst : Bool} {T : Txt} {raw : RawOp} (h : GoodOp false fst T raw) : GoodOp true fst T raw :=
  ⟨fun g rest hg ha => h.rest g rest hg (IsTail.follow ha),
   fun hf g rest hg ha => h.first hf g rest hg (IsTail.follow ha),
   fun g rest hg ha => h.noShift g rest hg (IsTail.follow ha), h.head⟩

theorem GoodOp.any {fst : Bool} {T : Txt} {raw : RawOp} (h : GoodOp false fst T raw) (last : Bool) :
    GoodOp last fst T raw := by
  cases last with
  | true => exact h.weaken
  | false => exact h

/-- what the first operand slot needs: the text is read as `raw` there (kinds that may only stand first,
    like a prefetch operation, have only this) -/
structure GoodFirst (last : Bool) (T : Txt) (raw : RawOp) : Prop where
  first : ∀ g rest, Blank g → After last rest →
    ∃ r', operandFirst (g ++ (T ++ rest)) = some (raw, r') ∧ skipWs r' = skipWs rest
  /-- it starts with a visible character other than `+`; a colon is the colon of a relocation (so that
      the line is not read as a label) -/
  head : ∃ c t, T = c :: t ∧ isWs c = false ∧ c ≠ 43 ∧ (c = 58 → ∃ d t', t = d :: t' ∧ isRelocC d = true)

theorem GoodOp.toFirst {last : Bool} {T : Txt} {raw : RawOp} (h : GoodOp last true T raw) : GoodFirst last T raw := by
  obtain ⟨c, t, hT, hws, h58, h43⟩ := h.head
  exact ⟨h.first rfl, ⟨c, t, hT, hws, h43, fun e => absurd e h58⟩⟩

theorem GoodFirst.weaken {T : Txt} {raw : RawOp} (h : GoodFirst false T raw) : GoodFirst true T raw :=
  ⟨fun g rest hg ha => h.first g rest hg (IsTail.follow ha), h.head⟩

/-- what a later operand slot needs (kinds that may not stand first, like an identifier written with a
    relocation, have only this) -/
structure GoodRest (last : Bool) (T : Txt) (raw : RawOp) : Prop where
  rest : ∀ g rest, Blank g → After last rest →
    ∃ r', operandRest (g ++ (T ++ rest)) = some (raw, r') ∧ skipWs r' = skipWs rest
  noShift : ∀ g rest, Blank g → After last rest → shiftOp (g ++ (T ++ rest)) = none

theorem GoodOp.toRest {last fst : Bool} {T : Txt} {raw : RawOp} (h : GoodOp last fst T raw) : GoodRest last T raw :=
  ⟨h.rest, h.noShift⟩

theorem GoodRest.weaken {T : Txt} {raw : RawOp} (h : GoodRest false T raw) : GoodRest true T raw :=
  ⟨fun g rest hg ha => h.rest g rest hg (IsTail.follow ha),
   fun g rest hg ha => h.noShift g rest hg (IsTail.follow ha)⟩

theorem GoodOp.notFirst {last fst : Bool} {T : Txt} {raw : RawOp} (h : GoodOp last fst T raw) :
    GoodOp last false T raw :=
  ⟨h.rest, fun hf => Bool.noConfusion hf, h.noShift, h.head⟩

/-! ### the operand slots after the first -/
/-- one later operand: gap, comma, gap, text -/
structure Slot where
  g1 : Txt
  g2 : Txt
  text : Txt
  raw : RawOp

/-- the later operands: blank gaps, every operand `GoodRest`; only the last one may be of a kind that has
    to be last -/
def SlotsOk : List Slot → Prop
  | [] => True
  | x :: xs => Blank x.g1 ∧ Blank x.g2 ∧ GoodRest xs.isEmpty x.text x.raw ∧ SlotsOk xs

def restText : List Slot → Txt → Txt
  | [], tail => tail
  | x :: xs, tail => x.g1 ++ 44 :: (x.g2 ++ (x.text ++ restText xs tail))

theorem follow_restText (xs : List Slot) (tail : Txt) (hx : SlotsOk xs) (ht : IsTail tail) :
    Follow (restText xs tail) := by
  induction xs with
  | nil => exact ht.follow
  | cons x xs ih =>
    have ⟨h1, h2, hgood, hrest⟩ := hx
    have hafter : After xs.isEmpty (restText xs tail) := by
      cases xs with
      | nil => exact ht
      | cons y ys => exact ih hrest
    exact Follow.of_skip
      (fun c r hc => (blank_append_head h1 44 _ c r hc).imp_right Or.inl)
      (Or.inr (Or.inr ⟨_, by rw [restText, skipWs_blank_cons _ 44 _ h1 (by decide)],
        hgood.noShift x.g2 _ h2 hafter⟩))

/-- what follows the operand in front of `xs` is admissible for it -/
theorem after_restText (xs : List Slot) (tail : Txt) (hx : SlotsOk xs) (ht : IsTail tail) :
    After xs.isEmpty (restText xs tail) := by
  cases xs with
  | nil => exact ht
  | cons x xs => exact follow_restText (x :: xs) tail hx ht

theorem restSlots_congr (n : Nat) (r1 r2 : Txt) (h : skipWs r1 = skipWs r2) :
    (restSlots n r1).1 = (restSlots n r2).1 ∧ skipWs (restSlots n r1).2 = skipWs (restSlots n r2).2 := by
  cases n with
  | zero => exact ⟨rfl, h⟩
  | succ n =>
    have : optLit true [44] r1 = optLit true [44] r2 := by rw [← optLit_skip, h, optLit_skip]
    simp only [restSlots, this]; trivial

theorem optLit_comma_slot (x : Slot) (R : Txt) (h1 : Blank x.g1) :
    optLit true [44] (x.g1 ++ 44 :: (x.g2 ++ (x.text ++ R))) = x.g2 ++ (x.text ++ R) := by
  simp [optLit, lit, sk_true, skipWs_blank_cons _ 44 _ h1 (by decide : isWs 44 = false), dropPrefix]

/-- **the operand slots after the first** read the rendered operands one by one (∀ number of operands
    that fit into the slots, ∀ gaps) -/
theorem restSlots_ops (xs : List Slot) (tail : Txt) (n : Nat) (hn : xs.length ≤ n)
    (hx : SlotsOk xs) (ht : IsTail tail) :
    (restSlots n (restText xs tail)).1 = xs.map (·.raw) ∧
      skipWs (restSlots n (restText xs tail)).2 = skipWs tail := by
  induction xs generalizing n with
  | nil =>
    rw [show restText [] tail = tail from rfl, restSlots_tail n tail ht]
    refine ⟨rfl, ?_⟩
    split <;> simp [skipWs_idem]
  | cons x xs ih =>
    cases n with
    | zero => simp at hn
    | succ n =>
      have ⟨h1, h2, hgood, hrest⟩ := hx
      obtain ⟨r', hr', hsk⟩ := hgood.rest x.g2 (restText xs tail) h2 (after_restText xs tail hrest ht)
      have ih' := ih n (by simpa using hn) hrest
      have hc := restSlots_congr n r' (restText xs tail) hsk
      simp only [restText, restSlots, optLit_comma_slot x _ h1, optP, hr', opt2list, List.map_cons,
        List.singleton_append]
      exact ⟨by rw [hc.1, ih'.1], by rw [hc.2, ih'.2]⟩

/-! ### comments -/
/-- a comment word: non-empty, printable characters -/
def IsWord (w : Txt) : Prop := w ≠ [] ∧ ∀ c ∈ w, isPrintC c = true

/-- what `commentWords` emits for the pending word `cur` (kept reversed) when the word ends -/
def flush (cur : Txt) : List Txt := if cur.isEmpty then [] else [cur.reverse]

theorem flush_nil : flush [] = [] := rfl
theorem flush_ne {cur : Txt} (h : cur ≠ []) : flush cur = [cur.reverse] := by
  cases cur with
  | nil => exact absurd rfl h
  | cons c cur => rfl

/-! the three cases of `commentWords`, with `flush` -/
theorem commentWords_nil (cur : Txt) : commentWords [] cur = (flush cur, []) := rfl

theorem commentWords_ws (c : Nat) (r cur : Txt) (h : isWs c = true) :
    commentWords (c :: r) cur = (flush cur ++ (commentWords r []).1, (commentWords r []).2) := by
  rw [commentWords, if_pos h]; rfl

theorem commentWords_print (c : Nat) (r cur : Txt) (h : isPrintC c = true) :
    commentWords (c :: r) cur = commentWords r (c :: cur) := by
  rw [commentWords, if_neg (by rw [print_not_ws c h]; decide), if_pos h]

theorem commentWords_word (w s cur : Txt) (hw : ∀ c ∈ w, isPrintC c = true) :
    commentWords (w ++ s) cur = commentWords s (w.reverse ++ cur) := by
  induction w generalizing cur with
  | nil => rfl
  | cons c w ih =>
    rw [List.cons_append, commentWords_print c _ cur (hw c List.mem_cons_self),
      ih (c :: cur) (fun d hd => hw d (List.mem_cons_of_mem c hd)), List.reverse_cons, List.append_assoc]
    rfl

/-- a gap ends the pending word (if there is one, the gap is not empty) and is skipped -/
theorem commentWords_gap (g s cur : Txt) (hg : Blank g) (hne : cur ≠ [] → g ≠ []) :
    commentWords (g ++ s) cur = (flush cur ++ (commentWords s []).1, (commentWords s []).2) := by
  induction g generalizing cur with
  | nil =>
    have hc : cur = [] := Classical.byContradiction fun h => hne h rfl
    rw [hc]; rfl
  | cons b g' ih =>
    have ⟨hb, hg'⟩ := hg.cons
    -- the first blank ends the pending word; the rest of the gap (`ih` with nothing pending) is skipped
    rw [List.cons_append, commentWords_ws b _ cur (isWs_of_isBlankC b hb), ih [] hg' (fun h => absurd rfl h)]
    rfl

/-- gaps and words of a rendered comment, and the trailing gap -/
def commentBody : List (Txt × Txt) → Txt → Txt
  | [], gEnd => gEnd
  | x :: xs, gEnd => x.1 ++ (x.2 ++ commentBody xs gEnd)

def FirstGapNe : List (Txt × Txt) → Prop
  | [] => True
  | y :: _ => y.1 ≠ []

def BodyOk : List (Txt × Txt) → Prop
  | [] => True
  | x :: xs => Blank x.1 ∧ IsWord x.2 ∧ FirstGapNe xs ∧ BodyOk xs

theorem commentWords_blank_end (g cur : Txt) (hg : Blank g) : commentWords g cur = (flush cur, []) := by
  induction g generalizing cur with
  | nil => rfl
  | cons b g ih =>
    rw [commentWords_ws b g cur (isWs_of_isBlankC b hg.cons.1), ih [] hg.cons.2, flush_nil, List.append_nil]

theorem commentWords_body (xs : List (Txt × Txt)) (gEnd cur : Txt) (hx : BodyOk xs) (hgE : Blank gEnd)
    (hfirst : cur ≠ [] → FirstGapNe xs) :
    commentWords (commentBody xs gEnd) cur = (flush cur ++ xs.map (·.2), []) := by
  induction xs generalizing cur with
  | nil => rw [commentBody, commentWords_blank_end gEnd cur hgE]; simp
  | cons x xs ih =>
    obtain ⟨hg, ⟨hwne, hwp⟩, hnext, hrest⟩ := hx
    rw [commentBody, commentWords_gap _ _ cur hg hfirst, commentWords_word x.2 _ [] hwp, List.append_nil,
      ih x.2.reverse hrest (fun _ => hnext), flush_ne (cur := x.2.reverse) (by simpa using hwne),
      List.reverse_reverse]
    rfl

/-- **comment** (∀ words, ∀ gaps): `//` and the words in any layout are read back as the word list -/
theorem commentP_body (g : Txt) (xs : List (Txt × Txt)) (gEnd : Txt) (hg : Blank g) (hx : BodyOk xs)
    (hgE : Blank gEnd) :
    ∃ r, commentP (g ++ 47 :: 47 :: commentBody xs gEnd) = some (xs.map (·.2), r) ∧ skipWs r = [] := by
  have hl : lit true A64.commentSym (g ++ 47 :: 47 :: commentBody xs gEnd) = some (commentBody xs gEnd) := by
    simp [lit, sk_true, skipWs_blank_cons g 47 _ hg (by decide : isWs 47 = false),
      A64.commentSym, dropPrefix]
  have hb : commentWords (commentBody xs gEnd) [] = (xs.map (·.2), []) :=
    commentWords_body xs gEnd [] hx hgE (fun h => absurd rfl h)
  -- without words the grammar's `ZeroOrMore` has not moved: the position is behind the white space
  cases xs with
  | nil => exact ⟨skipWs gEnd, by simp only [commentP, hl, hb]; rfl, by rw [skipWs_idem, skipWs_blank gEnd hgE]⟩
  | cons x xs => exact ⟨[], by simp only [commentP, hl, hb]; rfl, rfl⟩

/-- the end of a rendered line: a gap, then nothing or `//` with words -/
structure LineTail where
  g : Txt
  comment : Option (List (Txt × Txt) × Txt)

def LineTail.text (t : LineTail) : Txt :=
  match t.comment with
  | none => t.g
  | some (xs, gEnd) => t.g ++ 47 :: 47 :: commentBody xs gEnd

def LineTail.words (t : LineTail) : Option (List Txt) :=
  match t.comment with
  | none => none
  | some (xs, _) => some (xs.map (·.2))

def LineTail.Ok (t : LineTail) : Prop :=
  Blank t.g ∧ match t.comment with | none => True | some (xs, gEnd) => BodyOk xs ∧ Blank gEnd

theorem LineTail.isTail (t : LineTail) (h : t.Ok) : IsTail t.text := by
  refine ⟨t.g, h.1, ?_⟩
  unfold LineTail.text
  cases t.comment with
  | none => exact Or.inl rfl
  | some x => exact Or.inr ⟨_, rfl⟩

/-- comment and end of input after the operands -/
theorem comment_end (t : LineTail) (h : t.Ok) (r' : Txt) (hr : skipWs r' = skipWs t.text) :
    atEnd (optP true commentP r').2 = true ∧ (optP true commentP r').1 = t.words := by
  have hc : commentP r' = commentP t.text := by rw [← commentP_skip, hr, commentP_skip]
  obtain ⟨g, c⟩ := t
  match c, h with
  | none, ⟨hg, _⟩ =>
    have hnone : commentP g = none := by
      simp [commentP, lit, sk_true, skipWs_blank g hg, A64.commentSym, dropPrefix]
    rw [optP_none true commentP r' (hc.trans hnone)]
    exact ⟨by simp [atEnd, sk_true, hr.trans (skipWs_blank g hg), skipWs], rfl⟩
  | some (xs, gEnd), ⟨hg, hx, hgE⟩ =>
    obtain ⟨r, hcp, hre⟩ := commentP_body g xs gEnd hg hx hgE
    rw [optP_some true commentP r' _ r (hc.trans hcp)]
    exact ⟨by simp [atEnd, hre], rfl⟩

/-! ### the instruction grammar on a rendered line -/
/-- the text after the mnemonic: nothing, or a non-empty gap, the first operand and the later slots -/
def afterMnemonic (first : Option (Txt × Txt × RawOp)) (xs : List Slot) (tail : Txt) : Txt :=
  match first with
  | none => tail
  | some (g1, T1, _) => g1 ++ (T1 ++ restText xs tail)

def firstRaw (first : Option (Txt × Txt × RawOp)) : List RawOp :=
  match first with
  | none => []
  | some (_, _, raw1) => [raw1]

def FirstOk (first : Option (Txt × Txt × RawOp)) (xs : List Slot) : Prop :=
  match first with
  | none => xs = []
  | some (g1, T1, raw1) => Blank g1 ∧ g1 ≠ [] ∧ GoodFirst xs.isEmpty T1 raw1 ∧ SlotsOk xs

/-- behind the mnemonic comes a blank or the end of the line -/
theorem afterMnemonic_headStop (first : Option (Txt × Txt × RawOp)) (xs : List Slot) (t : LineTail)
    (hfirst : FirstOk first xs) (ht : t.Ok) : HeadStop (afterMnemonic first xs t.text) := by
  match first, hfirst with
  | none, _ => exact (t.isTail ht).follow.headStop
  | some (b :: g', T1, raw1), ⟨hb, _, _, _⟩ =>
    exact ⟨fun c r hc => Or.inl (by rw [← (List.cons.inj hc).1]; exact hb.cons.1)⟩
  | some ([], T1, raw1), ⟨_, hne, _, _⟩ => exact absurd rfl hne

/-- **instruction grammar** on a rendered line (∀ mnemonic, ∀ operands that are read in their slots (`FirstOk`), ∀ gaps,
    ∀ comment): the mnemonic, the raw operands in order, the comment words -/
theorem instrP_line (g0 : Txt) (m : Nat) (ms : Txt) (first : Option (Txt × Txt × RawOp)) (xs : List Slot)
    (t : LineTail) (hg0 : Blank g0) (hm : ∀ c ∈ m :: ms, isMnemC c = true)
    (hfirst : FirstOk first xs) (hlen : xs.length ≤ 4) (ht : t.Ok) :
    instrP (g0 ++ (m :: ms ++ afterMnemonic first xs t.text)) =
      some ⟨m :: ms, firstRaw first ++ xs.map (·.raw), t.words⟩ := by
  have htail := t.isTail ht
  have hmws := mnem_not_ws m (hm m (by simp))
  have hstop := (afterMnemonic_headStop first xs t hfirst ht).stops isMnemC _ (by decide)
  have hword : word true isMnemC (g0 ++ (m :: ms ++ afterMnemonic first xs t.text)) =
      some (m :: ms, afterMnemonic first xs t.text) := by
    simp only [word, sk_true, List.cons_append, skipWs_blank_cons g0 m _ hg0 hmws]
    exact wordNS_append isMnemC m ms _ hm hstop
  -- the first slot, then the later slots up to the tail
  have hfst : ∃ o1 r1, optP true operandFirst (afterMnemonic first xs t.text) = (o1, r1) ∧
      opt2list o1 = firstRaw first ∧ (restSlots 4 r1).1 = xs.map (·.raw) ∧
      skipWs (restSlots 4 r1).2 = skipWs t.text := by
    cases first with
    | none =>
      cases (hfirst : xs = [])
      refine ⟨none, skipWs t.text, optP_none true operandFirst _ (operand_tail _ htail).2, rfl, ?_⟩
      rw [restSlots_tail 4 _ htail.ofSkip]
      exact ⟨rfl, by simp [skipWs_idem]⟩
    | some f =>
      obtain ⟨g1, T1, raw1⟩ := f
      obtain ⟨hb, _, hgood, hxs⟩ := hfirst
      obtain ⟨r1, hr1, hsk1⟩ := hgood.first g1 (restText xs t.text) hb (after_restText xs t.text hxs htail)
      have hops := restSlots_ops xs t.text 4 hlen hxs htail
      have hc := restSlots_congr 4 r1 (restText xs t.text) hsk1
      exact ⟨some raw1, r1, optP_some true operandFirst _ raw1 r1 hr1, rfl, hc.1.trans hops.1, hc.2.trans hops.2⟩
  obtain ⟨o1, r1, h1, ho, hl, hsk⟩ := hfst
  have hce := comment_end t ht (restSlots 4 r1).2 hsk
  rw [instrP, hword, show A64.operandSlots - 1 = 4 from rfl]
  simp only [h1, hce.1, if_true, hce.2, ho, hl]

theorem processOperands_map (l : List (RawOp × List Operand))
    (h : ∀ x ∈ l, processOperand x.1 = .ok x.2) :
    processOperands (l.map (·.1)) = .ok (l.map (·.2)).flatten := by
  induction l with
  | nil => rfl
  | cons x l ih =>
    have h1 := h x (by simp)
    have ih' := ih (fun y hy => h y (by simp [hy]))
    simp [processOperands, h1, ih']

/-! ### an instruction line is of no other class -/
/-- what stands behind the mnemonic, white space skipped: nothing, or a character that is no `+`; a
    colon is the colon of a relocation -/
theorem afterMnemonic_visible (first : Option (Txt × Txt × RawOp)) (xs : List Slot) (t : LineTail)
    (hfirst : FirstOk first xs) (ht : t.Ok) :
    skipWs (afterMnemonic first xs t.text) = [] ∨
    ∃ c tl, skipWs (afterMnemonic first xs t.text) = c :: tl ∧ c ≠ 43 ∧
      (c = 58 → ∃ d t', tl = d :: t' ∧ isRelocC d = true) := by
  match first, hfirst with
  | none, _ =>
    rcases (t.isTail ht).skip with h | ⟨c, h⟩
    · exact Or.inl h
    · exact Or.inr ⟨47, 47 :: c, h, by decide, fun h => absurd h (by decide)⟩
  | some (g1, T1, raw1), ⟨hb, _, hgood, _⟩ =>
    obtain ⟨c, tl, hT, hws, h43, hcolon⟩ := hgood.head
    refine Or.inr ⟨c, tl ++ restText xs t.text, ?_, h43, fun hc => ?_⟩
    · rw [afterMnemonic, hT, List.cons_append, skipWs_blank_cons g1 c _ hb hws]
    · obtain ⟨d, t', htl, hd⟩ := hcolon hc
      exact ⟨d, t' ++ restText xs t.text, by rw [htl]; rfl, hd⟩

theorem afterMnemonic_no_plus (first : Option (Txt × Txt × RawOp)) (xs : List Slot) (t : LineTail)
    (hfirst : FirstOk first xs) (ht : t.Ok) :
    lit true [43] (afterMnemonic first xs t.text) = none := by
  rw [lit, sk_true]
  rcases afterMnemonic_visible first xs t hfirst ht with h | ⟨c, tl, h, h43, _⟩ <;> rw [h]
  · rfl
  · simp [dropPrefix, h43]

/-- behind the mnemonic no label colon follows: either no colon at all, or the colon of a relocation,
    behind which the line goes on -/
theorem afterMnemonic_no_label (first : Option (Txt × Txt × RawOp)) (xs : List Slot) (t : LineTail)
    (hfirst : FirstOk first xs) (ht : t.Ok) :
    (match lit true [58] (afterMnemonic first xs t.text) with
     | some r1 => atEnd (optP true commentP r1).2 = false
     | none => True) := by
  rw [lit, sk_true]
  rcases afterMnemonic_visible first xs t hfirst ht with h | ⟨c, tl, h, _, hcolon⟩ <;> rw [h]
  · trivial
  · by_cases hc : c = 58
    · obtain ⟨d, t', rfl, hd⟩ := hcolon hc
      obtain ⟨hdws, hd47⟩ := relocC_facts d hd
      have hcm : commentP (d :: t') = none := by
        simp [commentP, lit, sk_true, skipWs_cons d _ hdws, A64.commentSym, dropPrefix, hd47]
      simp [hc, dropPrefix, optP, hcm, atEnd, sk_true, skipWs_cons d _ hdws]
    · simp [dropPrefix, hc]

/-- an instruction line is not read as a comment, marker, label or directive -/
theorem not_other_class (g0 : Txt) (m : Nat) (ms : Txt) (first : Option (Txt × Txt × RawOp)) (xs : List Slot)
    (t : LineTail) (hg0 : Blank g0) (hm : ∀ c ∈ m :: ms, isMnemC c = true) (hm46 : m ≠ 46)
    (hfirst : FirstOk first xs) (ht : t.Ok) :
    let line := g0 ++ (m :: ms ++ afterMnemonic first xs t.text)
    commentLine line = none ∧ llvmMarker line = none ∧ labelLine line = none ∧ directiveLine line = none := by
  have hmws := mnem_not_ws m (hm m List.mem_cons_self)
  have hb : isAlphaC m = true ∨ isDigitC m = true :=
    ((isMnemC_iff m).mp (hm m List.mem_cons_self)).imp_right (·.resolve_right hm46)
  have hne : m ≠ 47 ∧ m ≠ 35 ∧ m ≠ 58 := by
    rw [isAlphaC_iff, isDigitC_iff] at hb; omega
  -- a literal that does not begin with `m` does not begin the line
  have hlit : ∀ a l, m ≠ a → lit true (a :: l) (g0 ++ m :: (ms ++ afterMnemonic first xs t.text)) = none :=
    fun a l h => lit_head_ne g0 m a _ l hg0 hmws h
  refine ⟨?_, ?_, ?_, ?_⟩
  · simp [commentLine, commentP, A64.commentSym, hlit 47 [47] hne.1]
  · simp [llvmMarker, hlit 35 [] hne.2.1]
  · rcases hb with hal | hd
    · -- the identifier is the mnemonic; no colon follows
      have hid := identifier_word' g0 m ms _ hg0 (alpha_idFirst m hal)
        (fun c hc => mnem_idRest c (hm c (List.mem_cons_of_mem _ hc)))
        ((afterMnemonic_headStop first xs t hfirst ht).stops isIdRestC _ (by decide))
        (afterMnemonic_no_plus first xs t hfirst ht)
      have hcol := afterMnemonic_no_label first xs t hfirst ht
      simp only [List.cons_append, labelLine, hid, lit_skip]
      cases hl : lit true [58] (afterMnemonic first xs t.text) with
      | none => rfl
      | some r1 => rw [hl] at hcol; simp [show atEnd _ = false from hcol]
    · have hidf : isIdFirstC m = false := by
        rw [Bool.eq_false_iff, ne_eq, isIdFirstC_iff, isAlphaC_iff]; rw [isDigitC_iff] at hd; omega
      simp [labelLine, identifier_none_head g0 m _ hg0 hmws hidf hne.2.2]
  · simp [directiveLine, hlit 46 [] hm46]
end OsacaVerif.ParseA64
