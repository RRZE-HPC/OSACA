import OsacaVerif.Lemmas.ParseX86Op
/-
  C09 — line level: post-processing, trailing comment, mnemonic, the four operand slots.
-/
namespace OsacaVerif.ParseX86
open OsacaVerif.Text OsacaVerif.X86 OsacaVerif.Spec.X86R

/-! ### post-processing (`process_operand`) gives the operand back -/

theorem postOp_rawOp (L : OpLayout) (o : Operand) (hv : validOperand o = true) :
    postOp (rawOp L o) = .ok o := by
  cases o with
  | reg n => rfl
  | imm v => simp only [rawOp, postOp, pyInt0_renderInt]
  | ident n => cases h : L.bare <;> simp [rawOp, postOp, h]
  | mem off base index scale seg =>
    obtain ⟨rfl, hoff, _, _, _, his, ⟨v, rfl, rfl, rfl⟩ | hnn⟩ := validMem_cases hv
    · have hs1 : scale = 1 := by simpa using his
      subst hs1
      simp [rawOp, rawMem, postOp, postMem, rawOff, pyInt0_renderInt, Except.map]
    · -- the scale is read back from its digit, or is the default 1 where it was omitted
      have hscale : (match scaleSeen L scale index with | none => 1 | some c => scaleVal c) = scale := by
        by_cases hc : (index.isSome && (scale != 1 || L.showScale)) = true
        · simp [scaleSeen, hc, scaleVal]
        · cases index with
          | none => have : scale = 1 := by simpa using his
                    simp [scaleSeen, this]
          | some i => simp at hc; simp [scaleSeen, hc]
      simp only [rawOp, rawMem, hnn, Bool.false_eq_true, if_false, postOp]
      rcases validOff_cases hoff with rfl | ⟨v, rfl⟩ | ⟨n, rfl, _⟩ <;>
        simp [postMem, rawOff, pyInt0_renderInt, Except.map] <;> exact hscale

theorem postOps_map (ops : List (OpLayout × Operand)) (hv : ∀ p ∈ ops, validOperand p.2 = true) :
    postOps (ops.map fun p => rawOp p.1 p.2) = .ok (ops.map (·.2)) := by
  induction ops with
  | nil => rfl
  | cons p ps ih =>
    simp only [List.map_cons, postOps, postOp_rawOp p.1 p.2 (hv p (by simp)),
      ih (fun q hq => hv q (by simp [hq]))]

/-! ### the trailing comment: `commentWords` on the words the renderer writes -/

theorem joinSp_eq_joinWords (ws : List Txt) : joinSp ws = joinWords ws := by
  induction ws with
  | nil => rfl
  | cons w r ih =>
    cases r with
    | nil => rfl
    | cons w' r' => simp only [joinSp, joinWords, ih]

theorem commentWords_word (acc w rest : Txt) (hw : ∀ c ∈ w, isPrintC c = true) :
    commentWords acc (w ++ rest) = commentWords (w.reverse ++ acc) rest := by
  induction w generalizing acc with
  | nil => rfl
  | cons c cs ih =>
    simp only [List.cons_append, commentWords, hw c (by simp), if_true]
    rw [ih _ (fun d hd => hw d (by simp [hd]))]
    simp

theorem commentWords_ws (acc g : Txt) (hg : AllWs g) : commentWords acc g = (flush acc, []) := by
  induction g generalizing acc with
  | nil => rfl
  | cons c cs ih =>
    have hc := hg c (by simp)
    have hp : isPrintC c = false := ws_not_print c hc
    simp [commentWords, hp, hc, ih [] (fun d hd => hg d (by simp [hd])), flush]

theorem commentWords_gap (acc g rest : Txt) (hg : AllWs g) (hne : g ≠ []) :
    commentWords acc (g ++ rest) = (flush acc ++ (commentWords [] rest).1, (commentWords [] rest).2) := by
  induction g generalizing acc with
  | nil => exact absurd rfl hne
  | cons c cs ih =>
    have hc := hg c (by simp)
    have hp : isPrintC c = false := ws_not_print c hc
    simp only [List.cons_append, commentWords, hp, hc, if_true, Bool.false_eq_true, if_false]
    cases cs with
    | nil => rfl
    | cons d ds =>
      rw [ih [] (fun e he => hg e (by simp [he])) (by simp)]
      simp [flush]

theorem validWord_spec {w : Txt} (h : validWord w = true) : w ≠ [] ∧ ∀ c ∈ w, isPrintC c = true := by
  simp only [validWord, Bool.and_eq_true, Bool.not_eq_true', List.all_eq_true] at h
  refine ⟨by intro e; subst e; simp at h, fun c hc => ?_⟩
  have := h.2 c hc
  simpa [isVisible, isPrintC] using this

/-- the words of a comment, continuing a possibly open word `acc`; the first gap may be empty only
    where no word is open -/
theorem commentWords_words (last : Txt) (hl : AllWs last) : ∀ (ws : List (Txt × Txt)) (acc : Txt),
    validGaps ws = true → (ws.all (fun p => !p.1.isEmpty) = true ∨ acc = []) →
    commentWords acc (renderWords ws ++ last) = (flush acc ++ ws.map (·.2), []) := by
  intro ws
  induction ws with
  | nil => intro acc _ _; simp [renderWords, commentWords_ws acc last hl]
  | cons p ps ih =>
    intro acc hv hacc
    obtain ⟨g, w⟩ := p
    simp only [validGaps, Bool.and_eq_true] at hv
    obtain ⟨⟨⟨hg, hw⟩, hne⟩, hps⟩ := hv
    obtain ⟨hwne, hwp⟩ := validWord_spec hw
    have step : commentWords [] (w ++ (renderWords ps ++ last)) = (w :: ps.map (·.2), []) := by
      rw [commentWords_word [] w _ hwp, List.append_nil, ih w.reverse hps (Or.inl hne)]
      simp [flush, hwne]
    simp only [renderWords, List.append_assoc, List.map_cons]
    cases g with
    | nil =>
      have : acc = [] := hacc.resolve_left (by simp)
      subst this
      exact step
    | cons a as =>
      rw [commentWords_gap acc _ _ (blank_allWs hg) (List.cons_ne_nil a as), step]

theorem commentWords_render (c : CommentLayout) (hc : validComment c = true) :
    commentWords [] (renderWords c.words ++ c.last) = (c.words.map (·.2), []) := by
  simp only [validComment, Bool.and_eq_true] at hc
  exact commentWords_words c.last (blank_allWs hc.2) c.words [] hc.1 (Or.inr rfl)

/-! ### the end of the line after the last operand -/

/-- the text after the last operand: blanks, then a comment or nothing -/
def renderEnd (l : Line) : Txt :=
  l.trail ++ (match l.comment with | some c => renderComment c | none => [])

/-- the comment of `Line.expected`, named for the statements below -/
def expectedComment (l : Line) : Option Txt :=
  l.comment.map fun c => joinWords (c.words.map (·.2))

/-- the characters a comment starts with -/
def ComC (c : Nat) : Bool := c == 35 || c == 47

theorem forall_com {P : Nat → Prop} (h35 : P 35) (h47 : P 47) : ∀ c, ComC c = true → P c := by
  intro c h
  simp only [ComC, Bool.or_eq_true, beq_iff_eq] at h
  rcases h with rfl | rfl <;> assumption

theorem renderEnd_tail (l : Line) (ht : blank l.trail = true)
    (hc : (match l.comment with | some c => validComment c | none => true) = true) :
    Tail ComC (renderEnd l) ∧ tail (renderEnd l) = some (expectedComment l) := by
  have htw := blank_allWs ht
  unfold renderEnd expectedComment
  cases hcm : l.comment with
  | none =>
    have hsk : skipWs l.trail = [] := by simpa using skipWs_append (t := []) htw
    exact ⟨by simpa using Tail.append htw (Tail.nil ComC), by simp [tail, commentStart, hsk, atEnd]⟩
  | some c =>
    rw [hcm] at hc
    have hbody := commentWords_render c hc
    -- `#` or `//`: the same argument, the symbol is not white and starts a comment
    cases hs : c.slashes <;>
      exact ⟨by simpa [renderComment, hs] using Tail.append htw (Tail.cons (S := ComC) _ rfl rfl),
        by simp [renderComment, hs, tail, commentStart, skipWs_append htw, skipWs, isWs, commentBody, hbody,
          atEnd, joinSp_eq_joinWords]⟩

theorem tail_congr {r r' : Txt} (h : skipWs r = skipWs r') : tail r = tail r' := by
  simp [tail, commentStart, atEnd, h]

/-! ### the operand slots after the first operand -/

/-- what follows an operand and its trailing blanks: the end `E`, or a comma and the remaining operands -/
def cont (E : Txt) : List (OpLayout × Operand) → Txt
  | [] => E
  | p :: ps => 44 :: (renderOps (p :: ps) ++ E)

theorem renderOps_cons (E : Txt) (L : OpLayout) (o : Operand) (rest : List (OpLayout × Operand)) :
    renderOps ((L, o) :: rest) ++ E = L.pre ++ (renderOperand L o ++ (L.post ++ cont E rest)) := by
  cases rest with
  | nil => simp [renderOps, cont]
  | cons p ps => simp [renderOps, cont]

/-- well-formedness of the operands after the first -/
def RestOk (ops : List (OpLayout × Operand)) : Prop :=
  ∀ p ∈ ops, validOperand p.2 = true ∧ p.1.blanks.all blank = true ∧ p.1.bare = false

theorem tail_cont {E : Txt} (hE : Tail SepC E) (L : OpLayout) (hp : AllWs L.post)
    (rest : List (OpLayout × Operand)) : Tail SepC (L.post ++ cont E rest) := by
  apply Tail.append hp
  cases rest with
  | nil => exact hE
  | cons p ps => exact Tail.cons _ rfl rfl

/-- the `n` later operand slots read the remaining operands.  The position is only known up to leading
    blanks (`skipWs r = …`): a failing `Optional` leaves it after the blanks, a matching operand rule
    may leave it before them (see the head of `Model/ParseX86.lean`); `tail_congr` and the `∃ r` of
    `operand_ok` are the same device. -/
theorem slots_ok {E : Txt} (hE : Tail SepC E) (hE44 : ∀ c, nextC E = some c → c ≠ 44) :
    ∀ n (rest : List (OpLayout × Operand)), rest.length ≤ n → RestOk rest →
      ∀ r, skipWs r = skipWs (cont E rest) →
        (restSlots n r).1 = rest.map (fun p => rawOp p.1 p.2) ∧ skipWs (restSlots n r).2 = skipWs E := by
  intro n
  induction n with
  | zero =>
    intro rest hl _ r hr
    have : rest = [] := by cases rest <;> simp at hl ⊢
    subst this
    exact ⟨rfl, hr⟩
  | succ n ih =>
    intro rest hl hok r hr
    cases rest with
    | nil =>
      simp only [cont] at hr
      have hnx : nextC r = nextC E := by simp [nextC, hr]
      have h44 : lit [44] r = none := lit1_none (by rw [hnx]; exact hE44)
      have hnone : operandRest (skipWs r) = none := (operand_none (by
        intro c hc; rw [nextC_skipWs, hnx] at hc; exact hE.2 c hc)).2
      have hstep : opt operandRest (optR (lit [44]) r) = (none, skipWs r) := by
        simp [optR, h44, opt, hnone]
      have := ih [] (by simp) (by intro p hp; cases hp) (skipWs r) (by simp [cont, hr])
      simp only [restSlots, hstep, Option.toList_none, List.nil_append, List.map_nil]
      exact this
    | cons p ps =>
      obtain ⟨L, o⟩ := p
      obtain ⟨hv, hbl, hbare⟩ := hok (L, o) (by simp)
      obtain ⟨hpre, hpost, _⟩ := blanks_allWs hbl
      have hsk : skipWs r = 44 :: (L.pre ++ (renderOperand L o ++ (L.post ++ cont E ps))) := by
        rw [hr]; simp only [cont]; rw [renderOps_cons]; rfl
      have h44 : lit [44] r = some (L.pre ++ (renderOperand L o ++ (L.post ++ cont E ps))) := by
        simp [lit, hsk, dropPrefix]
      obtain ⟨r1, hr1, _, hrest⟩ := operand_ok L hbl o hv hpre (tail_cont hE L hpost ps)
      have hstep : opt operandRest (optR (lit [44]) r) = (some (rawOp L o), r1) := by
        simp [optR, h44, opt, hrest hbare]
      have := ih ps (by simp at hl; omega) (fun q hq => hok q (by simp [hq])) r1
        (by rw [hr1, skipWs_append hpost])
      simp only [restSlots, hstep, Option.toList_some, List.map_cons, List.cons_append,
        List.nil_append]
      exact ⟨by rw [this.1], this.2⟩

/-! ### the first visible character after the mnemonic -/

/-- characters an operand or a comment can start with -/
def OpStart (c : Nat) : Prop := c = 37 ∨ c = 36 ∨ MemStart c ∨ ComC c = true

theorem renderOperand_next (L : OpLayout) (hbl : L.blanks.all blank = true) (o : Operand)
    (hv : validOperand o = true) (k : Txt) {b : Txt} (hb : AllWs b) :
    ∃ c, nextC (b ++ (renderOperand L o ++ k)) = some c ∧ OpStart c := by
  cases o with
  | reg n => exact ⟨37, nextC_blanks_cons hb rfl, Or.inl rfl⟩
  | imm v => exact ⟨36, nextC_blanks_cons hb rfl, Or.inr (Or.inl rfl)⟩
  | ident n =>
    cases hbare : L.bare
    · exact ⟨36, by simp only [renderOperand, hbare, Bool.false_eq_true, if_false]
                    rw [nextC_append hb]; rfl, Or.inr (Or.inl rfl)⟩
    · obtain ⟨c, hc, hcc⟩ := validIdent_next hv hb k
      exact ⟨c, by simpa only [renderOperand, hbare, if_true] using hc,
        Or.inr (Or.inr (Or.inl (Or.inr (Or.inr (Or.inr hcc)))))⟩
  | mem off base index scale seg =>
    obtain ⟨_, hoff, _, _, _, _, ⟨v, rfl, rfl, rfl⟩ | hnn⟩ := validMem_cases hv
    · obtain ⟨c, hc, hcc⟩ := renderInt_next L.num v (k := k) hb
      exact ⟨c, hc, Or.inr (Or.inr (Or.inl (Or.inr (hcc.imp id Or.inl))))⟩
    · have hw1 : AllWs L.w1 := by
        simp only [OpLayout.blanks, List.all_cons, Bool.and_eq_true] at hbl
        exact blank_allWs hbl.2.2.1
      obtain ⟨c, hc, hcc⟩ := disp_next L.num off hoff hb hw1
        (L.w2 ++ (renderBase L base ++ (renderIndex L scale index ++ 41 :: k)))
      rw [← renderMem_paren L off scale k hnn] at hc
      exact ⟨c, hc, Or.inr (Or.inr (Or.inl hcc))⟩

/-- after the mnemonic neither a relocation (`@`) nor the `:` of a label follows -/
theorem OpStart.ne {c : Nat} (h : OpStart c) : c ≠ 64 ∧ c ≠ 58 := by
  rcases h with rfl | rfl | h | h
  · decide
  · decide
  · rcases h with rfl | rfl | h | h
    · decide
    · decide
    · exact ⟨ne_of_not_mem rfl h, ne_of_not_mem rfl h⟩
    · exact ⟨ne_of_not_mem rfl h, ne_of_not_mem rfl h⟩
  · exact forall_com (P := fun c => c ≠ 64 ∧ c ≠ 58) (by decide) (by decide) c h

/-! ### the mnemonic and the `data16`/`data32` prefixes -/

/-- a word of letters and digits at the start of `mn ++ A` lies inside `mn` when `A` cannot continue it -/
theorem isPrefixOf_of_append : ∀ (P mn A r : Txt), (∀ c ∈ P, isAlnumC c = true) → Stops isAlnumC A →
    mn ++ A = P ++ r → isPrefixOf P mn = true := by
  intro P
  induction P with
  | nil => intro mn A r _ _ _; cases mn <;> rfl
  | cons p P' ih =>
    intro mn A r hP hA h
    cases mn with
    | nil =>
      simp only [List.nil_append] at h
      have := hA p (by simp [h])
      rw [hP p (by simp)] at this; cases this
    | cons m mn' =>
      simp only [List.cons_append, List.cons.injEq] at h
      simp only [isPrefixOf, Bool.and_eq_true, beq_iff_eq]
      exact ⟨h.1.symm, ih mn' A r (fun c hc => hP c (by simp [hc])) hA h.2⟩

theorem validMnemonic_spec {mn : Txt} (h : validMnemonic mn = true) :
    ∃ m mn', mn = m :: mn' ∧ isAlphaC m = true ∧ (∀ c ∈ mn, isAlnumC c = true) ∧
      isPrefixOf [100, 97, 116, 97, 49, 54] mn = false ∧ isPrefixOf [100, 97, 116, 97, 51, 50] mn = false := by
  cases mn with
  | nil => cases h
  | cons m mn' =>
    simp only [validMnemonic, Bool.and_eq_true, Bool.not_eq_true', List.all_eq_true] at h
    obtain ⟨⟨⟨hm, hr⟩, h16⟩, h32⟩ := h
    have hma : isAlphaC m = true := hm
    refine ⟨m, mn', rfl, hma, fun c hc => ?_, h16, h32⟩
    rcases List.mem_cons.mp hc with rfl | h
    · simp only [isAlnumC, hma, Bool.true_or]
    · exact hr c h

theorem untilComma_id {w : Txt} (h : ∀ c ∈ w, c ≠ 44) : untilComma w = w := by
  induction w with
  | nil => rfl
  | cons c cs ih =>
    have hc := h c (by simp)
    simp [untilComma, hc, ih (fun d hd => h d (by simp [hd]))]

/-- a mnemonic of the domain has no comma: `split(",")[0]` leaves it as it is -/
theorem untilComma_mnemonic {mn : Txt} (hmn : validMnemonic mn = true) : untilComma mn = mn := by
  obtain ⟨_, _, rfl, _, hal, _, _⟩ := validMnemonic_spec hmn
  exact untilComma_id fun c hc => ne_of_not_mem rfl (hal c hc)

theorem mnemonic_ok {mn b A : Txt} (hmn : validMnemonic mn = true) (hb : AllWs b)
    (hA : ∀ c, A.head? = some c → isWs c = true ∨ ComC c = true) :
    word isMnC (mnPrefixes (b ++ (mn ++ A)).length (b ++ (mn ++ A))) = some (mn, A) := by
  obtain ⟨m, mn', rfl, hm, hal, h16, h32⟩ := validMnemonic_spec hmn
  have hmw : isWs m = false := alnum_not_ws m (hal m (by simp))
  have hsk : skipWs (b ++ (m :: mn' ++ A)) = m :: mn' ++ A :=
    skipWs_blanks_cons hb hmw
  have hAal : Stops isAlnumC A :=
    stops_word (fun c hc => (hA c hc).imp id (forall_com (P := fun c => Punct c = true) rfl rfl c)) alnum_idRest
  have hAmn : Stops isMnC A := fun c hc =>
    (hA c hc).elim (forall_ws (P := fun c => isMnC c = false) rfl rfl rfl rfl c)
      (forall_com (P := fun c => isMnC c = false) rfl rfl c)
  have hpre : mnPrefixes (b ++ (m :: mn' ++ A)).length (b ++ (m :: mn' ++ A)) = m :: mn' ++ A := by
    obtain ⟨n, hn⟩ : ∃ n, (b ++ (m :: mn' ++ A)).length = n + 1 :=
      ⟨b.length + mn'.length + A.length, by simp; omega⟩
    rw [hn]
    unfold mnPrefixes
    split
    · rename_i r heq
      rw [hsk] at heq
      have := isPrefixOf_of_append [100, 97, 116, 97, 49, 54] (m :: mn') A r (by decide) hAal heq
      rw [h16] at this; cases this
    · rename_i r heq
      rw [hsk] at heq
      have := isPrefixOf_of_append [100, 97, 116, 97, 51, 50] (m :: mn') A r (by decide) hAal heq
      rw [h32] at this; cases this
    · exact hsk
  rw [hpre]
  exact word_start (List.cons_ne_nil m mn') (fun c hc => by simp only [isMnC, hal c hc, Bool.true_or])
    (fun c hc => alnum_not_ws c (hal c hc)) hAmn

/-! ### the comment, label and directive stages fail on an instruction line -/

theorem commentStart_none {t : Txt} (h : ∀ c, nextC t = some c → c ≠ 35 ∧ c ≠ 47) : commentStart t = none := by
  unfold commentStart
  split
  · rename_i r e; exact absurd rfl (h 35 (by rw [nextC, e]; rfl)).1
  · rename_i r e; exact absurd rfl (h 47 (by rw [nextC, e]; rfl)).2
  · rfl

theorem stages_fail {mn b A : Txt} (hmn : validMnemonic mn = true) (hb : AllWs b)
    (hA : ∀ c, A.head? = some c → isWs c = true ∨ ComC c = true)
    (hA2 : ∀ c, nextC A = some c → OpStart c) :
    commentLine (b ++ (mn ++ A)) = none ∧ labelLine (b ++ (mn ++ A)) = none ∧
    directiveLine (b ++ (mn ++ A)) = none := by
  obtain ⟨m, mn', rfl, hm, hal, _, _⟩ := validMnemonic_spec hmn
  have hmw : isWs m = false := alnum_not_ws m (hal m (by simp))
  have hnx : nextC (b ++ (m :: mn' ++ A)) = some m := nextC_blanks_cons hb hmw
  refine ⟨?_, ?_, ?_⟩
  · simp only [commentLine,
      commentStart_none (nextC_forall hnx ⟨ne_of_not_mem rfl hm, ne_of_not_mem rfl hm⟩), Option.bind_none]
  · -- the label rule reads the mnemonic as a name, but no `:` follows
    have hid : identifier isLabelRest false (b ++ m :: (mn' ++ A)) = some (m :: mn', skipWs A) :=
      identifier_name (by simp only [isIdFirst, hm, Bool.true_or])
        (fun c hc => by simp only [isLabelRest, alnum_idRest c (hal c (by simp [hc])), Bool.true_or])
        (fun c hc => (hA c hc).elim
          (forall_ws (P := fun c => isLabelRest c = false ∧ c ≠ 58) (by decide) (by decide) (by decide) (by decide) c)
          (forall_com (P := fun c => isLabelRest c = false ∧ c ≠ 58) (by decide) (by decide) c))
        hb (fun c hc => (hA2 c hc).ne.1) (fun h => by cases h)
    have h58 : lit [58] (skipWs A) = none :=
      lit1_none fun c hc => (hA2 c (by rwa [nextC_skipWs] at hc)).ne.2
    simp [labelLine, hid, h58]
  · simp only [directiveLine, lit1_none (x := 46) (nextC_forall hnx (ne_of_not_mem rfl hm)), Option.bind_none]

/-! ### the round trip on a line as it stands (tabs are blanks like any other) -/

/-- every operand of a valid list is of the domain with blank layout; only the first may be bare -/
theorem validOps_spec : ∀ (i : Nat) (ops : List (OpLayout × Operand)), validOps i ops = true →
    ∀ p ∈ ops, validOperand p.2 = true ∧ p.1.blanks.all blank = true ∧ (0 < i → p.1.bare = false) := by
  intro i ops
  induction ops generalizing i with
  | nil => intro _ p hp; cases hp
  | cons q qs ih =>
    intro h p hp
    simp only [validOps, Bool.and_eq_true, Bool.or_eq_true, Bool.not_eq_true', beq_iff_eq] at h
    obtain ⟨⟨⟨⟨hv, hbl⟩, hbare⟩, _⟩, hrest⟩ := h
    rcases List.mem_cons.mp hp with rfl | h
    · exact ⟨hv, hbl, fun hi => hbare.resolve_right (by omega)⟩
    · exact ⟨(ih (i + 1) hrest p h).1, (ih (i + 1) hrest p h).2.1, fun _ => (ih (i + 1) hrest p h).2.2 (by omega)⟩

/-- **core of the round trip**: on the rendering of any instruction line of the domain, with any
    layout (blanks *and* tabs around every token), the four-stage parser — run on the text as it
    stands — returns exactly the AST that was rendered -/
theorem roundtrip_expanded (l : Line) (hv : l.valid = true) :
    parseExpanded (renderLine l) = .ok l.expected := by
  simp only [Line.valid, Bool.and_eq_true, decide_eq_true_eq] at hv
  obtain ⟨⟨⟨⟨⟨hmn, hind⟩, htr⟩, hlen⟩, hops⟩, hcm⟩ := hv
  have hb := blank_allWs hind
  obtain ⟨hEc, htail⟩ := renderEnd_tail l htr hcm
  have hE : Tail SepC (renderEnd l) := hEc.mono (forall_com rfl rfl)
  have hE44 := hEc.next_ne (x := 44) rfl
  have htxt : renderLine l = l.indent ++ (l.mn ++ (renderOps l.ops ++ renderEnd l)) := rfl
  -- facts about the text after the mnemonic, and the result of `instruction`
  have main : (∀ c, (renderOps l.ops ++ renderEnd l).head? = some c → isWs c = true ∨ ComC c = true) ∧
      (∀ c, nextC (renderOps l.ops ++ renderEnd l) = some c → OpStart c) ∧
      ((tail (restSlots 3 (opt operandFirst (renderOps l.ops ++ renderEnd l)).2).2).map fun c =>
        (l.mn, (opt operandFirst (renderOps l.ops ++ renderEnd l)).1.toList ++
          (restSlots 3 (opt operandFirst (renderOps l.ops ++ renderEnd l)).2).1, c)) =
        some (l.mn, l.ops.map (fun p => rawOp p.1 p.2), expectedComment l) := by
    cases hops' : l.ops with
    | nil =>
      simp only [renderOps, List.nil_append, List.map_nil]
      refine ⟨hEc.1, fun c hc => Or.inr (Or.inr (Or.inr (hEc.2 c hc))), ?_⟩
      have hnone : operandFirst (renderEnd l) = none := (operand_none fun c hc => hE.2 c hc).1
      have hs := slots_ok hE hE44 3 [] (by simp) (by intro p hp; cases hp) (skipWs (renderEnd l))
        (by simp [cont])
      simp only [opt, hnone, Option.toList_none, List.nil_append]
      rw [hs.1, tail_congr hs.2, htail]; rfl
    | cons p rest =>
      obtain ⟨L, o⟩ := p
      rw [hops'] at hops hlen
      simp only [validOps, Bool.and_eq_true, Bool.or_eq_true, Bool.not_eq_true', bne_iff_ne, ne_eq,
        beq_iff_eq] at hops
      obtain ⟨⟨⟨⟨hvo, hbl⟩, _⟩, hpre⟩, hrest⟩ := hops
      obtain ⟨hprew, hpostw, _⟩ := blanks_allWs hbl
      have hrok : RestOk rest := fun p hp =>
        have h := validOps_spec 1 rest hrest p hp
        ⟨h.1, h.2.1, h.2.2 Nat.one_pos⟩
      rw [renderOps_cons]
      refine ⟨?_, ?_, ?_⟩
      · intro c hc
        cases hp : L.pre with
        | nil => rw [hp] at hpre; exact absurd hpre (by simp)
        | cons d ds => rw [hp] at hc hprew; simp at hc; subst hc; exact Or.inl (hprew _ (by simp))
      · obtain ⟨d, hd, hdo⟩ := renderOperand_next L hbl o hvo (L.post ++ cont (renderEnd l) rest) hprew
        exact nextC_forall hd hdo
      · obtain ⟨r1, hr1, hfirst, _⟩ := operand_ok L hbl o hvo hprew (tail_cont hE L hpostw rest)
        have hs := slots_ok hE hE44 3 rest (by simp at hlen; omega) hrok r1
          (by rw [hr1, skipWs_append hpostw])
        simp only [opt, hfirst, Option.toList_some, List.map_cons, List.cons_append, List.nil_append]
        rw [hs.1, tail_congr hs.2, htail]; rfl
  obtain ⟨hA, hA2, hins⟩ := main
  obtain ⟨hc1, hc2, hc3⟩ := stages_fail hmn hb hA hA2
  have hword := mnemonic_ok hmn hb hA
  have hinstr : instruction (renderLine l) =
      some (l.mn, l.ops.map (fun p => rawOp p.1 p.2), expectedComment l) := by
    rw [htxt]
    unfold instruction
    rw [hword]
    simp only [Option.bind_some, untilComma_mnemonic hmn]
    exact hins
  have hpost : postOps (l.ops.map fun p => rawOp p.1 p.2) = .ok (l.ops.map (·.2)) :=
    postOps_map _ fun p hp => (validOps_spec 0 l.ops hops p hp).1
  rw [htxt] at hinstr ⊢
  simp only [parseExpanded, hc1, hc2, hc3, instructionLine, hinstr, hpost]
  rfl  -- `expectedComment l` is the `comment` field of `l.expected`

/-! ### which forms the four stages can return (independent of the round trip) -/

/-- a successful parse fills the fields of exactly one stage -/
theorem parseExpanded_forms {t : Txt} {f : Form} (h : parseExpanded t = .ok f) :
    (∃ c, f = { comment := some c }) ∨ (∃ n c, f = { label := some n, comment := c }) ∨
    (∃ n ps c, f = { directive := some (n, ps), comment := c }) ∨
    ∃ m ops c, f = { mnemonic := some m, operands := ops, comment := c } := by
  unfold parseExpanded at h
  split at h
  · cases h; exact Or.inl ⟨_, rfl⟩
  · split at h
    · cases h; exact Or.inr (Or.inl ⟨_, _, rfl⟩)
    · split at h
      · cases h; exact Or.inr (Or.inr (Or.inl ⟨_, _, _, rfl⟩))
      · unfold instructionLine at h
        split at h
        · cases h
        · split at h
          · cases h
          · cases h; exact Or.inr (Or.inr (Or.inr ⟨_, _, _, rfl⟩))

end OsacaVerif.ParseX86
