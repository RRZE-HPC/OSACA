-- Root of the library: everything the checks build.
import OsacaVerif.Props.C01
import OsacaVerif.Props.C01Oracle
import OsacaVerif.Props.C02
import OsacaVerif.Props.C03
import OsacaVerif.Props.C04
import OsacaVerif.Props.C05
import OsacaVerif.Props.C06
import OsacaVerif.Props.C12
import OsacaVerif.Props.C14
import OsacaVerif.Props.C15
import OsacaVerif.Lemmas.LCDPaths
import OsacaVerif.Lemmas.LCDNorm
import OsacaVerif.Lemmas.DGEdges
import OsacaVerif.Lemmas.Winding
import OsacaVerif.Lemmas.ScanLocal
import OsacaVerif.Lemmas.EdgeLocal
import OsacaVerif.Lemmas.StreamCycles
import OsacaVerif.Lemmas.LcdChar
import OsacaVerif.Lemmas.CycleNorm
import OsacaVerif.Driver.C01
import OsacaVerif.Driver.C12
import OsacaVerif.Driver.DGraph
import OsacaVerif.Model.Text
import OsacaVerif.Model.RegDep
import OsacaVerif.Spec.RegUniverse
import OsacaVerif.Lemmas.Text
import OsacaVerif.Lemmas.TextLit
import OsacaVerif.Lemmas.RegDep
import OsacaVerif.Lemmas.DGraph
import OsacaVerif.Lemmas.Tracking
import OsacaVerif.Lemmas.Chain
import OsacaVerif.Lemmas.CritPath
import OsacaVerif.Model.CpMark
import OsacaVerif.Lemmas.CpRepaired
import OsacaVerif.Model.History
import OsacaVerif.Model.HistoryGen
import OsacaVerif.Spec.HistoryIndep
import OsacaVerif.Lemmas.History
import OsacaVerif.Props.C18
import OsacaVerif.Model.Cache
import OsacaVerif.Model.CacheName
import OsacaVerif.Spec.CacheSpec
import OsacaVerif.Lemmas.Cache
import OsacaVerif.Lemmas.CacheName
import OsacaVerif.Props.C17
import OsacaVerif.Model.ImportText
import OsacaVerif.Model.ImportTypes
import OsacaVerif.Model.Import
import OsacaVerif.Spec.ImportSpec
import OsacaVerif.Lemmas.ImportNum
import OsacaVerif.Lemmas.ImportDecode
import OsacaVerif.Lemmas.ImportFlow
import OsacaVerif.Lemmas.ImportTextL
import OsacaVerif.Props.C20
import OsacaVerif.Model.PyInt
import OsacaVerif.Model.Marker
import OsacaVerif.Spec.KernelSelect
import OsacaVerif.Lemmas.PyInt
import OsacaVerif.Lemmas.Marker
import OsacaVerif.Props.C11
import OsacaVerif.Model.Fmt
import OsacaVerif.Model.Report
import OsacaVerif.Model.ReportView
import OsacaVerif.Spec.ReportView
import OsacaVerif.Lemmas.Fmt
import OsacaVerif.Lemmas.Report
import OsacaVerif.Lemmas.ReportTable
import OsacaVerif.Lemmas.ReportLcd
import OsacaVerif.Props.C13
import OsacaVerif.Gen.WorkersConsts
import OsacaVerif.Model.Workers
import OsacaVerif.Model.LcdPost
import OsacaVerif.Spec.LcdSet
import OsacaVerif.Lemmas.Workers
import OsacaVerif.Lemmas.LcdPost
import OsacaVerif.Props.C16
import OsacaVerif.Props.C19
import OsacaVerif.Spec.X86Ast
import OsacaVerif.Model.ParseX86
import OsacaVerif.Spec.X86Render
import OsacaVerif.Lemmas.ParseX86Tok
import OsacaVerif.Lemmas.ParseX86Op
import OsacaVerif.Lemmas.ParseX86Line
import OsacaVerif.Lemmas.ParseX86File
import OsacaVerif.Lemmas.ParseX86Tabs
import OsacaVerif.Props.C09
import OsacaVerif.Model.ParseA64
import OsacaVerif.Props.C10
import OsacaVerif.Model.A64Types
import OsacaVerif.Spec.RenderA64
import OsacaVerif.Spec.FileLinesA64
import OsacaVerif.Lemmas.A64Num
import OsacaVerif.Lemmas.A64Prim
import OsacaVerif.Lemmas.A64Operand
import OsacaVerif.Lemmas.A64Line
import OsacaVerif.Lemmas.A64Render
import OsacaVerif.Lemmas.A64Kinds
import OsacaVerif.Lemmas.A64File
import OsacaVerif.Lemmas.A64Vector
import OsacaVerif.Lemmas.A64Head
import OsacaVerif.Lemmas.A64Mem
import OsacaVerif.Lemmas.A64Pred
import OsacaVerif.Lemmas.A64Prf
import OsacaVerif.Lemmas.A64Shimm
import OsacaVerif.Lemmas.A64Float
import OsacaVerif.Lemmas.A64Ident
import OsacaVerif.Lemmas.A64List
import OsacaVerif.Model.A64Domain
import OsacaVerif.Lemmas.A64DomainSound
import OsacaVerif.Props.C07
import OsacaVerif.Props.C08
import OsacaVerif.Driver.C07
import OsacaVerif.Props.C03Roles
import OsacaVerif.Lemmas.Roles
import OsacaVerif.Model.IsaLoad
import OsacaVerif.Driver.Roles
import OsacaVerif.Spec.Assignment
import OsacaVerif.Lemmas.Duality
import OsacaVerif.Props.C02Duality
import OsacaVerif.Model.Pipeline
import OsacaVerif.Lemmas.PipelineRen
import OsacaVerif.Lemmas.PipelineNoise
import OsacaVerif.Lemmas.Pipeline
import OsacaVerif.Props.C11Pipeline
import OsacaVerif.Driver.Pipeline
import OsacaVerif.Model.Glue
import OsacaVerif.Model.EndToEnd
import OsacaVerif.Driver.EndToEnd
import OsacaVerif.Lemmas.EndToEndFile
import OsacaVerif.Lemmas.EndToEnd
import OsacaVerif.Lemmas.EndToEndReport
import OsacaVerif.Lemmas.EndToEndGlue
import OsacaVerif.Props.EndToEnd
import OsacaVerif.Props.EndToEndA64
import OsacaVerif.Lemmas.EndToEndOpt
import OsacaVerif.Props.EndToEndOpt
